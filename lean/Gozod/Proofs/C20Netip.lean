/-
  C20 — validator side of CIDRv4: the transcription of `netip.ParsePrefix` + `Addr().Is4()` from the Go source
  (Model/GoNetip.lean) accepts exactly the strings of the definition `Fmt.cidrv4`, for all strings (`c20_cidrv4_netip`).

  The loop of `parseIPv4Fields` (val, pos, digLen, the previous byte, the eager "trailing dot" test) simulates the IPv4
  automaton under the loop invariant `FInv` (`ipv4Fields_run`), and what that automaton accepts is handed to `parseIPv4` by
  `ParseAddr`'s dispatch (`addrKind_of_run`).  The rest is the definition's own cut at the last '/' (`cidr_split`,
  Proofs/C20Addr4.lean), which is `ParsePrefix`'s, and `Netip.prefixBits` on both sides.
-/
import Gozod.Proofs.C20Addr4
namespace Gozod.C20
open Gozod Gozod.Fmt

/-- the loop invariant of `parseIPv4Fields` at `s[i:] = rest`: at most three dots so far; a field value 0 has one digit at most (the
    leading-zero test); `digLen = 0` exactly at the start and after a '.'; and after a '.' the string goes on (Go tests the
    trailing dot eagerly, when it reads the dot) -/
def FInv (val pos digLen : Nat) (prev : Option Nat) (rest : List Nat) : Prop :=
  pos ≤ 3 ∧ (val = 0 → digLen ≤ 1) ∧ (digLen = 0 → val = 0) ∧ (digLen = 0 ↔ (prev = none ∨ prev = some 46)) ∧
  (digLen = 0 → pos > 0 → rest ≠ [])

theorem FInv0 (s : List Nat) : FInv 0 0 0 none s :=
  ⟨by omega, fun _ => by omega, fun _ => rfl, ⟨fun _ => Or.inl rfl, fun _ => rfl⟩, fun _ h => by omega⟩

theorem ipv4Fields_run : ∀ (rest : List Nat) (val pos digLen : Nat) (prev : Option Nat), FInv val pos digLen prev rest →
    Netip.ipv4Fields val pos digLen prev rest = run4 (some ⟨pos, digLen, val⟩) rest
  | [], val, pos, digLen, prev, ⟨h1, _, _, _, h5⟩ => by
    simp only [Netip.ipv4Fields, run4, List.foldl_nil, acc4]
    by_cases hp : pos = 3
    · have hd : digLen ≠ 0 := fun h => h5 h (by omega) rfl
      have : digLen ≥ 1 := by omega
      simp [hp, this]
    · have : pos < 3 := by omega
      simp [this, hp]
  | c :: rest, val, pos, digLen, prev, ⟨h1, h2, h3, h4, h5⟩ => by
    rw [run4_cons]
    by_cases hd : isDigit c = true
    · have hc46 : c ≠ 46 := by have := (isDigit_iff c).1 hd; omega
      have hd9 : c - 48 ≤ 9 := digit_le hd
      have hprev : digLen + 1 = 0 ↔ (some c = none ∨ some c = some 46) :=
        ⟨by omega, fun h => by rcases h with h | h; cases h; exact absurd (Option.some.inj h) hc46⟩
      rw [g4_digit hd]
      simp only [Netip.ipv4Fields, hd, if_true, DotSt.digit]
      by_cases hlz : digLen = 1 ∧ val = 0
      · obtain ⟨hl1, hl2⟩ := hlz
        subst hl1 hl2
        simp [run4_none]
      · rw [if_neg hlz]
        by_cases hn : digLen = 0
        · have hv : val = 0 := h3 hn
          have hle : ¬ val * 10 + (c - 48) > 255 := by omega
          rw [if_neg hle, if_pos hn,
            ipv4Fields_run rest _ pos (digLen + 1) (some c) ⟨h1, by omega, by omega, hprev, by omega⟩]
          simp [hn, hv]
        · have hv : ¬ val = 0 := by intro h; have := h2 h; omega
          rw [if_neg hn, if_neg hv]
          by_cases hbig : val * 10 + (c - 48) > 255
          · have : ¬ val * 10 + (c - 48) ≤ 255 := by omega
            rw [if_pos hbig, if_neg this, run4_none]
          · have : val * 10 + (c - 48) ≤ 255 := by omega
            rw [if_neg hbig, if_pos this]
            exact ipv4Fields_run rest _ pos (digLen + 1) (some c) ⟨h1, by omega, by omega, hprev, by omega⟩
    · by_cases hc : c = 46
      · subst hc
        rw [g4_dot]
        simp only [Netip.ipv4Fields, hd, Bool.false_eq_true, if_false, if_true]
        by_cases hn : digLen = 0
        · have hp : prev = none ∨ prev = some 46 := h4.1 hn
          have : prev = none ∨ rest.isEmpty = true ∨ prev = some 46 := by rcases hp with h | h; exact Or.inl h; exact Or.inr (Or.inr h)
          have hno : ¬ (digLen ≥ 1 ∧ pos < 3) := by omega
          rw [if_pos this, if_neg hno, run4_none]
        · have hp : ¬ (prev = none ∨ prev = some 46) := fun h => hn (h4.2 h)
          cases rest with
          | nil =>
            have : prev = none ∨ ([] : List Nat).isEmpty = true ∨ prev = some 46 := Or.inr (Or.inl rfl)
            rw [if_pos this]
            by_cases hk : digLen ≥ 1 ∧ pos < 3
            · rw [if_pos hk]; simp [run4, acc4]
            · rw [if_neg hk, run4_none]
          | cons d rest =>
            have : ¬ (prev = none ∨ (d :: rest).isEmpty = true ∨ prev = some 46) := by
              intro h; rcases h with h | h | h
              · exact hp (Or.inl h)
              · cases h
              · exact hp (Or.inr h)
            rw [if_neg this]
            by_cases hp3 : pos = 3
            · have hno : ¬ (digLen ≥ 1 ∧ pos < 3) := by omega
              rw [if_pos hp3, if_neg hno, run4_none]
            · have hk : digLen ≥ 1 ∧ pos < 3 := by omega
              rw [if_neg hp3, if_pos hk]
              exact ipv4Fields_run (d :: rest) 0 (pos + 1) 0 (some 46)
                ⟨by omega, by omega, fun _ => rfl, ⟨fun _ => Or.inr rfl, fun _ => rfl⟩, fun _ _ => by simp⟩
      · rw [g4_other hc hd, run4_none]
        simp [Netip.ipv4Fields, hd, hc]

/-- what the IPv4 automaton accepts contains a '.', and no ':' or '%' before it: `ParseAddr` hands it to `parseIPv4` -/
theorem addrKind_of_run : ∀ (a : List Nat) (q : DotSt), q.k < 3 → run4 (some q) a = true → Netip.addrKind a = 4
  | [], q, hk, h => by
    simp only [run4, List.foldl_nil, acc4, decide_eq_true_eq] at h; omega
  | c :: a, q, hk, h => by
    rw [run4_cons] at h
    by_cases hc : c = 46
    · simp [Netip.addrKind, hc]
    · by_cases hd : isDigit c = true
      · have hr := (isDigit_iff c).1 hd
        have h58 : c ≠ 58 := by omega
        have h37 : c ≠ 37 := by omega
        simp only [Netip.addrKind, hc, h58, h37, if_false]
        cases hq : g4 (some q) c with
        | none => rw [hq, run4_none] at h; cases h
        | some q' =>
          rw [hq] at h
          rw [g4_digit hd] at hq
          exact addrKind_of_run a q' (digit_k hq ▸ hk) h
      · rw [g4_other hc hd, run4_none] at h; cases h

theorem parseAddrIs4_run (a : List Nat) : Netip.parseAddrIs4 a = Fmt.ipv4.run a := by
  unfold Netip.parseAddrIs4
  rw [ipv4Fields_run a 0 0 0 none (FInv0 a), run4_spec]
  cases hr : run4 (some ⟨0, 0, 0⟩) a with
  | false => simp
  | true => simp [addrKind_of_run a ⟨0, 0, 0⟩ (by decide) hr]

/-- validate.CIDRv4 (`netip.ParsePrefix` ∧ `Is4`, transcribed from the Go source) accepts exactly the strings of the definition:
    a dotted quad of octets 0–255 without leading zeros, '/', a canonical decimal 0–32 — for all strings -/
theorem c20_cidrv4_netip : ∀ s, Netip.cidrv4 s = Fmt.cidrv4.run s := by
  intro s
  rw [cidrv4_split]
  unfold Netip.cidrv4
  cases Netip.cutLastSlash s with
  | none => rfl
  | some p => simp only [parseAddrIs4_run]

example : Netip.cidrv4 [49, 48, 46, 48, 46, 48, 46, 48, 47, 56] = true ∧            -- "10.0.0.0/8"
    Netip.cidrv4 [49, 48, 46, 48, 46, 48, 46, 48, 47, 51, 51] = false ∧             -- "10.0.0.0/33"
    Netip.cidrv4 [49, 48, 46, 48, 46, 48, 46, 48, 47, 48, 56] = false ∧             -- "10.0.0.0/08"
    Netip.cidrv4 [49, 46, 50, 46, 51, 46, 48, 52, 47, 56] = false ∧                 -- "1.2.3.04/8"
    Netip.cidrv4 [49, 46, 50, 46, 51, 46, 47, 56] = false ∧                         -- "1.2.3./8"
    Netip.cidrv4 [58, 58, 49, 46, 50, 46, 51, 46, 52, 47, 56] = false ∧             -- "::1.2.3.4/8"
    Netip.cidrv4 [49, 46, 50, 46, 51, 46, 52, 47, 43, 56] = false := by decide      -- "1.2.3.4/+8"

end Gozod.C20
