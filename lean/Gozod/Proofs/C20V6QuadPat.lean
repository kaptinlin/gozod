/-
  C20 — the two alternatives of `regex.IPv6` that take a dotted quad: a hex part the pattern knows (`Known`), then four
  octet patterns separated by '.' (`Dotted`, Proofs/C20Fields.lean).
-/
import Gozod.Proofs.C20V6Hex
namespace Gozod.C20
open Gozod.Re
open Gozod.Parsers (isHextet)

/-- the hex parts the pattern knows before a dotted quad: "::", "::ffff:", "::ffff:" zeros ":", one to four groups and "::" -/
def Known (p : List Nat) : Prop :=
  p = [58, 58] ∨ p = [58, 58, 102, 102, 102, 102, 58] ∨
  (∃ n, 1 ≤ n ∧ n ≤ 4 ∧ p = [58, 58, 102, 102, 102, 102, 58] ++ List.replicate n 48 ++ [58]) ∨
  ∃ i a, 1 ≤ i ∧ i ≤ 4 ∧ Rep GC i a ∧ p = a ++ [58]

/-- `0{1,4}` -/
theorem accepts_zeros (z : List Nat) :
    accepts (seqs [.cls [(48, 48)], Gen.ipv6.s52]) z = true ↔ ∃ n, 1 ≤ n ∧ n ≤ 4 ∧ z = List.replicate n 48 := by
  rw [show seqs [.cls [(48, 48)], Gen.ipv6.s52] = upTo [.cls [(48, 48)]] 3 from rfl, accepts_upTo (List.cons_ne_nil _ _)]
  simp only [show seqs [Re.cls [(48, 48)]] = .cls [(48, 48)] from rfl, rep_cls, List.eq_replicate_iff, List.all_eq_true, inRanges_byte,
    decide_eq_true_eq]

/-- `::(ffff(:0{1,4})?:)?` -/
theorem pat_known_ell (p : List Nat) : accepts (seqs [colon, colon, Gen.ipv6.s56]) p = true ↔
    p = [58, 58] ∨ p = [58, 58, 102, 102, 102, 102, 58] ∨
    ∃ n, 1 ≤ n ∧ n ≤ 4 ∧ p = [58, 58, 102, 102, 102, 102, 58] ++ List.replicate n 48 ++ [58] := by
  show accepts (seq colon (seq colon (alt (seq (.cls [(102, 102)]) (seq (.cls [(102, 102)]) (seq (.cls [(102, 102)]) (seq (.cls [(102, 102)])
    (seq (alt (seq colon (seqs [.cls [(48, 48)], Gen.ipv6.s52])) eps) colon))))) eps))) p = true ↔ _
  simp only [accepts_byte_seq, accepts_alt]
  simp only [accepts_seq, accepts_alt, accepts_zeros, accepts_byte, accepts_eps, List.isEmpty_iff]
  constructor
  · rintro ⟨_, rfl, _, rfl, ⟨_, rfl, _, rfl, _, rfl, _, rfl, _, _, rfl, ⟨_, _, rfl, rfl, n, h1, h4, rfl⟩ | rfl, rfl⟩ | rfl⟩
    · exact Or.inr (Or.inr ⟨n, h1, h4, by simp⟩)
    · exact Or.inr (Or.inl rfl)
    · exact Or.inl rfl
  · rintro (rfl | rfl | ⟨n, h1, h4, rfl⟩)
    · exact ⟨_, rfl, _, rfl, Or.inr rfl⟩
    · exact ⟨_, rfl, _, rfl, Or.inl ⟨_, rfl, _, rfl, _, rfl, _, rfl, [], [58], rfl, Or.inr rfl, rfl⟩⟩
    · exact ⟨_, rfl, _, rfl, Or.inl ⟨_, rfl, _, rfl, _, rfl, _, rfl, 58 :: List.replicate n 48, [58], by simp,
        Or.inl ⟨[58], _, rfl, rfl, n, h1, h4, rfl⟩, rfl⟩⟩

/-- `::(ffff(:0{1,4})?:)?` quad, and `(group ':'){1,4} ':'` quad -/
theorem pat_quad (s : List Nat) : (accepts Gen.ipv6.s61 s = true ∨ accepts Gen.ipv6.s62 s = true) ↔
    ∃ p q, s = p ++ q ∧ Known p ∧ Dotted (fun b => accepts Gen.ipv6.s60 b = true) q := by
  rw [show accepts Gen.ipv6.s61 s = _ from accepts_seqs_append [colon, colon, Gen.ipv6.s56] _ (List.cons_ne_nil _ _) s,
    show accepts Gen.ipv6.s62 s = accepts (seq (upTo gcRe 3) (seq colon _)) s from
      accepts_seqs_append [hexCls, Gen.ipv6.s3, colon, Gen.ipv6.s10] _ (List.cons_ne_nil _ _) s,
    accepts_seq, accepts_seq_byte]
  simp only [pat_known_ell, accepts_upTo_gc, accepts_dotted]
  constructor
  · rintro (⟨p, q, rfl, hp, hq⟩ | ⟨a, q, rfl, ⟨i, h1, h4, ha⟩, hq⟩)
    · exact ⟨p, q, rfl, hp.elim Or.inl fun h => Or.inr (h.elim Or.inl fun h => Or.inr (Or.inl h)), hq⟩
    · exact ⟨a ++ [58], q, by simp, Or.inr (Or.inr (Or.inr ⟨i, a, h1, h4, ha, rfl⟩)), hq⟩
  · rintro ⟨p, q, rfl, h | h | h | ⟨i, a, h1, h4, ha, rfl⟩, hq⟩
    · exact Or.inl ⟨p, q, rfl, Or.inl h, hq⟩
    · exact Or.inl ⟨p, q, rfl, Or.inr (Or.inl h), hq⟩
    · exact Or.inl ⟨p, q, rfl, Or.inr (Or.inr h), hq⟩
    · exact Or.inr ⟨a, q, by simp, ⟨i, h1, h4, ha⟩, hq⟩

theorem hextet_zeros {n : Nat} (h1 : 1 ≤ n) (h4 : n ≤ 4) : isHextet (List.replicate n 48) = true :=
  (isHextet_iff _).2 ⟨by cases n <;> simp_all, by simpa using h4, by simp; exact Or.inr (by decide)⟩

theorem Known.quadHex {p : List Nat} (h : Known p) : QuadHex p := by
  have ffff : GC [102, 102, 102, 102, 58] := ⟨[102, 102, 102, 102], by decide, rfl⟩
  have ell : BeforeEll 0 [58] := by rw [BeforeEll, if_pos rfl]
  rcases h with rfl | rfl | ⟨n, h1, h4, rfl⟩ | ⟨i, a, h1, h4, ha, rfl⟩
  · exact Or.inr ⟨0, 0, [58], [], rfl, ell, rfl, by decide⟩
  · exact Or.inr ⟨0, 1, [58], _, rfl, ell, Rep.one ffff, by decide⟩
  · exact Or.inr ⟨0, 2, [58], [102, 102, 102, 102, 58] ++ (List.replicate n 48 ++ [58]), by simp, ell,
      Rep.cons ffff (Rep.one ⟨_, hextet_zeros h1 h4, rfl⟩), by decide⟩
  · exact Or.inr ⟨i, 0, a, [], rfl, by rw [BeforeEll, if_neg (by omega)]; exact ha, rfl, by omega⟩

end Gozod.C20
