/-
  C14 — schemas, the registry and global config are safe under concurrent use.   (PARTIAL)

   * shared schema state: by the C08/C12/C15 frame theorems every operation class on schemas (chaining call,
     ToJSONSchema, Parse handing out a default) writes only locations it allocated itself, which no other goroutine
     can reach before the call returns; locations that existed before the call are only read.
   * process-wide and lazily written state (registry, config, priority counter, regex caches, lazy cache, locale
     table): the access table regenerated from the sources (`Gozod.Gen.LockSets.table`) is race-free — any two
     accesses to one location are both reads, both atomic, ordered by one sync.Once, or inside critical sections
     of one mutex.
  Trusted, not modelled: the Go memory model, sync primitives, the scheduler.  Deadlock freedom of the library's own
  locking is C14Order.lean, "result equals the run-alone result" for the registry and configuration protocols
  C14Lin.lean; for everything else both are checked only by the -race harness.
-/
import Gozod.Model.LockSet
import Gozod.Gen.LockSets
import Gozod.Proofs.C12
import Gozod.Proofs.C15

namespace Gozod.C14
open Gozod.LockSet Gozod.Store

/-- locations left out as open findings: none in /repo HEAD -/
def knownRacy : List String := LockSet.knownRacy

theorem raceFree_iff (t : List Access) :
    raceFree t = true ↔ ∀ a ∈ t, ∀ b ∈ t, a.loc = b.loc → ok a b = true := by
  simp only [raceFree, List.all_eq_true, Bool.or_eq_true, bne_iff_ne, ne_eq, Decidable.imp_iff_not_or]

theorem raceFree_filter (p : Access → Bool) (t : List Access) (h : raceFree t = true) :
    raceFree (t.filter p) = true :=
  (raceFree_iff _).2 fun a ha b hb =>
    (raceFree_iff t).1 h a (List.mem_filter.1 ha).1 b (List.mem_filter.1 hb).1

theorem c14_racefree_table : raceFree (without knownRacy Gen.LockSets.table) = true := by decide +kernel

theorem c14_racefree (a b : Access)
    (ha : a ∈ without knownRacy Gen.LockSets.table) (hb : b ∈ without knownRacy Gen.LockSets.table)
    (hl : a.loc = b.loc) : ok a b = true :=
  (raceFree_iff _).1 c14_racefree_table a ha b hb hl

theorem raceFree_only (loc : String) : raceFree (only loc Gen.LockSets.table) = true := by
  have h := c14_racefree_table
  have hw : without knownRacy Gen.LockSets.table = Gen.LockSets.table := List.filter_eq_self.2 fun _ _ => rfl
  rw [hw] at h
  exact raceFree_filter _ _ h

theorem sameOnce_comm (s s' : Sync) : sameOnce s s' = sameOnce s' s := by
  cases s <;> cases s' <;> try rfl
  exact BEq.comm

theorem ok_comm (x y : Access) : ok x y = ok y x := by
  simp only [ok, sameOnce_comm x.sync, Bool.and_comm (!x.write), Bool.and_comm (x.sync == .atomic)]
  cases mutexOf x.sync with
  | none => cases mutexOf y.sync <;> rfl
  | some m =>
    cases mutexOf y.sync with
    | none => rfl
    | some n => simp only [BEq.comm (a := m), Bool.and_right_comm]

/-- `conflicts` (what the driver reports when the table proof breaks, to aim the race harness) is complete:
    a table without conflicts is race-free. -/
theorem conflicts_complete (t : List Access) (h : conflicts t = []) : raceFree t = true := by
  -- a pair that is not `ok`, taken with the smaller function name first, is a cell of `conflicts t`
  have key : ∀ x ∈ t, ∀ y ∈ t, x.loc = y.loc → x.fn ≤ y.fn → ok x y = true := by
    intro x hx y hy hxy hle
    cases hok : ok x y with
    | true => rfl
    | false =>
      have hm : (x.loc, x.fn, y.fn) ∈ conflicts t := by
        unfold conflicts
        rw [List.mem_eraseDups]
        refine List.mem_flatMap.2 ⟨x, hx, List.mem_map.2 ⟨y, List.mem_filter.2 ⟨hy, ?_⟩, ?_⟩⟩
        · simp [hxy, hok, hle]
        · simp [hxy]
      rw [h] at hm
      exact absurd hm List.not_mem_nil
  refine (raceFree_iff t).2 fun a ha b hb hl => ?_
  rcases String.le_total a.fn b.fn with hle | hle
  · exact key a ha b hb hl hle
  · exact ok_comm b a ▸ key b hb a ha hl.symm hle

example : (without knownRacy Gen.LockSets.table).length ≥ 10 := by decide +kernel

/-- the access table of the locale map before `fix: guard DefaultLocales with a RWMutex` -/
def legacyLocales : List Access := [
  ⟨"locales.AvailableLocales", "locales.DefaultLocales", false, .none⟩,
  ⟨"locales.LocaleFormatter", "locales.DefaultLocales", false, .none⟩,
  ⟨"locales.RegisterLocale", "locales.DefaultLocales", true, .none⟩,
  ⟨"locales.ValidateLocaleList", "locales.DefaultLocales", false, .none⟩]

/-- Witness (legacy code): `locales.RegisterLocale` wrote the global locale table with no lock while the formatters read it. -/
theorem locales_unsynchronised : raceFree legacyLocales = false := by decide +kernel

/-- in /repo HEAD the locale table is accessed under one RWMutex, writers in W mode -/
theorem locales_synchronised : raceFree (only "locales.DefaultLocales" Gen.LockSets.table) = true ∧
    (only "locales.DefaultLocales" Gen.LockSets.table).length ≥ 4 :=
  ⟨raceFree_only _, by decide +kernel⟩

/-- two accesses under DIFFERENT sync.Once objects are not ordered: `ok` asks for the same Once -/
theorem once_needs_same_once :
    ok ⟨"f", "x", true, .once "p.A.once"⟩ ⟨"g", "x", false, .once "p.B.once"⟩ = false ∧
    ok ⟨"f", "x", true, .once "p.A.once"⟩ ⟨"g", "x", false, .once "p.A.once"⟩ = true := by decide +kernel

/-- the access rows of the lazy cache before `fix: the lazy schema's cached inner schema is an atomic.Pointer` -/
def legacyLazy : List Access := [
  ⟨"types.ZodLazy.cloneState", "types.ZodLazyInternals.innerType", false, .none⟩,
  ⟨"types.ZodLazy.resolveInner", "types.ZodLazyInternals.innerType", false, .once "types.ZodLazyInternals.once"⟩,
  ⟨"types.ZodLazy.resolveInner", "types.ZodLazyInternals.innerType", true, .once "types.ZodLazyInternals.once"⟩]

/-- Witness (legacy code): every chaining call on a lazy schema read the cached inner schema (`cloneState`)
    with no synchronisation, while the first Parse wrote it inside `once.Do`. -/
theorem lazy_cache_unsynchronised : raceFree legacyLazy = false := by decide +kernel

/-- in /repo HEAD the lazy cache is an atomic.Pointer: every access in the regenerated table is atomic -/
theorem lazy_cache_synchronised : raceFree (only "types.ZodLazyInternals.innerType" Gen.LockSets.table) = true ∧
    (only "types.ZodLazyInternals.innerType" Gen.LockSets.table).length ≥ 3 :=
  ⟨raceFree_only _, by decide +kernel⟩

inductive SOp
  | chain (op : Op)        -- any chaining method (the legacy class `metaSelf` excluded: what Meta() on non-string types did before /repo 6ba76b8)
  | conv                   -- ToJSONSchema
  | parseNil               -- Parse(nil) resolving a default (the only Parse path that allocates schema-derived data)

def runS (cfg : Cfg) (σ : Store) (s : Schema) : SOp → Store
  | .chain op => (applyOp cfg σ s op).1
  | .conv => (convert cfg σ s).1
  | .parseNil => (Store.parseNil cfg σ s).1

/-- on the repaired code, whatever operation a goroutine runs on a shared schema, every location that existed when
    it started holds the same contents when it ends: its writes all go to locations ≥ σ.next, which it allocated
    itself.  Concurrent operations therefore conflict on no schema location.
    (The `.conv` case is about `Store.convert`, which under `convScratch` is pure by its definition; the converter of
    /repo is tied to that by the write-site table: `C12Doc.c12_trace_pure`, `c14_convert_table_private`.) -/
theorem c14_schema_ops_read_only (cfg : Cfg) (h1 : cfg.cloneBagAlways = true) (h2 : cfg.convScratch = true)
    (h3 : cfg.deepDefault = true) (σ : Store) (s : Schema) (o : SOp)
    (hc : BagClosed σ) (hw : WfS σ s) (hd : C15.WfD σ.next σ.heap s)
    (hok : match o with | .chain op => Op.ok op ∧ op.isMetaSelf = false | _ => True) :
    ExtFrom σ.next σ (runS cfg σ s o) := by
  cases o with
  | chain op => exact (C08.applyOp_spec cfg h1 σ s op hc hw hok.1 hok.2).1
  | conv => simp only [runS]; rw [(C12.c12_pure cfg h2 σ s).1]; exact ExtFrom.refl _ _
  | parseNil => exact (C15.c15_result_fresh cfg h3 σ s hd).1

end Gozod.C14
