/-
  C20 — validator side of Base64URL: `validate.Base64URL` = `regex.Base64URL.MatchString(s)` ∧ the length rule
  (`strings.HasSuffix(s, "=")` → `len(s)%4 == 0`, else `len(s)%4 != 1`, transcribed as `Parsers.goBase64URLLen`).

  From the certificate of the pattern (`c20_base64url_pattern_partial`: the pattern is the definition outside `base64urlBadLen`)
  and one fact about an automaton that keeps the length modulo 4 and whether the last byte is a pad: the length rule is a
  function of its state (`goLen_of_run`).  The definition's automaton is one, and its acceptance condition is that function
  (`base64url_len`); the excluded region's automaton is another, and what it accepts breaks the rule (`badLen_len`).
-/
import Gozod.Proofs.C20
import Gozod.Gen.Regexes
namespace Gozod.C20
open Gozod Gozod.Re Gozod.Fmt Gozod.Parsers

/-- `lp`: the answer for the empty string -/
def lastIsPad : Bool → List Nat → Bool
  | lp, [] => lp
  | _, c :: s => lastIsPad (c == 61) s

theorem lastIsPad_getLast : ∀ (s : List Nat) (lp : Bool),
    lastIsPad lp s = (match s.getLast? with | some c => c == 61 | none => lp)
  | [], _ => rfl
  | [c], _ => rfl
  | c :: d :: s, lp => by
    have ih := lastIsPad_getLast (d :: s) (c == 61)
    simp only [lastIsPad] at ih ⊢
    rw [ih, List.getLast?_cons_cons]
    cases h : (d :: s).getLast? with
    | none => simp at h
    | some x => rfl

theorem goLen_eq (s : List Nat) :
    goBase64URLLen s = if lastIsPad false s then decide (s.length % 4 = 0) else decide (s.length % 4 ≠ 1) := by
  unfold goBase64URLLen
  rw [lastIsPad_getLast]
  cases h : s.getLast? with
  | none => simp
  | some c => by_cases hc : c = 61 <;> simp [hc]

theorem b64_run_inv (S : Spec) (I : S.State → Nat → Bool → Prop)
    (hstep : ∀ q len lp c q', I q len lp → S.step q c = some q' → I q' (len + 1) (c == 61)) :
    ∀ (s : List Nat) (q : S.State) (len : Nat) (lp : Bool) (q' : S.State), I q len lp →
      s.foldl S.gstep (some q) = some q' → I q' (len + s.length) (lastIsPad lp s)
  | [], q, len, lp, q', hi, h => by simp only [List.foldl_nil, Option.some.injEq] at h; subst h; exact hi
  | c :: s, q, len, lp, q', hi, h => by
    simp only [List.foldl_cons] at h
    cases hg : S.gstep (some q) c with
    | none =>
      rw [hg, S.foldl_gstep_none] at h; cases h
    | some q1 =>
      rw [hg] at h
      have := b64_run_inv S I hstep s q1 (len + 1) (c == 61) q' (hstep q len lp c q1 hi (Spec.gstep_eq_some hg).2) h
      simp only [List.length_cons, lastIsPad]
      rw [show len + (s.length + 1) = len + 1 + s.length by omega]
      exact this

theorem goLen_of_run (S : Spec) (cnt pad : S.State → Nat) (h0 : cnt S.init = 0 ∧ pad S.init = 0)
    (hstep : ∀ q c q', S.step q c = some q' → cnt q' = (cnt q + 1) % 4 ∧ (pad q' > 0 ↔ c = 61))
    {s : List Nat} {q : S.State} (hr : s.foldl S.gstep (some S.init) = some q) :
    goBase64URLLen s = if pad q = 0 then decide (cnt q ≠ 1) else decide (cnt q = 0) := by
  obtain ⟨h1, h2⟩ := b64_run_inv S (fun q len lp => cnt q = len % 4 ∧ (lp = true ↔ pad q > 0))
    (fun q len lp c q' hi hs => by
      obtain ⟨e1, e2⟩ := hstep q c q' hs
      exact ⟨by rw [e1, hi.1]; omega, by rw [e2]; simp⟩)
    s S.init 0 false q ⟨h0.1, by rw [h0.2]; decide⟩ hr
  rw [Nat.zero_add] at h1
  rw [goLen_eq, h1]
  cases hl : lastIsPad false s with
  | true => rw [if_pos rfl, if_neg (by have := h2.1 hl; omega)]
  | false =>
    have hp : pad q = 0 := Nat.eq_zero_of_not_pos fun hp => by rw [h2.2 hp] at hl; cases hl
    rw [if_neg Bool.false_ne_true, if_pos hp]

theorem base64url_len (s : List Nat) (h : base64url.run s = true) : goBase64URLLen s = true := by
  obtain ⟨q, hr, hacc⟩ := Spec.run_state _ h
  rw [goLen_of_run base64url (·.n) (·.p) ⟨rfl, rfl⟩ (fun q c q' hs => ?_) hr]
  · exact hacc
  · obtain ⟨n, p⟩ := q
    simp only [base64url, b64Step] at hs
    split at hs
    · next hc =>
      split at hs
      · next ha => cases hs; simp [hc, ha.1]
      · split at hs
        · next hb => cases hs; simp [hc, hb]
        · cases hs
    · next hc =>
      split at hs
      · cases hs; simp [hc]
      · cases hs

theorem badLen_len (s : List Nat) (h : base64urlBadLen.run s = true) : goBase64URLLen s = false := by
  obtain ⟨⟨n, p⟩, hr, hacc⟩ := Spec.run_state _ h
  rw [goLen_of_run base64urlBadLen (fun q => (q.n + q.p) % 4) (·.p) ⟨rfl, rfl⟩ (fun q c q' hs => ?_) hr]
  · simp only [base64urlBadLen] at hacc ⊢
    split at hacc
    · next hp => rw [if_pos hp]; simp only [decide_eq_true_eq] at hacc; simp [hacc, hp]
    · next hp => rw [if_neg hp]; simpa using hacc
  · obtain ⟨n, p⟩ := q
    simp only [base64urlBadLen] at hs
    split at hs
    · next hc =>
      split at hs
      · cases hs; simp [hc]; omega
      · cases hs
    · next hc =>
      split at hs
      · next hp => cases hs; simp [hc, hp]
      · cases hs

/-- validate.Base64URL (the pattern ∧ the length rule) accepts exactly the RFC 4648 §5 strings, for all strings -/
theorem c20_base64url : ∀ s, (accepts Gen.val_base64url s && goBase64URLLen s) = base64url.run s := by
  intro s
  have e : Gen.val_base64url = Gen.pat_base64url := rfl
  rw [e]
  cases he : base64urlBadLen.run s with
  | false =>
    rw [c20_base64url_pattern_partial s he]
    cases hp : base64url.run s with
    | false => rfl
    | true => rw [base64url_len s hp]; rfl
  | true =>
    rw [badLen_len s he, Bool.and_false]
    cases hp : base64url.run s with
    | false => rfl
    | true => have := base64url_len s hp; rw [badLen_len s he] at this; cases this

example : goBase64URLLen (b! "QUJDRA") = true ∧ goBase64URLLen (b! "A") = false ∧ goBase64URLLen (b! "QUI=") = true ∧
    goBase64URLLen (b! "AB=") = false ∧ (accepts Gen.val_base64url (b! "A=") && goBase64URLLen (b! "A=")) = false ∧
    base64url.run (b! "QUJDRA") = true := by decide +kernel

end Gozod.C20
