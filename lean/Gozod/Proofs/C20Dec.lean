/-
  C20 — the decimal field: "a decimal number 0 … `max` without sign and without leading zero", the notion behind an octet of an
  IPv4 address (`max = 255`) and the prefix length of a CIDR (`max = 32`, `128`).

  As a predicate on strings it is spelled `Netip.prefixBits max` throughout the development: that function (Model/GoNetip.lean) is
  the transcription of `netip.ParsePrefix`'s checks on `bitsStr` (`strconv.Atoi` included), and `prefixBits_cons` shows that as a
  predicate it is just this notion — a digit; if that digit is '0' nothing more; otherwise digits only and the number written is
  at most `max`.  So `Netip.prefixBits 255 o` reads "`o` is an octet".  The other
  readings: `Dec max`, the same as an automaton (`Dec.run_eq`), which is what the one-pass definitions `Fmt.ipv4`, `Fmt.cidrv4`,
  `Fmt.cidrv6` contain (`field_seq`, `Cidr.pfx_step`); a pattern piece made of digit classes (`decimal_field`: checked on the
  strings of at most three digits); `Parsers.prefixLen max`, the reading of the second, list-based specification
  (`prefixLen_eq`).

  `Cidr`: what a one-pass "address '/' prefix length" automaton is, over any address automaton and any maximum; it accepts the
  address before the LAST '/' (`Netip.cutLastSlash`) followed by a decimal field.
  That cut under its five names: `Cidr.split` (any instance, from any address state), `cidr_split` / `cidr6_split` (the instances
  `cidr4`, `cidr6`, still from any address state, Proofs/C20Addr4.lean, C20Addr6.lean), `cidrv4_split` / `cidrv6_split` (from the
  start state, between the two `Spec`s: what the pattern side and the `*_netip` theorems use).
-/
import Gozod.Model.GoNetip
import Gozod.Model.GoParsers
import Gozod.Proofs.C20Digits
namespace Gozod.C20
open Gozod Gozod.Re Gozod.Fmt

def decVal (v : Nat) (r : List Nat) : Nat := r.foldl (fun v d => v * 10 + (d - 48)) v

theorem decVal_cons (v d : Nat) (r : List Nat) : decVal v (d :: r) = decVal (v * 10 + (d - 48)) r := by
  rw [decVal, decVal, List.foldl_cons]

theorem decVal_ge : ∀ (r : List Nat) (v : Nat), v ≤ decVal v r
  | [], _ => Nat.le_refl _
  | d :: r, v => decVal_cons v d r ▸ Nat.le_trans (by omega) (decVal_ge r (v * 10 + (d - 48)))

theorem atoi_digit {c : Nat} (hd : isDigit c = true) (r : List Nat) :
    Netip.atoi (c :: r) = if r.all isDigit = true then some (false, decVal (c - 48) r) else none := by
  have hr := (isDigit_iff c).1 hd
  unfold Netip.atoi
  split
  · next h => simp at h; omega
  · next h => simp at h; omega
  · simp only [Netip.atoiDigits, List.all_cons, hd, Bool.true_and, List.foldl_cons, Nat.zero_mul, Nat.zero_add, decVal]
    cases r.all isDigit <;> rfl

theorem atoi_nondigit_single {c : Nat} (hd : ¬ isDigit c = true) : Netip.atoi [c] = none := by
  unfold Netip.atoi
  split
  · next h => cases h; rfl
  · next h => cases h; rfl
  · simp [Netip.atoiDigits, hd]

theorem prefixBits_nil (maxBits : Nat) : Netip.prefixBits maxBits [] = false := rfl

theorem prefixBits_cons (maxBits c : Nat) (r : List Nat) :
    Netip.prefixBits maxBits (c :: r) =
      (isDigit c && (if c = 48 then r.isEmpty else r.all isDigit && decide (decVal (c - 48) r ≤ maxBits))) := by
  by_cases hd : isDigit c = true
  · have hr := (isDigit_iff c).1 hd
    rw [hd, Bool.true_and]
    cases r with
    | nil =>
      simp only [Netip.prefixBits, atoi_digit hd]
      by_cases h48 : c = 48 <;> simp [h48, decVal]
    | cons d r =>
      simp only [Netip.prefixBits, atoi_digit hd]
      by_cases h48 : c = 48
      · simp [h48]
      · rw [if_neg h48, if_neg (by omega)]
        cases (d :: r).all isDigit <;> simp
  · have hlo : c < 49 ∨ c > 57 := by
      have := mt (isDigit_iff c).2 hd
      omega
    rw [Bool.eq_false_iff.2 hd, Bool.false_and]
    cases r with
    | nil => simp only [Netip.prefixBits, atoi_nondigit_single hd]
    | cons d r => simp only [Netip.prefixBits, if_pos hlo]

theorem prefixBits_digits {max : Nat} : ∀ {o : List Nat}, Netip.prefixBits max o = true → o.all isDigit = true
  | [], h => nomatch h
  | c :: r, h => by
    rw [prefixBits_cons, Bool.and_eq_true] at h
    rw [List.all_cons, h.1, Bool.true_and]
    have h2 := h.2
    split at h2
    · rw [List.isEmpty_iff.1 h2]; rfl
    · exact (Bool.and_eq_true _ _ ▸ h2).1

theorem prefixBits_short {max : Nat} (hmax : max < 1000) {b : List Nat} (h : Netip.prefixBits max b = true) :
    b.all isDigit = true ∧ 1 ≤ b.length ∧ b.length ≤ 3 := by
  refine ⟨prefixBits_digits h, ?_⟩
  cases b with
  | nil => cases h
  | cons c r =>
    rw [prefixBits_cons, Bool.and_eq_true] at h
    obtain ⟨hc, h⟩ := h
    refine ⟨Nat.le_add_left 1 _, ?_⟩
    split at h
    · rw [List.isEmpty_iff.1 h]; exact Nat.le_succ_of_le (Nat.le_succ 1)
    · rw [Bool.and_eq_true, decide_eq_true_eq] at h
      rcases r with _ | ⟨d, _ | ⟨e, _ | ⟨f, t⟩⟩⟩
      all_goals try (simp; done)
      -- four digits without leading zero are worth 1000 at least
      have := decVal_ge t ((((c - 48) * 10 + (d - 48)) * 10 + (e - 48)) * 10 + (f - 48))
      have := (isDigit_iff c).1 hc
      have hle := h.2
      simp only [decVal_cons] at hle
      omega

/-- `Parsers.prefixLen` is the prefix-length reading of the list-based specification `Parsers.cidrv6Spec` -/
theorem prefixLen_eq {max : Nat} (h9 : 9 ≤ max) (hmax : max < 1000) : ∀ f : List Nat, Parsers.prefixLen max f = Netip.prefixBits max f
  | [] => rfl
  | [c] => by
    rw [prefixBits_cons]
    by_cases hd : isDigit c = true
    · have := digit_le hd
      by_cases h48 : c = 48 <;> simp [Parsers.prefixLen, hd, h48, decVal]; omega
    · simp [Parsers.prefixLen, hd]
  | c :: d :: r => by
    have hv : (c :: d :: r).foldl (fun v x => v * 10 + (x - 48)) 0 = decVal (c - 48) (d :: r) := by
      rw [List.foldl_cons, Nat.zero_mul, Nat.zero_add]; rfl
    cases hb : Netip.prefixBits max (c :: d :: r) with
    | true =>
      have hs := prefixBits_short hmax hb
      rw [prefixBits_cons, Bool.and_eq_true] at hb
      obtain ⟨hd, hb⟩ := hb
      split at hb
      · cases hb
      · next h48 =>
        rw [Bool.and_eq_true, decide_eq_true_eq] at hb
        simp only [Parsers.prefixLen, hv]
        simp [hd, h48, hs.1, hb.2]; simpa using hs.2.2
    | false =>
      rw [prefixBits_cons] at hb
      simp only [Parsers.prefixLen, hv]
      by_cases hd : isDigit c = true
      · rw [hd, Bool.true_and] at hb
        by_cases h48 : c = 48
        · simp [h48]
        · rw [if_neg h48] at hb
          simp only [Bool.and_eq_false_iff, decide_eq_false_iff_not] at hb
          rcases hb with hb | hb
          · simp [List.all_cons, hb]
          · simp [hb]
      · simp [hd]

def Dec (max : Nat) : Aut (Nat × Nat) where
  step := fun p c =>
    if isDigit c = true then
      (if p.1 = 0 then some (1, c - 48) else if p.2 = 0 then none
       else if p.2 * 10 + (c - 48) ≤ max then some (p.1 + 1, p.2 * 10 + (c - 48)) else none)
    else none
  acc := fun p => decide (p.1 ≥ 1)

theorem Dec.step_eq (max n v c : Nat) : (Dec max).step (n, v) c =
    if isDigit c = true then
      (if n = 0 then some (1, c - 48) else if v = 0 then none
       else if v * 10 + (c - 48) ≤ max then some (n + 1, v * 10 + (c - 48)) else none)
    else none := rfl

theorem Dec.run_digits (max : Nat) : ∀ (r : List Nat) (n v : Nat), n ≥ 1 → v ≥ 1 → v ≤ max →
    (Dec max).run (n, v) r = (r.all isDigit && decide (decVal v r ≤ max))
  | [], n, v, hn, _, hv => by simp [Aut.run, Dec, decVal, hn, hv]
  | c :: r, n, v, hn, hv1, hv => by
    rw [Aut.run_cons, List.all_cons, decVal_cons, Dec.step_eq]
    by_cases hd : isDigit c = true
    · rw [if_pos hd, if_neg (by omega), if_neg (by omega), hd, Bool.true_and]
      by_cases hle : v * 10 + (c - 48) ≤ max
      · rw [if_pos hle]; exact Dec.run_digits max r (n + 1) _ (by omega) (by omega) hle
      · have := decVal_ge r (v * 10 + (c - 48))
        rw [if_neg hle, decide_eq_false (by omega), Bool.and_false]
    · rw [if_neg hd, Bool.eq_false_iff.2 hd, Bool.false_and, Bool.false_and]

/-- `max ≥ 9`: `Netip.prefixBits` takes a single digit whatever it is -/
theorem Dec.run_eq {max : Nat} (hmax : 9 ≤ max) : ∀ b : List Nat, (Dec max).run (0, 0) b = Netip.prefixBits max b
  | [] => rfl
  | c :: r => by
    rw [prefixBits_cons, Aut.run_cons, Dec.step_eq]
    by_cases hd : isDigit c = true
    · have hr := (isDigit_iff c).1 hd
      rw [if_pos hd, if_pos rfl, hd, Bool.true_and]
      by_cases h48 : c = 48
      · subst h48
        cases r with
        | nil => rfl
        | cons d r => simp [Aut.run, Dec]
      · rw [if_neg h48]; exact Dec.run_digits max r 1 (c - 48) (Nat.le_refl 1) (by omega) (by omega)
    · rw [if_neg hd, Bool.eq_false_iff.2 hd, Bool.false_and]

/-- `h` is closed by kernel evaluation where this is used (`octet255`, `prefix32`, `prefix128`) -/
theorem decimal_field (P : Re) (max : Nat) (h9 : 9 ≤ max) (hmax : max < 1000) (hw : digitsOnly P = true) (hn : maxLen P ≤ 3)
    (h : (digitStrings 3).all (fun b => accepts P b == (Dec max).run (0, 0) b) = true) (b : List Nat) :
    accepts P b = Netip.prefixBits max b := by
  rw [← Dec.run_eq h9]
  refine digits_eval P _ 3 hw hn (fun b hq => ?_) h b
  rw [Dec.run_eq h9] at hq
  exact ⟨(prefixBits_short hmax hq).1, (prefixBits_short hmax hq).2.2⟩

theorem cutLast_cons (c : Nat) (s : List Nat) :
    Netip.cutLastSlash (c :: s) = match Netip.cutLastSlash s with
      | some (a, b) => some (c :: a, b)
      | none => if c = 47 then some ([], s) else none := rfl

theorem cutLast_some : ∀ {s a b : List Nat}, Netip.cutLastSlash s = some (a, b) → s = a ++ 47 :: b
  | [], _, _, h => by cases h
  | c :: rest, a, b, h => by
    simp only [Netip.cutLastSlash] at h
    cases hr : Netip.cutLastSlash rest with
    | some p =>
      rw [hr] at h; cases h
      rw [cutLast_some (s := rest) (by rw [hr])]; rfl
    | none =>
      rw [hr] at h
      simp only at h
      split at h
      · next h47 => cases h; rw [h47]; rfl
      · cases h

theorem cutLast_append : ∀ (a : List Nat) {b : List Nat}, 47 ∉ b → Netip.cutLastSlash (a ++ 47 :: b) = some (a, b)
  | [], b, hb => by
    have : ∀ b : List Nat, 47 ∉ b → Netip.cutLastSlash b = none := by
      intro b
      induction b with
      | nil => intro _; rfl
      | cons c b ih =>
        intro h
        simp only [List.mem_cons, not_or] at h
        simp only [Netip.cutLastSlash, ih h.2, if_neg (Ne.symm h.1)]
    simp only [List.nil_append, Netip.cutLastSlash, this b hb, if_true]
  | c :: a, b, hb => by
    simp only [List.cons_append, Netip.cutLastSlash, cutLast_append a hb]

/-- `X` is a one-pass automaton for "address '/' prefix length" over the address automaton `A`: in the states satisfying `addr` it steps
    as `A` does; a '/' after a complete address leads to `pfx 0 0`; the states `pfx n v` are the decimal field `Dec max` in `(n, v)`. -/
structure Cidr {σ : Type} (X A : Aut σ) (addr : σ → Prop) (pfx : Nat → Nat → σ) (max : Nat) : Prop where
  A_slash : ∀ q, A.step q 47 = none
  X_addr : ∀ q c, addr q → c ≠ 47 → X.step q c = A.step q c
  addr_step : ∀ q c q', addr q → A.step q c = some q' → addr q'
  X_slash : ∀ q, addr q → X.step q 47 = if A.acc q = true then some (pfx 0 0) else none
  acc_addr : ∀ q, addr q → X.acc q = false
  pfx_step : ∀ n v c, X.step (pfx n v) c = ((Dec max).step (n, v) c).map fun p => pfx p.1 p.2
  pfx_acc : ∀ n v, X.acc (pfx n v) = decide (n ≥ 1)

namespace Cidr
variable {σ : Type} {X A : Aut σ} {addr : σ → Prop} {pfx : Nat → Nat → σ} {max : Nat} (h : Cidr X A addr pfx max)
include h

theorem seq : Aut.Seq X A id addr (fun c => if c = 47 then some (pfx 0 0) else none) false where
  inv_step := h.addr_step
  step q c hq := by
    by_cases h47 : c = 47
    · subst h47; rw [id, h.X_slash q hq, h.A_slash]; rfl
    · rw [id, h.X_addr q c hq h47, if_neg h47, ite_self]; cases A.step q c <;> rfl
  acc q hq := (h.acc_addr q hq).trans (Bool.and_false _).symm
  cut q c _ _ hc := by
    by_cases h47 : c = 47
    · subst h47; exact h.A_slash q
    · rw [if_neg h47] at hc; cases hc

theorem prefixBits_run (hmax : 9 ≤ max) (b : List Nat) : Netip.prefixBits max b = X.run (pfx 0 0) b :=
  (Dec.run_eq hmax b).symm.trans
    (Aut.run_map (fun p => pfx p.1 p.2) (fun p c => (h.pfx_step p.1 p.2 c).symm) (fun p => (h.pfx_acc p.1 p.2).symm) b (0, 0))

theorem split (hmax : 9 ≤ max) (s : List Nat) (q : σ) (hq : addr q) :
    X.run q s = match Netip.cutLastSlash s with
      | some (a, b) => A.run q a && Netip.prefixBits max b
      | none => false := by
  have key : X.run q s = true ↔ ∃ a b, s = a ++ 47 :: b ∧ A.run q a = true ∧ Netip.prefixBits max b = true := by
    refine (h.seq.run s q hq).trans ⟨?_, ?_⟩
    · rintro ⟨a, b, rfl, ha, hb⟩
      cases b with
      | nil => cases hb
      | cons c r =>
        simp only [Aut.rest] at hb
        by_cases h47 : c = 47
        · subst h47; rw [if_pos rfl] at hb; exact ⟨a, r, rfl, ha, (h.prefixBits_run hmax r).trans hb⟩
        · rw [if_neg h47] at hb; cases hb
    · rintro ⟨a, b, rfl, ha, hb⟩
      exact ⟨a, 47 :: b, rfl, ha, by simp only [Aut.rest, if_true]; exact (h.prefixBits_run hmax b).symm.trans hb⟩
  rw [Bool.eq_iff_iff, key]
  constructor
  · rintro ⟨a, b, rfl, ha, hb⟩
    -- a prefix length has no '/': the cut is at the last one
    have h47 : 47 ∉ b := fun hm => by
      have := List.all_eq_true.1 (prefixBits_digits hb) 47 hm; cases this
    rw [cutLast_append a h47]
    show (A.run q a && Netip.prefixBits max b) = true
    rw [ha, hb]; rfl
  · intro hm
    cases hc : Netip.cutLastSlash s with
    | none => rw [hc] at hm; cases hm
    | some p =>
      obtain ⟨a, b⟩ := p
      rw [hc] at hm
      have hm' : (A.run q a && Netip.prefixBits max b) = true := hm
      rw [Bool.and_eq_true] at hm'
      exact ⟨a, b, cutLast_some hc, hm'.1, hm'.2⟩

end Cidr

end Gozod.C20
