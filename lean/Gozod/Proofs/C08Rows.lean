/-
  What a row of the method table MEANS, for any table (`Model/StoreC08.lean` §1–4; the regenerated table itself is
  `Proofs/C08Methods.lean`): every result of a covered row denotes, for all run-time parameters, an op `c08x_step` covers
  (`denote_ok`, `covered_results`); a metaSelf row falsifies the step statement.  Second half, which is what C08Objects and
  C08Holders import this file for: the frame of ANY number of type-local reference slots (`applySlot_spec` … `c08n_step`),
  whose slot actions are those a covered row names (`slots_of_covered`).
-/
import Gozod.Proofs.C08

namespace Gozod.C08
open Gozod.Store Gozod.StoreC08

theorem rebuild_cap_ok (cks : List Nat) (cap : Nat) :
    cks = [] → (if cks.isEmpty then 0 else max cap cks.length) = 0 := by
  intro h; simp [h]

/-- `false`: the row's flag `regRecv`, "GlobalRegistry.Add(receiver, …)", is off — with it on, a result that IS the
    receiver denotes `metaSelf`. -/
theorem denote_ok (r : MethodResult) (hcov : r.covered false = true) (p : Params) : (r.denote false p).ok := by
  unfold MethodResult.covered at hcov
  unfold MethodResult.denote
  cases hr : r.route <;> simp only [hr, Bool.and_false, Bool.false_eq_true, if_false] at hcov ⊢
  case clone =>
    split
    · -- the re-made slice: `kept` and `spare` are run-time parameters; the side condition is about them
      exact fun h => by simp [h]
    · split <;> exact ⟨trivial, rfl⟩
  case structcopy => exact ⟨trivial, rfl⟩
  case ctor | wrap => exact ⟨rebuild_cap_ok _ _, rfl⟩
  case self | access | none => trivial

structure TCall where
  row : MethodRow
  res : MethodResult
  p : Params

def TCall.ok (tbl : List MethodRow) (c : TCall) : Prop :=
  c.row ∈ tbl ∧ (c.row.cls = .covered ∨ c.row.cls = .memo) ∧ c.res ∈ c.row.results

def TCall.xop (c : TCall) : XOp := c.res.denote false c.p

theorem covered_results (r : MethodRow) (h : r.cls = .covered ∨ r.cls = .memo) :
    ∀ x ∈ r.results, x.covered false = true := by
  have hb : r.cls ≠ .metaSelf ∧ r.cls ≠ .bad := by rcases h with h | h <;> rw [h] <;> exact ⟨nofun, nofun⟩
  unfold MethodRow.cls at hb
  split at hb
  · exact absurd rfl hb.1
  · split at hb
    · exact absurd rfl hb.2
    · split at hb
      · exact absurd rfl hb.2
      · next h3 => exact List.all_eq_true.1 (by simpa using h3)

theorem TCall.ok.denotes {c : TCall} {tbl : List MethodRow} (hc : c.ok tbl) : c.xop.ok :=
  denote_ok c.res (covered_results c.row hc.2.1 c.res hc.2.2) c.p

/-- a metaSelf row (`GlobalRegistry.Add(z, meta); return z`) falsifies the full statement for
    every store, every receiver and every metadata value: the result IS the receiver. -/
theorem metaSelf_row_violates (cfg : Cfg) (σ : Store) (live : List Schema) (recv : Schema) (hr : recv ∈ live)
    (x : MethodResult) (hx : x.route = .self) (p : Params) :
    ¬ XStepOK cfg σ live recv (x.denote true p) := by
  have hd : x.denote true p = .base (.metaSelf p.regv) := by simp [MethodResult.denote, hx]
  exact fun h => (hd ▸ h).1 rfl recv hr rfl

theorem metaSelf_rows_shape (r : MethodRow) (h : r.isMetaSelf = true) :
    r.regRecv = true ∧ ∃ x, r.results = [x] ∧ x.route = .self := by
  unfold MethodRow.isMetaSelf at h
  simp only [Bool.and_eq_true] at h
  refine ⟨h.1.1.1, ?_⟩
  split at h
  · next x hres =>
    refine ⟨x, hres, ?_⟩
    cases hx : x.route <;> simp [hx] at h ⊢
  · cases h.2

def WfN (σ : Store) (x : NSchema) : Prop := WfS σ x.s ∧ ∀ o ∈ x.slots, ∀ l ∈ optLoc o, l < σ.next

theorem slots_frame {σ σ' : Store} (slots : List (Option Loc)) (hw : ∀ o ∈ slots, ∀ l ∈ optLoc o, l < σ.next)
    (he : ExtFrom σ.next σ σ') : slots.map (readVals σ'.heap) = slots.map (readVals σ.heap) :=
  List.map_congr_left fun o ho => readVals_frame o (hw o ho) he

theorem obsN_frame {σ σ' : Store} (x : NSchema) (hw : WfN σ x) (he : ExtFrom σ.next σ σ') :
    obsN σ'.heap x = obsN σ.heap x := by
  simp only [obsN, obs_frame x.s hw.1 he, slots_frame x.slots hw.2 he]

theorem wfn_frame {σ σ' : Store} (x : NSchema) (hw : WfN σ x) (he : ExtFrom σ.next σ σ') : WfN σ' x :=
  ⟨wfs_frame x.s hw.1 he, fun o ho => Below.mono (hw.2 o ho) he.1⟩

theorem framedN : Framed WfN obsN (·.s.self) := ⟨obsN_frame, wfn_frame, fun h => h.1.self_lt⟩

theorem applySlot_spec (n : Nat) (σ : Store) (old : Option Loc) (a : SlotAct) (hn : n ≤ σ.next)
    (hold : ∀ l ∈ optLoc old, l < σ.next) :
    Keeps n σ (applySlot σ old a).1 ∧ ∀ l ∈ optLoc (applySlot σ old a).2, l < (applySlot σ old a).1.next := by
  cases a with
  | share => exact ⟨.refl _ _, hold⟩
  | drop => exact ⟨.refl _ _, nofun⟩
  | fresh c => exact ⟨.alloc hn fun _ => trivial, forall_optLoc_some.2 (Nat.lt_succ_self _)⟩

theorem applySlot_ext (σ : Store) (old : Option Loc) (a : SlotAct) : ExtFrom σ.next σ (applySlot σ old a).1 := by
  cases a with
  | fresh c => exact alloc_ext _ σ _ (Nat.le_refl _)
  | _ => exact ExtFrom.refl _ _

theorem applySlots_spec (n : Nat) (acts : List SlotAct) : ∀ (σ : Store) (olds : List (Option Loc)), n ≤ σ.next →
    (∀ o ∈ olds, ∀ l ∈ optLoc o, l < σ.next) →
    Keeps n σ (applySlots σ olds acts).1 ∧
    (∀ o ∈ (applySlots σ olds acts).2, ∀ l ∈ optLoc o, l < (applySlots σ olds acts).1.next) := by
  induction acts with
  | nil => intro σ olds _ _; exact ⟨.refl _ _, nofun⟩
  | cons a as ih =>
    intro σ olds hn hold
    have hh : Below σ.next (optLoc olds.head?.join) := by
      cases olds with
      | nil => nofun
      | cons o os => exact hold o List.mem_cons_self
    obtain ⟨t1, l1⟩ := applySlot_spec n σ olds.head?.join a hn hh
    obtain ⟨t2, l2⟩ := ih _ olds.tail (Nat.le_trans hn t1.le)
      (fun o ho => Below.mono (hold o (List.mem_of_mem_tail ho)) t1.le)
    exact ⟨t1.trans t2, List.forall_mem_cons.2 ⟨Below.mono l1 t2.le, l2⟩⟩

/-- a chaining call of any covered op class, doing to each of ANY number of type-local reference slots one
    of the things the table rows allow (reference copied / a map the call made itself / nil), leaves the extended
    observation of every live schema unchanged; the result is well-formed (and new, for chaining ops). -/
theorem c08n_step (cfg : Cfg) (hcfg : cfg.cloneBagAlways = true) (σ : Store) (live : List NSchema)
    (recv : NSchema) (x : XOp) (acts : List SlotAct) (hc : BagClosed σ) (hl : ∀ y ∈ live, WfN σ y) (hr : recv ∈ live)
    (hok : x.ok) :
    (∀ y ∈ live, obsN (applyNOp cfg σ recv x acts).1.heap y = obsN σ.heap y) ∧
    (∀ y ∈ live, WfN (applyNOp cfg σ recv x acts).1 y) ∧
    WfN (applyNOp cfg σ recv x acts).1 (applyNOp cfg σ recv x acts).2 ∧
    BagClosed (applyNOp cfg σ recv x acts).1 ∧
    (x.chains = true → ∀ y ∈ live, y.s.self ≠ (applyNOp cfg σ recv x acts).2.s.self) := by
  obtain ⟨he, hb, hw, hs⟩ := applyXOp_spec cfg hcfg σ recv.s x hc (hl recv hr).1 hok
  obtain ⟨t2, l2⟩ := applySlots_spec _ acts _ recv.slots (Nat.le_refl _)
    (fun o ho => Below.mono ((hl recv hr).2 o ho) he.1)
  have het := he.step t2.1
  exact ⟨fun y hy => obsN_frame y (hl y hy) het, fun y hy => wfn_frame y (hl y hy) het, ⟨wfs_frame _ hw t2.1, l2⟩, t2.2 hb,
    fun hch y hy e => framedN.new hl (hs hch) y hy e.symm⟩

/-- `c08n_step` holds for EVERY list of `SlotAct`s; that a covered row does only those is this lemma plus `Origin.acts`, by
    inspection: no term builds the list from a row. -/
theorem slots_of_covered (r : MethodResult) (h : r.covered false = true) :
    ∀ f ∈ r.locals, ∀ o ∈ f.2, (Origin.acts o).isSome = true := by
  unfold MethodResult.covered MethodResult.localsSafe at h
  simp only [Bool.and_eq_true, List.all_eq_true] at h
  intro f hf o ho
  have hs := h.1 f hf o ho
  cases o <;> simp only [Origin.safe, Bool.false_eq_true] at hs <;> rfl

example : (XOp.base (.derive 1 [] none)).ok := ⟨trivial, rfl⟩

end Gozod.C08
