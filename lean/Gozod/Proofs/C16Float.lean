/-
  C16, the float branch of `validate.MultipleOf` (documented relative-ε rule, `Model/NumFloat`).
  The statement of C16 holds integer MultipleOf to exact divisibility (`c16_multiple_int`); for
  floats the library documents a tolerance.  What the ε-rule does decide: every exact multiple is
  accepted (`c16_float_multiple_complete`); a zero divisor and NaN operands accept nothing; it is
  not exact divisibility (`float_multiple_not_exact`).  C01 uses another model of the same Go lines,
  `FloatMul.implMultF` (Proofs/FloatMulRound.lean); no lemma relates the two.
-/
import Gozod.Model.NumFloat
import Gozod.Proofs.C16
import Gozod.Proofs.C17Round

namespace Gozod.C16F
open Gozod Gozod.Coerce Gozod.NumFloat

theorem roundFin_not_nan (p emin emax : Nat) (a : Int) (k : Nat) : roundFin p emin emax a k ≠ .nan := by
  obtain ⟨_, _, _, e | ⟨_, e⟩⟩ := C17.roundFin_cases p emin emax a k <;> rw [e]
  · nofun
  · split <;> nofun

theorem c1em10_eq : c1em10 = .fin 7737125245533627 86 := by decide

theorem c1em6_eq : c1em6 = .fin 4722366482869645 72 := by decide

/-- ε as `validate.MultipleOf` computes it: `max(1e-10, math.Abs(div)*1e-6)`. -/
def epsOf (d : F) : F := fmax c1em10 (fmul (fabs d) c1em6)

theorem flt_fin (a : Int) (k : Nat) (b : Int) (l : Nat) : flt (.fin a k) (.fin b l) = true ↔ a * 2 ^ l < b * 2 ^ k := by
  show (some (compare (a * 2 ^ l) (b * 2 ^ k)) == some .lt) = true ↔ _
  rw [beq_iff_eq, Option.some.injEq, Int.compare_eq_lt]

theorem flt_zero_fin (m : Nat) (b : Int) (l : Nat) : flt (.fin 0 m) (.fin b l) = true ↔ 0 < b := by
  have hp : (0 : Int) < 2 ^ m := Int.pow_pos (by decide)
  rw [flt_fin, Int.zero_mul]
  exact ⟨fun h => Int.pos_of_mul_pos_left h hp, fun h => Int.mul_pos h hp⟩

theorem zero_lt_eps (m : Nat) (x : F) (hx : x ≠ .nan) : flt (.fin 0 m) (fmax c1em10 x) = true := by
  rw [c1em10_eq]
  have hc : flt (.fin 0 m) (.fin 7737125245533627 86) = true := (flt_zero_fin ..).mpr (by decide)
  cases x with
  | nan => exact absurd rfl hx
  | pinf => rfl
  | ninf => exact hc
  | fin b l =>
    -- the maximum is `x` only when `1e-10 < x`
    show flt _ (match some (compare (7737125245533627 * 2 ^ l) (b * 2 ^ 86)) with
      | none => .nan | some .lt => .fin b l | _ => .fin 7737125245533627 86) = true
    cases h : compare (7737125245533627 * 2 ^ l) (b * 2 ^ 86)
    · have h0 : (0 : Int) < 7737125245533627 * 2 ^ l := Int.mul_pos (by decide) (Int.pow_pos (by decide))
      exact (flt_zero_fin ..).mpr
        (Int.pos_of_mul_pos_left (Int.lt_trans h0 (Int.compare_eq_lt.mp h)) (Int.pow_pos (by decide)))
    · exact hc
    · exact hc

theorem eps_not_nan (b : Int) (l : Nat) : fmul (fabs (.fin b l)) c1em6 ≠ .nan := by
  rw [c1em6_eq]; simp only [fabs, fmul]; exact roundFin_not_nan _ _ _ _ _

theorem epsOf_pos (b : Int) (l : Nat) (e : Int) (m : Nat) (h : epsOf (.fin b l) = .fin e m) : 0 < e := by
  have hz := zero_lt_eps 0 _ (eps_not_nan b l)
  rwa [show fmax c1em10 _ = epsOf (.fin b l) from rfl, h, flt_zero_fin] at hz

/-- The rule on finite operands, non-zero divisor: with `r = |fmod(v, d)|` (exact),
    `r < ε ∨ |r − |d|| < ε`. -/
theorem floatMultipleOf_fin (a b : Int) (k l : Nat) (hb : b ≠ 0) :
    floatMultipleOf (.fin a k) (.fin b l) =
      (flt (.fin ((Int.tmod (a * 2 ^ l) (b * 2 ^ k)).natAbs : Int) (k + l)) (epsOf (.fin b l)) ||
       flt (fabs (fsub (.fin ((Int.tmod (a * 2 ^ l) (b * 2 ^ k)).natAbs : Int) (k + l)) (.fin (b.natAbs : Int) l)))
         (epsOf (.fin b l))) := by
  simp [floatMultipleOf, F.isNaN, isZeroF, hb, fmod, fabs, epsOf]

/-- The ε-rule never rejects an exact multiple: if `v = n · d` (as real numbers) for an
    integer `n`, finite `v`, finite non-zero `d` (any magnitude), then `MultipleOf(v, d)` holds. -/
theorem c16_float_multiple_complete (a b n : Int) (k l : Nat) (hb : b ≠ 0) (h : a * 2 ^ l = n * (b * 2 ^ k)) :
    floatMultipleOf (.fin a k) (.fin b l) = true := by
  -- the remainder is exactly 0, and 0 < ε
  rw [floatMultipleOf_fin a b k l hb, h, Int.mul_tmod_left, Bool.or_eq_true]
  exact .inl (zero_lt_eps _ _ (eps_not_nan b l))

theorem c16_float_multiple_zero (v : F) (l : Nat) : floatMultipleOf v (.fin 0 l) = false := by
  cases v <;> rfl

theorem c16_float_multiple_nan (x : F) : floatMultipleOf .nan x = false ∧ floatMultipleOf x .nan = false := by
  constructor <;> cases x <;> rfl

/-- Witness: the rule is a tolerance, not exact divisibility. -/
theorem float_multiple_not_exact :
    floatMultipleOf (.fin 10000005 0) (.fin 10000000 0) = true ∧ ¬ ((10000000 : Int) ∣ 10000005) ∧
    floatMultipleOf (F.ofBits 0x3FD3333333333333) (F.ofBits 0x3FB999999999999A) = true ∧   -- 0.3, 0.1
    floatMultipleOf (.fin 5 0) (.fin 2 0) = false := by
  decide +kernel

/-- Every finite value is accepted for a divisor of ±Inf (ε = +Inf, `math.Mod(x, ±Inf) = x`). -/
theorem float_multiple_inf_divisor (a : Int) (k : Nat) :
    floatMultipleOf (.fin a k) .pinf = true ∧ floatMultipleOf (.fin a k) .ninf = true :=
  ⟨rfl, rfl⟩

example : floatMultipleOf (.fin 3 1) (.fin 1 1) = true ∧ (3 : Int) * 2 ^ 1 = 3 * (1 * 2 ^ 1) := by decide +kernel

theorem multipleOfNum_ints {a b : Num} (ha : C16.isInt a = true) (hb : C16.isInt b = true) :
    multipleOfNum a b = multipleOfInts a b := by
  obtain ⟨_, rfl | rfl⟩ := C16.isInt_cases ha <;> obtain ⟨_, rfl | rfl⟩ := C16.isInt_cases hb <;> rfl

end Gozod.C16F
