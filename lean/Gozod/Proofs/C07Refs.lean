/-
  C07, last clause: "the generated document is itself a valid Draft 2020-12 schema whose references all resolve".

  The one place where a reference is written BEFORE its definition exists is `convertLazy` meeting an inner schema whose
  conversion is still in progress and that has a registry ID (`#/$defs/<id>` at once, `c.defs[id]` when that conversion
  returns): the invariant carries such names as "pending on the call stack", and the stack is empty at the end.
  (`lazyRef`'s own `$defs` entries — /repo 16f278d, for a target that is not the root — are entered into `refs` and
  `defs` at once, like the automatic names.)
-/
import Gozod.Model.JsonSchemaRefs
namespace Gozod.C07
open Gozod.Jsc.Refs

/-- holds between any two steps of a conversion; `stack` = the instances whose `convert` call is in progress. -/
structure Inv (g : Graph) (stack : List Nat) (st : St) : Prop where
  refsDefs : ∀ b name, st.refs b = some name → name ∈ st.defs
  seenIds : ∀ m, m ∈ st.seen → m ∉ stack → ∀ i, (g m).id = some i → i ∈ st.defs
  /-- an emitted reference resolves, or is the ID of an instance still being converted -/
  outOk : ∀ name, name ∈ st.out → name ∈ st.defs ∨ ∃ m, m ∈ stack ∧ (g m).id = some name

theorem inv_init (g : Graph) : Inv g [] {} :=
  ⟨by intro b name h; simp at h, by intro m h; simp at h, by intro name h; simp at h⟩

theorem inv_grow (g : Graph) (s : List Nat) (st st' : St) (h : Inv g s st)
    (hseen : st'.seen = st.seen) (hout : st'.out = st.out) (hdefs : ∀ x, x ∈ st.defs → x ∈ st'.defs)
    (hrefs : ∀ b name, st'.refs b = some name → st.refs b = some name ∨ name ∈ st'.defs) : Inv g s st' := by
  refine ⟨fun b name hb => ?_, fun m hm hs i hi => hdefs _ (h.seenIds m (hseen ▸ hm) hs i hi), fun name hn => ?_⟩
  · exact (hrefs b name hb).elim (fun hb => hdefs _ (h.refsDefs b name hb)) id
  · exact (h.outOk name (hout ▸ hn)).imp_left (hdefs _)

theorem inv_counts (g : Graph) (s : List Nat) (st : St) (c : Nat → Nat) (h : Inv g s st) : Inv g s { st with counts := c } :=
  inv_grow g s st _ h rfl rfl (fun _ hx => hx) (fun _ _ hb => .inl hb)

theorem inv_emit (g : Graph) (s : List Nat) (st : St) (name : String) (h : Inv g s st)
    (hn : name ∈ st.defs ∨ ∃ m, m ∈ s ∧ (g m).id = some name) : Inv g s (st.emit name) := by
  refine ⟨h.refsDefs, h.seenIds, ?_⟩
  intro nm hm
  simp only [St.emit, List.mem_cons] at hm
  rcases hm with rfl | hm
  · exact hn
  · exact h.outOk nm hm

theorem inv_register (g : Graph) (s : List Nat) (st : St) (b : Nat) (h : Inv g s st) :
    Inv g s (st.register b) ∧ autoName (st.register b).auto ∈ (st.register b).defs := by
  refine ⟨inv_grow g s st _ h rfl rfl (fun _ hx => List.mem_cons_of_mem _ hx) (fun b' name hb => ?_), List.mem_cons_self⟩
  simp only [St.register] at hb ⊢
  split at hb
  · cases hb; exact .inr List.mem_cons_self
  · exact .inl hb

theorem inv_addDef (g : Graph) (s : List Nat) (st : St) (i : String) (h : Inv g s st) :
    Inv g s { st with defs := if st.defs.contains i then st.defs else i :: st.defs }
    ∧ i ∈ (if st.defs.contains i then st.defs else i :: st.defs) := by
  refine ⟨inv_grow g s st _ h rfl rfl (fun x hx => ?_) (fun _ _ hb => .inl hb), ?_⟩ <;> split
  · exact hx
  · exact List.mem_cons_of_mem _ hx
  · rename_i hc; exact List.contains_iff_mem.1 hc
  · exact List.mem_cons_self

theorem inv_push (g : Graph) (s : List Nat) (st : St) (n : Nat) (h : Inv g s st) :
    Inv g (n :: s) { st with seen := n :: st.seen } := by
  refine ⟨h.refsDefs, ?_, ?_⟩
  · intro m hm hs i hi
    simp only [List.mem_cons, not_or] at hm hs
    rcases hm with rfl | hm
    · exact absurd rfl hs.1
    · exact h.seenIds m hm hs.2 i hi
  · intro name hn
    rcases h.outOk name hn with hd | ⟨m, hm, hi⟩
    · exact Or.inl hd
    · exact Or.inr ⟨m, List.mem_cons_of_mem _ hm, hi⟩

theorem inv_pop (g : Graph) (s : List Nat) (st : St) (n : Nat) (h : Inv g (n :: s) st)
    (hid : ∀ i, (g n).id = some i → i ∈ st.defs) : Inv g s st := by
  refine ⟨h.refsDefs, ?_, ?_⟩
  · intro m hm hs i hi
    by_cases hmn : m = n
    · subst hmn; exact hid i hi
    · exact h.seenIds m hm (by simp [hmn, hs]) i hi
  · intro name hn
    rcases h.outOk name hn with hd | ⟨m, hm, hi⟩
    · exact Or.inl hd
    · simp only [List.mem_cons] at hm
      rcases hm with rfl | hm
      · exact Or.inl (hid name hi)
      · exact Or.inr ⟨m, hm, hi⟩

theorem inv_foldKids (g : Graph) (s : List Nat) (f : St → Nat → Option St)
    (hf : ∀ st k st', Inv g s st → f st k = some st' → Inv g s st') :
    ∀ (ks : List Nat) (st st' : St), Inv g s st → foldKids f st ks = some st' → Inv g s st'
  | [], st, st', h, he => by simp [foldKids] at he; exact he ▸ h
  | k :: ks, st, st', h, he => by
    simp only [foldKids] at he
    split at he
    · simp at he
    · rename_i st1 h1
      exact inv_foldKids g s f hf ks st1 st' (hf st k st1 h h1) he

theorem inv_lazyAnswer (g : Graph) (root : Nat) (s : List Nat) (st : St) (m : Nat) (h : Inv g s st) (hm : m ∈ st.seen) :
    Inv g s (lazyAnswer g root st m) := by
  unfold lazyAnswer
  split
  · rename_i i hi
    apply inv_emit g s st i h
    by_cases hs : m ∈ s
    · exact Or.inr ⟨m, hs, hi⟩
    · exact Or.inl (h.seenIds m hm hs i hi)
  · split
    · rename_i name hr
      exact inv_emit g s st name h (Or.inl (h.refsDefs _ name hr))
    · split
      · exact h
      · have hr := inv_register g s st (g m).base h
        exact inv_emit g s _ _ hr.1 (Or.inl hr.2)

theorem inv_lazyKid (g : Graph) (root : Nat) (s : List Nat) (conv : St → Nat → Option St)
    (hc : ∀ st k st', Inv g s st → conv st k = some st' → Inv g s st')
    (st : St) (m : Nat) (st' : St) (h : Inv g s st) (he : lazyKid g root conv st m = some st') : Inv g s st' := by
  unfold lazyKid at he
  split at he
  · rename_i hseen
    cases he
    exact inv_lazyAnswer g root s st m h (by simpa using hseen)
  · exact hc st m st' h he

theorem inv_stepRegister (g : Graph) (s : List Nat) (o : Opts) (nd : Node) (st : St) (h : Inv g s st) :
    Inv g s (stepRegister o nd st) := by
  unfold stepRegister; split
  · exact (inv_register g s st _ h).1
  · exact h

theorem inv_stepId (g : Graph) (s : List Nat) (nd : Node) (st : St) (h : Inv g s st) :
    Inv g s (stepId nd st) ∧ ∀ i, nd.id = some i → i ∈ (stepId nd st).defs := by
  unfold stepId
  cases hid : nd.id with
  | none => exact ⟨h, by intro i hi; simp at hi⟩
  | some i =>
    have ha := inv_addDef g s st i h
    simp only
    split
    · exact ⟨ha.1, by intro j hj; cases hj; exact ha.2⟩
    · refine ⟨inv_emit g s _ i ha.1 (Or.inl ha.2), ?_⟩
      intro j hj; cases hj; exact ha.2

theorem inv_stepAuto (g : Graph) (s : List Nat) (o : Opts) (nd : Node) (st : St) (h : Inv g s st) :
    Inv g s (stepAuto o nd st) ∧ ∀ x, x ∈ st.defs → x ∈ (stepAuto o nd st).defs := by
  unfold stepAuto; split
  · split
    · rename_i name hr
      exact ⟨inv_emit g s st name h (Or.inl (h.refsDefs _ name hr)), fun x hx => hx⟩
    · have hr := inv_register g s st nd.base h
      exact ⟨inv_emit g s _ _ hr.1 (Or.inl hr.2), fun x hx => List.mem_cons_of_mem _ hx⟩
  · exact ⟨h, fun x hx => hx⟩

theorem inv_convert (g : Graph) (o : Opts) (root : Nat) :
    ∀ (fuel : Nat) (s : List Nat) (st : St) (n : Nat) (st' : St),
      Inv g s st → convert g o root fuel s st n = some st' → Inv g s st'
  | 0, _, _, _, _, _, he => by simp [convert] at he
  | fuel + 1, s, st, n, st', h, he => by
    have ih := inv_convert g o root fuel (n :: s)
    have hc := inv_counts g s st (fun b => if b = (g n).base then st.counts b + 1 else st.counts b) h
    simp only [convert] at he
    split at he
    ·
      rename_i hseen
      have hans : Inv g s (if s.contains n = true then
            lazyAnswer g root { st with counts := fun b => if b = (g n).base then st.counts b + 1 else st.counts b } n
          else { st with counts := fun b => if b = (g n).base then st.counts b + 1 else st.counts b }) := by
        split
        · exact inv_lazyAnswer g root s _ n hc (by simpa using hseen)
        · exact hc
      split at he
      · simp at he
      · split at he
        · split at he
          · rename_i name hr
            cases he
            exact inv_emit g s _ name hc (Or.inl (h.refsDefs _ name hr))
          · cases he; exact hans
        · cases he; exact hans
    ·
      split at he
      · simp at he
      · rename_i st2 hsub
        cases he
        have h0 := inv_push g s _ n hc
        have h2 : Inv g (n :: s) st2 := by
          split at hsub
          · exact inv_foldKids g (n :: s) _ (fun st k st' hi he => inv_lazyKid g root (n :: s) _ ih st k st' hi he) _ _ st2 h0 hsub
          · exact inv_foldKids g (n :: s) _ ih _ _ st2 h0 hsub
        have h4 := inv_stepId g (n :: s) (g n) _ (inv_stepRegister g (n :: s) o (g n) st2 h2)
        have h5 := inv_stepAuto g (n :: s) o (g n) _ h4.1
        exact inv_pop g s _ n h5.1 (fun i hi => h5.2 i (h4.2 i hi))

/-- C07, references.  For EVERY schema graph (any sharing of instances, cycles through Lazy, registry IDs), option set
    and root, when the conversion succeeds: every `$ref` that `convert` wrote — into the document or a `$defs` entry —
    names a key of the `$defs` that `toJSONSchemaSingle` attaches to the root. -/
theorem c07_refs_resolve (g : Graph) (o : Opts) (fuel root : Nat) (st : St)
    (h : convertTop g o fuel root = some st) : ∀ name, name ∈ st.out → name ∈ st.defs := by
  intro name hn
  have hi := inv_convert g o root fuel [] {} root st (inv_init g) h
  rcases hi.outOk name hn with hd | ⟨m, hm, _⟩
  · exact hd
  · simp at hm

/-- every automatic name in `refs` (what a later `seen` hit or `convertLazy` would emit) is a key of `$defs` too. -/
theorem c07_refs_table_resolves (g : Graph) (o : Opts) (fuel root : Nat) (st : St)
    (h : convertTop g o fuel root = some st) : ∀ b name, st.refs b = some name → name ∈ st.defs :=
  (inv_convert g o root fuel [] {} root st (inv_init g) h).refsDefs

/-! the hypotheses are inhabited:
  0 = Object{tree: 1, again: 1}   1 = Object "Node" (ID) {children: 2}   2 = Slice(3)   3 = Lazy(→ 1) -/
def exGraph : Graph
  | 0 => { base := 0, composite := true, kids := [1, 1] }
  | 1 => { base := 1, id := some "Node", composite := true, kids := [2] }
  | 2 => { base := 2, composite := true, kids := [3] }
  | 3 => { base := 3, isLazy := true, kids := [1] }
  | n => { base := n }

/-- the Lazy node refers to `Node` while Node's own conversion is still running; with Cycles:"throw" the second visit of
    instance 1 is an error. -/
example : (convertTop exGraph { reusedRef := true } 10 0).map (fun st => (st.out, st.defs))
      = some (["def2", "Node", "Node"], ["def3", "Node", "def2", "def1"]) := by decide +kernel
example : (convertTop exGraph {} 10 0).map (fun st => (st.out, st.defs)) = some (["Node", "Node"], ["Node"]) := by decide +kernel
example : (convertTop exGraph { cyclesThrow := true } 10 0).isNone = true := by decide +kernel

/-! a recursive node WITHOUT an ID (0 = Object{tree: 1}, 1 = Object{next: 2}, 2 = Lazy(→ 1)): the Lazy's target is not
    the root, so it gets its own `$defs` entry; with root = 1 the answer is `#`.  (Names as in the real converter's
    documents, /repo 16f278d.) -/
def exGraph2 : Graph
  | 0 => { base := 0, composite := true, kids := [1] }
  | 1 => { base := 1, composite := true, kids := [2] }
  | 2 => { base := 2, isLazy := true, kids := [1] }
  | n => { base := n }

example : (convertTop exGraph2 {} 10 0).map (fun st => (st.out, st.defs)) = some (["def1"], ["def1"]) := by decide +kernel
example : (convertTop exGraph2 {} 10 1).map (fun st => (st.out, st.defs)) = some ([], []) := by decide +kernel
example : (convertTop exGraph2 { reusedRef := true } 10 0).map (fun st => (st.out, st.defs)) = some (["def1"], ["def2", "def1"]) := by decide +kernel

end Gozod.C07
