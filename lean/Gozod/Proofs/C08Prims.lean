/-
  C08 — behaviour theorem for primitive schemas with checks.

  Proofs/C08.lean concludes equality of store observations.  "Same verdict and result on every input" follows through a
  bridge: Parse is a function of what `obs` reads.  For primitives with checks the Parse of a type-correct non-nil input
  IS C10's `runChecksOn` (Model/Checks.lean: internal/engine/checker.go:executeChecks and the pointer-input paths, tied to
  the code by C10's own correspondence) over the schema's check list — an observed cell (`Obs.checks = readArr h s.checks`),
  each id denoting an immutable check object (`dec`; no chaining method calls anything on a shared check object:
  `table_all_covered`).  For the remaining kinds, and for ToJSONSchema of non-object, non-holder schemas, the bridge stays a
  named assumption (`ObsDetermines`), tied by the run's behavioural fingerprints only.
-/
import Gozod.Proofs.C08
import Gozod.Model.Checks
namespace Gozod.C08
open Gozod.Store Gozod

section
variable {P O T V : Type}

def checkList (dec : Nat → Check P O) (h : Loc → Option Cell) (s : Schema) : List (Check P O) :=
  (readArr h s.checks).map dec

/-- `ptrSchema`: the `…Ptr` constructor variant, `ptrIn`: the input is handed in as a pointer -/
def primRun (env : Env P O T V) (dec : Nat → Check P O) (ptrSchema ptrIn : Bool) (h : Loc → Option Cell)
    (s : Schema) (v : V) : Run V :=
  runChecksOn env ptrSchema ptrIn (checkList dec h s) v

def primAccepts (env : Env P O T V) (dec : Nat → Check P O) (ptrSchema ptrIn : Bool) (h : Loc → Option Cell)
    (s : Schema) (v : V) : Bool :=
  (primRun env dec ptrSchema ptrIn h s v).issues.isEmpty

theorem checkList_of_obs (dec : Nat → Check P O) (h h' : Loc → Option Cell) (s : Schema)
    (e : obs h' s = obs h s) : checkList dec h' s = checkList dec h s := by
  have hc : (obs h' s).checks = (obs h s).checks := congrArg Obs.checks e
  simp only [obs] at hc
  simp [checkList, hc]

theorem primRun_of_obs (env : Env P O T V) (dec : Nat → Check P O) (ps pi : Bool) (h h' : Loc → Option Cell)
    (s : Schema) (e : obs h' s = obs h s) (v : V) : primRun env dec ps pi h' s v = primRun env dec ps pi h s v := by
  simp [primRun, checkList_of_obs dec h h' s e]

/-- one call of an op class the code has, on any live receiver: every live primitive schema — receiver, ancestors,
    siblings — runs exactly the same checks afterwards: same verdict, value and callback log on EVERY input. -/
theorem c08p_step (cfg : Cfg) (hcfg : cfg.cloneBagAlways = true) (σ : Store) (live : List Schema)
    (recv : Schema) (op : Op) (hi : Inv σ live) (hr : recv ∈ live) (hok : Op.ok op) (hm : op.isMetaSelf = false)
    (env : Env P O T V) (dec : Nat → Check P O) (ps pi : Bool) :
    ∀ s ∈ live, ∀ v : V,
      primRun env dec ps pi (applyOp cfg σ recv op).1.heap s v = primRun env dec ps pi σ.heap s v := by
  intro s hs v
  exact primRun_of_obs env dec ps pi _ _ s ((c08_step cfg hcfg σ live recv op hi hr hok hm).2.2 s hs) v

/-- along any history of chaining calls every schema that was live at the start gives the same verdict, value and log
    on every input at the end. -/
theorem c08p_hist (cfg : Cfg) (hcfg : cfg.cloneBagAlways = true) (ops : List (Nat × Op)) (σ : Store)
    (live : List Schema) (hi : Inv σ live) (hok : opsOK ops)
    (env : Env P O T V) (dec : Nat → Check P O) (ps pi : Bool) :
    ∀ s ∈ live, ∀ v : V,
      primRun env dec ps pi (runHist cfg σ live ops).1.heap s v = primRun env dec ps pi σ.heap s v ∧
      primAccepts env dec ps pi (runHist cfg σ live ops).1.heap s v = primAccepts env dec ps pi σ.heap s v := by
  intro s hs v
  have e := (c08_hist cfg hcfg ops σ live hi hok).2.2 s hs
  have h1 := primRun_of_obs env dec ps pi σ.heap (runHist cfg σ live ops).1.heap s e v
  exact ⟨h1, by simp [primAccepts, h1]⟩

/-- "…and every schema previously derived from it": what was live after any prefix of the history behaves the
    same after the rest of it. -/
theorem c08p_hist_all (cfg : Cfg) (hcfg : cfg.cloneBagAlways = true) (a b : List (Nat × Op))
    (σ : Store) (live : List Schema) (hi : Inv σ live) (ha : opsOK a) (hb : opsOK b)
    (env : Env P O T V) (dec : Nat → Check P O) (ps pi : Bool) :
    ∀ s ∈ (runHist cfg σ live a).2, ∀ v : V,
      primRun env dec ps pi (runHist cfg σ live (a ++ b)).1.heap s v =
        primRun env dec ps pi (runHist cfg σ live a).1.heap s v := by
  intro s hs v
  exact primRun_of_obs env dec ps pi _ _ s (c08_hist_all cfg hcfg a b σ live hi ha hb s hs) v

end

/-- checks 16 ↦ "length ≥ 3", anything else ↦ "length ≤ 5"; values are lengths -/
def exDec : Nat → Check Nat Unit
  | 16 => .pred 3 false none
  | _ => .pred 5 false none

def exEnv : Env Nat Unit Unit Nat := ⟨fun p v => if p = 3 then decide (3 ≤ v) else decide (v ≤ 5), fun _ v => v, fun _ v => v⟩

/-- the receiver (one check, id 16) still rejects 2 and accepts 4 and 9 after a sibling with a second check (≤ 5)
    was derived from it; the sibling rejects 9 -/
example :
    let h0 : Loc → Option Cell := upd (fun _ => none) 1 (.arr [16])
    let σ0 : Store := ⟨h0, 2⟩
    let recv : Schema := ⟨0, 1, 0, ⟨1, 1, 1⟩, none, none, none, none⟩
    let r := applyOp fixed σ0 recv (.derive 1 [24] none)
    (primAccepts exEnv exDec false false r.1.heap recv 2, primAccepts exEnv exDec false false r.1.heap recv 4,
     primAccepts exEnv exDec false false r.1.heap recv 9, primAccepts exEnv exDec false false r.1.heap r.2 9,
     primAccepts exEnv exDec false false r.1.heap r.2 4)
      = (false, true, true, false, true) := by decide

/-- ASSUMPTION `ObsDetermines` (named in the MANIFEST text): a behaviour `beh` of schemas in a store — the Parse
    verdict and result on an input, the JSON-Schema document — is a function of what the store model observes of
    the schema.  PROVED for objects (`objParse` / `objDoc`: `c08o_behaviour`), holders (`hAccept` and the document
    structure: `c08h_behaviour`) and primitives with checks (`primRun_of_obs`); ASSUMED — and tied by the run's
    behavioural fingerprints (31 probes, IsOptional/IsNilable, ToJSONSchema before and after every call) — for Struct,
    DiscriminatedUnion, Map, Set, Array, Lazy, Function, File and the documents of non-object, non-holder schemas.
    (Map, Set, Array are in both lists: `hBody`'s kinds `keyed` / `list` / `tuple` transcribe them with Record / Slice / Tuple,
    so the theorem exists, but the run's holder histories build only the latter three: for the former the transcription is
    tied to the code by the fingerprints alone.) -/
def ObsDetermines {B : Type} (beh : (Loc → Option Cell) → Schema → B) : Prop :=
  ∀ h h' s, obs h' s = obs h s → beh h' s = beh h s

/-- any behaviour the assumption holds of is unchanged for every live schema by every call -/
theorem c08_behaviour_of_bridge {B : Type} (beh : (Loc → Option Cell) → Schema → B) (hb : ObsDetermines beh)
    (cfg : Cfg) (hcfg : cfg.cloneBagAlways = true) (ops : List (Nat × Op)) (σ : Store)
    (live : List Schema) (hi : Inv σ live) (hok : opsOK ops) :
    ∀ s ∈ live, beh (runHist cfg σ live ops).1.heap s = beh σ.heap s :=
  fun s hs => hb _ _ s ((c08_hist cfg hcfg ops σ live hi hok).2.2 s hs)

/-- no assumption needed for the primitives -/
theorem primRun_obsDetermines {P O T V : Type} (env : Env P O T V) (dec : Nat → Check P O) (ps pi : Bool) :
    ObsDetermines (fun h s => fun v : V => primRun env dec ps pi h s v) :=
  fun h h' s e => funext fun v => primRun_of_obs env dec ps pi h h' s e v

end Gozod.C08
