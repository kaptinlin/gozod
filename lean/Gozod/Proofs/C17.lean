/-
  C17 — coercion preserves the value exactly or fails; it never wraps or truncates.

  Property theorems about `Gozod.Model.Coerce` (the code of `pkg/coerce` since /repo 6e2e311, the range,
  wholeness and NaN guards), helper by helper; the known finding `complex-magnitude`
  (a complex source yields its magnitude); and witnesses that the float branches of the code
  before that commit (`Coerce.Legacy`) violate the property.

  What a string denotes is a parameter (`StrSem`): the theorems assume that
  `strconv.ParseInt` / `big.Int.SetString` return the integer the text denotes and that the
  blank string denotes 0 (the library's convention), and conclude that the code around those
  calls neither changes that value nor lets it leave the target's range.

  Namespaces of the C17 modules: `C17` this file and C17Round, `C17D` C17Dispatch, `C17F` C17Float,
  `C17P` C17Parse, `C17S` C17Schema, `C17T` C17Text.
-/
import Gozod.Model.Coerce
import Gozod.Proofs.C17Round

namespace Gozod.C17
open Gozod Gozod.Coerce

deriving instance DecidableEq for Except
deriving instance DecidableEq for Val

structure StrSem where
  denInt : StrInfo → Int → Prop
  parseInt_sound : ∀ s i, s.pInt = some i → denInt s i ∧ IntTy.i64.inRange i
  big10_sound : ∀ s i, s.pBig10 = some i → denInt s i
  big16_sound : ∀ s i, s.hexPrefix = true → s.pBig16 = some i → denInt s i
  blank_zero : ∀ s, s.blank = true → denInt s 0

/-- The assumptions of `StrSem` are consistent: reading "denotes" as "one of the library calls
    returned it" (with ParseInt's results being int64s) satisfies them. -/
example (hInt : ∀ (s : StrInfo) i, s.pInt = some i → IntTy.i64.inRange i) : StrSem :=
  { denInt := fun s n => (s.blank = true ∧ n = 0) ∨ s.pInt = some n ∨ s.pBig10 = some n ∨
      (s.hexPrefix = true ∧ s.pBig16 = some n)
    parseInt_sound := fun s i h => ⟨Or.inr (Or.inl h), hInt s i h⟩
    big10_sound := fun _ _ h => Or.inr (Or.inr (Or.inl h))
    big16_sound := fun _ _ hx h => Or.inr (Or.inr (Or.inr ⟨hx, h⟩))
    blank_zero := fun _ h => Or.inl ⟨h, rfl⟩ }

/-- The source `s` denotes exactly the integer `n`; a finite float is `a / 2^k`. -/
def denotesInt (sem : StrSem) : Src → Int → Prop
  | .int _ v, n => v = n
  | .big v, n => v = n
  | .f32 (.fin a k), n => a = n * 2 ^ k
  | .f64 (.fin a k), n => a = n * 2 ^ k
  | .bool b, n => boolInt b = n
  | .str s, n => sem.denInt s n
  | _, _ => False

def wf : Src → Prop
  | .int t v => t.inRange v
  | _ => True

instance (s : Src) : Decidable (wf s) := by
  cases s <;> simp only [wf] <;> exact inferInstance

def seven : StrInfo :=
  { bytes := [55], blank := false, norm := "7", pInt := some 7, pFloat := none, pFloat32 := none,
    pBig10 := some 7, hexPrefix := false, pBig16 := none }

theorem i64_range (n : Int) : IntTy.i64.inRange n ↔ -(2 ^ 63) ≤ n ∧ n ≤ 2 ^ 63 - 1 := by
  simp [IntTy.inRange, IntTy.lo, IntTy.hi, IntTy.signed, IntTy.bits]

theorem intTy_bounds (t : IntTy) : -(2 ^ 63) ≤ t.lo ∧ t.lo ≤ 0 ∧ 1 ≤ t.hi ∧ t.hi ≤ 2 ^ 64 - 1 := by
  cases t <;> decide

theorem exists_error_of_ne_ok {α : Type} {r : R α} (h : ∀ a, r ≠ .ok a) : ∃ e, r = .error e := by
  cases r with
  | error e => exact ⟨e, rfl⟩
  | ok a => exact absurd rfl (h a)

theorem ite_error_eq_ok {α : Type} {c : Prop} [Decidable c] {e : CErr} {r : R α} {a : α} :
    (if c then .error e else r) = .ok a ↔ ¬ c ∧ r = .ok a := by
  by_cases h : c
  · rw [if_pos h]; exact ⟨(fun h' => nomatch h'), fun h' => absurd h h'.1⟩
  · rw [if_neg h]; exact ⟨fun h' => ⟨h, h'⟩, fun h' => h'.2⟩

theorem ite_else_error_eq_ok {α : Type} {c : Prop} [Decidable c] {e : CErr} {r : R α} {a : α} :
    (if c then r else .error e) = .ok a ↔ c ∧ r = .ok a := by
  by_cases h : c
  · rw [if_pos h]; exact ⟨fun h' => ⟨h, h'⟩, fun h' => h'.2⟩
  · rw [if_neg h]; exact ⟨(fun h' => nomatch h'), fun h' => absurd h'.1 h⟩

theorem mul_pow_inj (n m : Int) (k : Nat) (h : n * 2 ^ k = m * 2 ^ k) : n = m :=
  Int.eq_of_mul_eq_mul_right (Int.ne_of_gt (Int.pow_pos (by decide))) h

theorem truncInt_mul (n : Int) (k : Nat) : F.truncInt (n * 2 ^ k) k = n :=
  Int.mul_tdiv_cancel n (Int.ne_of_gt (Int.pow_pos (by decide)))

theorem floatToInt64_fin (a : Int) (k : Nat) :
    floatToInt64 (.fin a k) =
      if isWhole a k = true then
        (if F.truncInt a k < -(2 ^ 63) ∨ F.truncInt a k ≥ 2 ^ 63 then .error .overflow
         else .ok (cvtI64 (.fin a k)))
      else .error .notWhole := rfl

theorem cvtI64_fin (a : Int) (k : Nat) :
    cvtI64 (.fin a k) =
      if -(2 ^ 63) ≤ F.truncInt a k ∧ F.truncInt a k < 2 ^ 63 then F.truncInt a k else -(2 ^ 63) := rfl

theorem floatToInt64_iff (a : Int) (k : Nat) (n : Int) :
    floatToInt64 (.fin a k) = .ok n ↔ a = n * 2 ^ k ∧ IntTy.i64.inRange n := by
  rw [i64_range, floatToInt64_fin, ite_else_error_eq_ok, ite_error_eq_ok, Except.ok.injEq, cvtI64_fin, isWhole,
    beq_iff_eq]
  constructor
  · rintro ⟨hw, hr, rfl⟩
    rw [if_pos (by omega)]
    exact ⟨hw.symm, by omega⟩
  · rintro ⟨rfl, hn⟩
    rw [truncInt_mul]
    exact ⟨rfl, by omega, if_pos (by omega)⟩

theorem floatToInt64_sound (x : F) (n : Int) (h : floatToInt64 x = .ok n) :
    ∃ a k, x = .fin a k ∧ a = n * 2 ^ k ∧ IntTy.i64.inRange n := by
  cases x with
  | fin a k => exact ⟨a, k, rfl, (floatToInt64_iff a k n).mp h⟩
  | _ => cases h

/-- The fixed float branch does not fail spuriously. -/
theorem floatToInt64_complete (a : Int) (k : Nat) (n : Int) (h : a = n * 2 ^ k)
    (hr : IntTy.i64.inRange n) : floatToInt64 (.fin a k) = .ok n :=
  (floatToInt64_iff a k n).mpr ⟨h, hr⟩

theorem intToInt64_eq (t : IntTy) (v : Int) (h : t.inRange v) :
    intToInt64 t v = if v ≤ 2 ^ 63 - 1 then .ok v else .error .overflow := by
  cases t with
  | uint | u64 =>
    show (if v > 2 ^ 63 - 1 then (.error .overflow : R Int) else .ok v) = _
    by_cases hv : v ≤ 2 ^ 63 - 1
    · rw [if_pos hv, if_neg (Int.not_lt.mpr hv)]
    · rw [if_neg hv, if_pos (Int.not_le.mp hv)]
  | _ => exact (if_pos (Int.le_trans h.2 (by decide))).symm

/-- `stringToInt64` returns what the text denotes, for any reading `D` of the text that the blank
    convention and `strconv.ParseInt`'s answer respect (`StrSem` is one, `C17T.TextInt` another). -/
theorem stringToInt64_sound {D : Int → Prop} {i : StrInfo} {n : Int} (h0 : i.blank = true → D 0)
    (hp : ∀ j, i.pInt = some j → D j ∧ IntTy.i64.inRange j) (h : stringToInt64 i = .ok n) :
    D n ∧ IntTy.i64.inRange n := by
  unfold stringToInt64 at h
  split at h
  · cases h; exact ⟨h0 ‹_›, by decide⟩
  · split at h
    · cases h; exact hp _ ‹_›
    · cases h

/-- C17 (int64). Whenever `ToInt64` succeeds the result is exactly the integer the source
    denotes, and it is an int64. -/
theorem c17_int64_sound (sem : StrSem) (s : Src) (n : Int) (hwf : wf s) (h : toInt64 s = .ok n) :
    denotesInt sem s n ∧ IntTy.i64.inRange n := by
  cases s with
  | int t v =>
    rw [toInt64, intToInt64_eq t v hwf] at h
    split at h
    · cases h
      exact ⟨rfl, (i64_range _).mpr ⟨Int.le_trans (intTy_bounds t).1 hwf.1, ‹_›⟩⟩
    · cases h
  | f32 x =>
    obtain ⟨a, k, rfl, ha, hr⟩ := floatToInt64_sound x n h
    exact ⟨ha, hr⟩
  | f64 x =>
    obtain ⟨a, k, rfl, ha, hr⟩ := floatToInt64_sound x n h
    exact ⟨ha, hr⟩
  | bool b =>
    cases h
    exact ⟨rfl, by cases b <;> decide⟩
  | str i => exact stringToInt64_sound (sem.blank_zero i) (sem.parseInt_sound i) h
  | _ => cases h

example : wf (.int .u64 (2 ^ 63 - 1)) ∧ toInt64 (.int .u64 (2 ^ 63 - 1)) = .ok (2 ^ 63 - 1) ∧
    toInt64 (.f64 (.fin (-(2 ^ 63)) 0)) = .ok (-(2 ^ 63)) ∧ toInt64 (.f32 (.fin 24 3)) = .ok 3 := by decide

/-- C17 (int64, errors). A source that denotes no integer of the int64 range — NaN, ±Inf,
    a fraction, a magnitude of 2^63 or more, nil, a non-number — is an error. -/
theorem c17_int64_err (sem : StrSem) (s : Src) (hwf : wf s)
    (hno : ¬ ∃ n, denotesInt sem s n ∧ IntTy.i64.inRange n) : ∃ e, toInt64 s = .error e :=
  exists_error_of_ne_ok fun n h => hno ⟨n, c17_int64_sound sem s n hwf h⟩

example : toInt64 (.f64 (.fin (2 ^ 63) 0)) = .error .overflow ∧ toInt64 (.f64 (.fin 3 1)) = .error .notWhole ∧
    toInt64 (.int .u64 (2 ^ 63)) = .error .overflow := by decide

/- The sources the property names, one by one; these need no `StrSem` and no well-formedness hypothesis. -/
theorem c17_int64_err_nan : (∃ e, toInt64 (.f64 .nan) = .error e) ∧ (∃ e, toInt64 (.f32 .nan) = .error e) :=
  ⟨⟨_, rfl⟩, ⟨_, rfl⟩⟩

theorem c17_int64_err_inf :
    (∃ e, toInt64 (.f64 .pinf) = .error e) ∧ (∃ e, toInt64 (.f64 .ninf) = .error e) ∧
    (∃ e, toInt64 (.f32 .pinf) = .error e) ∧ (∃ e, toInt64 (.f32 .ninf) = .error e) :=
  ⟨⟨_, rfl⟩, ⟨_, rfl⟩, ⟨_, rfl⟩, ⟨_, rfl⟩⟩

theorem c17_int64_err_fractional (a : Int) (k : Nat) (hfrac : ¬ (2 : Int) ^ k ∣ a) :
    (∃ e, toInt64 (.f64 (.fin a k)) = .error e) ∧ (∃ e, toInt64 (.f32 (.fin a k)) = .error e) := by
  have key : ∃ e, floatToInt64 (.fin a k) = .error e :=
    exists_error_of_ne_ok fun n h => hfrac ⟨n, by rw [((floatToInt64_iff a k n).mp h).1, Int.mul_comm]⟩
  exact ⟨key, key⟩

/-- In particular 2^63 itself is an error. -/
theorem c17_int64_err_range (a : Int) (k : Nat) (n : Int) (ha : a = n * 2 ^ k)
    (hout : n < -(2 ^ 63) ∨ n ≥ 2 ^ 63) :
    (∃ e, toInt64 (.f64 (.fin a k)) = .error e) ∧ (∃ e, toInt64 (.f32 (.fin a k)) = .error e) := by
  have key : ∃ e, floatToInt64 (.fin a k) = .error e :=
    exists_error_of_ne_ok fun m h => by
      obtain ⟨ha', hr⟩ := (floatToInt64_iff a k m).mp h
      rw [← mul_pow_inj n m k (ha.symm.trans ha'), i64_range] at hr
      omega
  exact ⟨key, key⟩

theorem checkBounds_iff (t : IntTy) (v n : Int) (hv : IntTy.i64.inRange v) :
    checkBounds t v = .ok n ↔ n = v ∧ t.inRange v := by
  have signed (lo hi : Int) : (if v < lo ∨ v > hi then (.error .overflow : R Int) else .ok v) = .ok n ↔
      n = v ∧ lo ≤ v ∧ v ≤ hi := by
    rw [ite_error_eq_ok, Except.ok.injEq]; omega
  have unsigned (hi : Int) :
      (if v < 0 then (.error .negative : R Int) else if v > hi then .error .overflow else .ok v) = .ok n ↔
        n = v ∧ 0 ≤ v ∧ v ≤ hi := by
    rw [ite_error_eq_ok, ite_error_eq_ok, Except.ok.injEq]; omega
  cases t with
  | i64 => exact ⟨fun h => ⟨(Except.ok.inj h).symm, hv⟩, fun h => h.1 ▸ rfl⟩
  | i8 | i16 | i32 | int => exact signed _ _
  | u8 | u16 | u32 | uint | u64 => exact unsigned _

theorem toInteger_nonbool (t : IntTy) (s : Src) (hb : ∀ b, s ≠ .bool b) :
    toInteger t s = toInt64 s >>= checkBounds t := by
  cases s with
  | bool b => exact absurd rfl (hb b)
  | _ => rfl

theorem bool_inRange (t : IntTy) (b : Bool) : t.inRange (boolInt b) := by
  obtain ⟨_, hlo, hhi, _⟩ := intTy_bounds t
  cases b
  · exact ⟨hlo, Int.le_trans (by decide) hhi⟩
  · exact ⟨Int.le_trans hlo (by decide), hhi⟩

/-- `ToInteger[T]` is `ToInt64` then the bounds check: whatever `ToInt64`'s result is known to satisfy (`P`; a bool
    is answered directly, with that value), the result satisfies, and it is a value of `T`. -/
theorem toInteger_sound {P : Int → Prop} (t : IntTy) {s : Src} {n : Int}
    (h64 : ∀ v, toInt64 s = .ok v → P v ∧ IntTy.i64.inRange v) (h : toInteger t s = .ok n) : P n ∧ t.inRange n := by
  by_cases hs : ∃ b, s = .bool b
  · obtain ⟨b, rfl⟩ := hs
    cases h
    exact ⟨(h64 _ rfl).1, bool_inRange t b⟩
  · rw [toInteger_nonbool t s fun b hb => hs ⟨b, hb⟩] at h
    cases hv : toInt64 s with
    | error e => rw [hv] at h; cases h
    | ok v =>
      rw [hv] at h
      obtain ⟨hp, hr⟩ := h64 v hv
      obtain ⟨rfl, ht⟩ := (checkBounds_iff t v n hr).mp h
      exact ⟨hp, ht⟩

/-- C17 (every integer target). Whenever `ToInteger[T]` succeeds the result is exactly the
    integer the source denotes and a value of `T`: no wrap-around, no truncation. -/
theorem c17_integer_sound (sem : StrSem) (t : IntTy) (s : Src) (n : Int) (hwf : wf s)
    (h : toInteger t s = .ok n) : denotesInt sem s n ∧ t.inRange n :=
  toInteger_sound t (fun v => c17_int64_sound sem s v hwf) h

/-- C17 (every integer target, errors). A source that denotes no value of `T` — out of
    range, negative for an unsigned `T`, fractional, NaN, ±Inf, nil, a non-number — is an error. -/
theorem c17_integer_err (sem : StrSem) (t : IntTy) (s : Src) (hwf : wf s)
    (hno : ¬ ∃ n, denotesInt sem s n ∧ t.inRange n) : ∃ e, toInteger t s = .error e :=
  exists_error_of_ne_ok fun n h => hno ⟨n, c17_integer_sound sem t s n hwf h⟩

theorem c17_integer_err_negative (sem : StrSem) (t t' : IntTy) (v : Int) (hv : t'.inRange v)
    (hneg : v < 0) (hu : t.signed = false) : ∃ e, toInteger t (.int t' v) = .error e := by
  apply c17_integer_err sem t _ (show wf (.int t' v) from hv)
  rintro ⟨n, rfl, hr⟩
  have hlo : t.lo = 0 := by rw [IntTy.lo, hu]; rfl
  exact absurd (hlo ▸ hr.1) (Int.not_le.mpr hneg)

/-- So `To[int64]`, which dispatches to `ToInt64`, agrees with the other integer targets. -/
theorem c17_integer_i64_eq (s : Src) : toInteger .i64 s = toInt64 s := by
  by_cases hb : ∃ b, s = .bool b
  · obtain ⟨b, rfl⟩ := hb; rfl
  · rw [toInteger_nonbool _ s (fun b hs => hb ⟨b, hs⟩)]
    cases toInt64 s <;> rfl

example : wf (.int .u64 (2 ^ 64 - 1)) ∧ toInteger .u64 (.f64 (.fin (2 ^ 62) 0)) = .ok (2 ^ 62) ∧
    toInteger .i8 (.f32 (.fin (-256) 1)) = .ok (-128) ∧ toInt64 (.int .u64 (2 ^ 63 - 1)) = .ok (2 ^ 63 - 1) := by
  decide

theorem toFloat64_int (t : IntTy) (v : Int) : toFloat64 (.int t v) = .ok (.fin (toF64Int v) 0) := rfl
theorem toFloat64_bool (b : Bool) : toFloat64 (.bool b) = .ok (.fin (boolInt b) 0) := rfl
theorem toFloat64_f64 (x : F) : toFloat64 (.f64 x) = if x.isNaN then .error .format else .ok x := rfl
theorem toFloat64_f32 (x : F) : toFloat64 (.f32 x) = if x.isNaN then .error .format else .ok x := rfl
theorem toFloat64_str (i : StrInfo) : toFloat64 (.str i) = stringToFloat i.blank i.pFloat := rfl
theorem toFloat64_big (v : Int) : toFloat64 (.big v) = finOrOverflow (bigToF64 v) := rfl
theorem toFloat32_int (t : IntTy) (v : Int) : toFloat32 (.int t v) = .ok (.fin (toF32Int v) 0) := rfl
theorem toFloat32_f32 (x : F) : toFloat32 (.f32 x) = if x.isNaN then .error .format else .ok x := rfl
theorem toFloat32_str (i : StrInfo) : toFloat32 (.str i) = stringToFloat i.blank i.pFloat32 := rfl
theorem toFloat32_big (v : Int) : toFloat32 (.big v) = finOrOverflow (bigToF32 v) := rfl

/-- The tail of `toFloat32` for a source without a clause of its own (after `ToFloat64`): the
    `MaxFloat32` guard, then `float32(·)`. -/
def narrow32 (f : F) : R F := if absGtMaxF32 f then .error .overflow else .ok (roundF32 f)

theorem toFloat32_f64 (x : F) : toFloat32 (.f64 x) = toFloat64 (.f64 x) >>= narrow32 := rfl
theorem toFloat32_bool (b : Bool) : toFloat32 (.bool b) = toFloat64 (.bool b) >>= narrow32 := rfl

/-- C17 (int → float64): up to 2^53 in magnitude the conversion is exact. -/
theorem c17_int_to_f64_exact (t : IntTy) (v : Int) (h : v.natAbs ≤ 2 ^ 53) :
    toFloat64 (.int t v) = .ok (.fin v 0) := by
  have hr : round53 v.natAbs = v.natAbs := by
    by_cases he : v.natAbs = 2 ^ 53
    · rw [he]; decide
    · exact roundTo_exact 53 _ (by omega)
  rw [toFloat64_int]
  simp only [toF64Int, hr]
  congr 2
  split <;> omega

/-- C17 (int → float64, every 64-bit integer). `ToFloat64` of an integer succeeds with a
    float of the same sign whose magnitude is the source's magnitude correctly rounded to 53
    bits (nearest, ties to even). -/
theorem c17_int_to_f64_nearest (t : IntTy) (v : Int) (hv : t.inRange v) :
    ∃ r : Int, toFloat64 (.int t v) = .ok (.fin r 0) ∧ (0 ≤ v → 0 ≤ r) ∧ (v ≤ 0 → r ≤ 0) ∧
      CorrectlyRounded 53 v.natAbs r.natAbs := by
  have hb : v.natAbs < 2 ^ (53 + 64) := by
    have := intTy_bounds t
    have : v.natAbs < 2 ^ 64 := by have := hv.1; have := hv.2; omega
    exact Nat.lt_trans this (by decide)
  have hc := roundTo_correct 53 v.natAbs hb
  refine ⟨toF64Int v, rfl, ?_, ?_, ?_⟩
  · intro h; unfold toF64Int; split <;> omega
  · intro h; unfold toF64Int; split
    · omega
    · have : v = 0 := by omega
      subst this; decide
  · have : (toF64Int v).natAbs = round53 v.natAbs := by
      unfold toF64Int; split <;> omega
    rw [this]; exact hc

example : IntTy.i64.inRange (2 ^ 53 + 1) ∧ toFloat64 (.int .i64 (2 ^ 53 + 1)) = .ok (.fin (2 ^ 53) 0) ∧
    toFloat64 (.int .i64 (2 ^ 53 + 3)) = .ok (.fin (2 ^ 53 + 4) 0) ∧
    toFloat64 (.int .u64 (2 ^ 64 - 1)) = .ok (.fin (2 ^ 64) 0) := by decide

/-- `float32(float64)` on ties and at the subnormal edge (the cases the harness also runs);
    2^128−2^103 is the overflow tie. -/
example : roundF32 (.fin (2 ^ 24 + 1) 24) = .fin (2 ^ 23) 23 ∧ roundF32 (.fin (2 ^ 24 + 3) 24) = .fin (2 ^ 23 + 2) 23 ∧
    roundF32 (.fin 1 150) = .fin 0 149 ∧ roundF32 (.fin 3 150) = .fin 2 149 ∧
    roundF32 (.fin (2 ^ 128 - 2 ^ 103) 0) = .pinf ∧ roundF32 (.fin (2 ^ 128 - 2 ^ 103 - 1) 0) = .fin ((2 ^ 24 - 1) * 2 ^ 104) 0 := by
  decide

/-- Neither NaN nor ±Inf. -/
def F.finite : F → Prop
  | .fin _ _ => True
  | _ => False

theorem F.finite_of {r : F} (h1 : r ≠ .nan) (h2 : r ≠ .pinf) (h3 : r ≠ .ninf) : F.finite r := by
  cases r with
  | fin a k => trivial
  | nan => exact absurd rfl h1
  | pinf => exact absurd rfl h2
  | ninf => exact absurd rfl h3

theorem roundFin_f32_finite (a : Int) (k : Nat) (h : absGtMaxF32 (.fin a k) = false) :
    F.finite (roundFin 24 149 128 a k) := by
  have hle : a.natAbs ≤ (2 ^ 24 - 1) * 2 ^ 104 * 2 ^ k := by
    simp only [absGtMaxF32, decide_eq_false_iff_not, Int.not_lt] at h
    have e : maxF32 * 2 ^ k = (((2 ^ 24 - 1) * 2 ^ 104 * 2 ^ k : Nat) : Int) := by
      have e0 : maxF32 = (((2 ^ 24 - 1) * 2 ^ 104 : Nat) : Int) := by decide
      rw [e0, Int.natCast_mul ((2 ^ 24 - 1) * 2 ^ 104) (2 ^ k), Int.natCast_pow]; rfl
    rw [e] at h
    exact Int.ofNat_le.mp h
  -- `MaxFloat32 = (2^24 − 1)·2^104` is a float32, so rounding stays below it, hence below `2^128`
  have hlt := Nat.lt_of_le_of_lt (roundMag_le 24 149 a.natAbs k (2 ^ 24 - 1) 104 (by decide) hle)
    (Nat.mul_lt_mul_of_pos_right (by decide : (2 ^ 24 - 1) * 2 ^ 104 < 2 ^ 128) (Nat.pow_pos (by decide)))
  obtain ⟨m, k', hrm, h | ⟨hge, _⟩⟩ := roundFin_cases 24 149 128 a k <;> rw [hrm] at hlt
  · rw [h]; trivial
  · exact absurd hlt (Nat.not_lt.mpr hge)

theorem roundF32_finite (x : F) (hx : F.finite x) (h : absGtMaxF32 x = false) : F.finite (roundF32 x) := by
  cases x with
  | fin a k => exact roundFin_f32_finite a k h
  | _ => exact hx.elim

def finiteSrc : Src → Prop
  | .f32 x => x ≠ .pinf ∧ x ≠ .ninf
  | .f64 x => x ≠ .pinf ∧ x ≠ .ninf
  | .str s => s.pFloat ≠ some .pinf ∧ s.pFloat ≠ some .ninf ∧ s.pFloat32 ≠ some .pinf ∧ s.pFloat32 ≠ some .ninf
  | .cplx _ _ _ => False     -- complex sources are the known finding `complex-magnitude`
  | _ => True

theorem notNaN_eq_ok {x r : F} :
    (if x.isNaN then (.error .format : R F) else .ok x) = .ok r ↔ r = x ∧ x ≠ .nan := by
  cases x <;> simp [F.isNaN, eq_comm]

theorem stringToFloat_ok (b : Bool) (p : Option F) (r : F) (h : stringToFloat b p = .ok r) :
    (b = true ∧ r = .fin 0 0) ∨ (p = some r ∧ r ≠ .nan) := by
  unfold stringToFloat at h
  cases b with
  | true => exact .inl ⟨rfl, (Except.ok.inj h).symm⟩
  | false =>
    cases p with
    | none => cases h
    | some f =>
      obtain ⟨rfl, hn⟩ := notNaN_eq_ok.mp h
      exact .inr ⟨rfl, hn⟩

theorem stringToFloat_finite (b : Bool) (p : Option F) (r : F) (h : stringToFloat b p = .ok r)
    (hp : p ≠ some .pinf ∧ p ≠ some .ninf) : F.finite r := by
  rcases stringToFloat_ok b p r h with ⟨_, rfl⟩ | ⟨rfl, hn⟩
  · trivial
  · exact F.finite_of hn (fun e => hp.1 (e ▸ rfl)) (fun e => hp.2 (e ▸ rfl))

theorem finOrOverflow_ok (x r : F) (h : finOrOverflow x = .ok r) : r = x ∧ ∃ a k, r = .fin a k := by
  cases x with
  | fin a k => cases h; exact ⟨rfl, a, k, rfl⟩
  | _ => cases h

def float64Post (r : F) : Src → Prop
  | .f64 x => r = x ∧ x ≠ .nan
  | .f32 x => r = x ∧ x ≠ .nan
  | .int _ v => r = .fin (toF64Int v) 0
  | .bool b => r = .fin (boolInt b) 0
  | .str i => (i.blank = true ∧ r = .fin 0 0) ∨ (i.pFloat = some r ∧ r ≠ .nan)
  | .big v => r = bigToF64 v
  | .cplx _ _ mag => r = mag      -- the magnitude: the known finding, not a value-preserving result
  | _ => False

/-- C17 (float targets, value). What a successful `ToFloat64` returns, by source kind (`float64Post`); the rounding of
    an integer is `c17_int_to_f64_nearest`, of a big integer `C17F.toFloat64_big_value`. -/
theorem c17_float64_sound (s : Src) (r : F) (h : toFloat64 s = .ok r) : float64Post r s := by
  cases s with
  | int t v => cases h; rfl
  | bool b => cases h; rfl
  | f32 x => exact notNaN_eq_ok.mp h
  | f64 x => exact notNaN_eq_ok.mp h
  | str i => exact stringToFloat_ok _ _ r h
  | big v => rw [toFloat64_big] at h; exact (finOrOverflow_ok _ _ h).1
  | cplx re im mag => cases h; rfl
  | nilptr => cases h
  | other => cases h

/-- C17 (float64 target): a finite source never becomes ±Inf, and NaN never comes out. -/
theorem c17_float64_finite (s : Src) (r : F) (hfin : finiteSrc s) (h : toFloat64 s = .ok r) :
    F.finite r := by
  have hp := c17_float64_sound s r h
  cases s with
  | int t v => exact hp ▸ trivial
  | bool b => exact hp ▸ trivial
  | f32 x => exact hp.1 ▸ F.finite_of hp.2 hfin.1 hfin.2
  | f64 x => exact hp.1 ▸ F.finite_of hp.2 hfin.1 hfin.2
  | str i => exact stringToFloat_finite _ _ r h ⟨hfin.1, hfin.2.1⟩
  | big v =>
    rw [toFloat64_big] at h
    obtain ⟨_, a, k, rfl⟩ := finOrOverflow_ok _ _ h
    trivial
  | cplx re im mag => exact hfin.elim
  | nilptr => exact hp.elim
  | other => exact hp.elim

theorem toFloat32_of64 {s : Src} {r : F} (h32 : toFloat32 s = toFloat64 s >>= narrow32) (h : toFloat32 s = .ok r) :
    ∃ f, toFloat64 s = .ok f ∧ absGtMaxF32 f = false ∧ r = roundF32 f := by
  rw [h32] at h
  cases h64 : toFloat64 s with
  | error e => rw [h64] at h; cases h
  | ok f =>
    rw [h64] at h
    obtain ⟨hg, hr⟩ := ite_error_eq_ok.mp h
    exact ⟨f, rfl, by simpa using hg, (Except.ok.inj hr).symm⟩

/-- C17 (float32 target): overflow is an error, never ±Inf. Whatever finite source
    `ToFloat[float32]` accepts, the result is a finite float32. -/
theorem c17_f32_no_inf (s : Src) (r : F) (hfin : finiteSrc s) (h : toFloat32 s = .ok r) :
    F.finite r := by
  have narrowed (h32 : toFloat32 s = toFloat64 s >>= narrow32) : F.finite r := by
    obtain ⟨f, h64, hg, rfl⟩ := toFloat32_of64 h32 h
    exact roundF32_finite f (c17_float64_finite s f hfin h64) hg
  cases s with
  | int t v => cases h; trivial
  | f32 x =>
    obtain ⟨rfl, hn⟩ := notNaN_eq_ok.mp h
    exact F.finite_of hn hfin.1 hfin.2
  | str i => exact stringToFloat_finite _ _ r h ⟨hfin.2.2.1, hfin.2.2.2⟩
  | big v =>
    rw [toFloat32_big] at h
    obtain ⟨_, a, k, rfl⟩ := finOrOverflow_ok _ _ h
    trivial
  | f64 x => exact narrowed rfl
  | bool b => exact narrowed rfl
  | cplx re im mag => exact hfin.elim
  | nilptr => cases h
  | other => cases h

example : finiteSrc (.f64 (.fin 1 1)) ∧ toFloat32 (.f64 (.fin 1 1)) = .ok (.fin 1 1) ∧
    finiteSrc (.f64 (.fin (2 ^ 128) 0)) ∧ toFloat32 (.f64 (.fin (2 ^ 128) 0)) = .error .overflow ∧
    toFloat32 (.int .i64 (2 ^ 60 + 2 ^ 36 + 1)) = .ok (.fin (2 ^ 60 + 2 ^ 37) 0) := by
  refine ⟨by simp [finiteSrc], by decide, by simp [finiteSrc], by decide, by decide⟩

/-- C17 (NaN), all targets, not only float64 as the name suggests: a NaN source is an error on every path, as a
    float value and as text (`ParseFloat` returning NaN). -/
theorem c17_float64_nan_err :
    (∃ e, toFloat64 (.f64 .nan) = .error e) ∧ (∃ e, toFloat64 (.f32 .nan) = .error e) ∧
    (∃ e, toFloatF64 (.f64 .nan) = .error e) ∧ (∃ e, toFloatF64 (.f32 .nan) = .error e) ∧
    (∃ e, toFloat32 (.f32 .nan) = .error e) ∧ (∃ e, toFloat32 (.f64 .nan) = .error e) ∧
    (∃ e, Coerce.toBool (Src.f64 .nan) = .error e) ∧ (∃ e, Coerce.toBool (Src.f32 .nan) = .error e) ∧
    (∀ t, ∃ e, toInteger t (.f64 .nan) = .error e) ∧ (∀ t, ∃ e, toInteger t (.f32 .nan) = .error e) ∧
    (∃ e, toBigInt (.f64 .nan) = .error e) ∧ (∃ e, toBigInt (.f32 .nan) = .error e) ∧
    (∀ i : StrInfo, i.blank = false → i.pFloat = some .nan → ∃ e, toFloat64 (.str i) = .error e) ∧
    (∀ i : StrInfo, i.blank = false → i.pFloat32 = some .nan → ∃ e, toFloat32 (.str i) = .error e) := by
  refine ⟨⟨_, rfl⟩, ⟨_, rfl⟩, ⟨_, rfl⟩, ⟨_, rfl⟩, ⟨_, rfl⟩, ⟨_, rfl⟩, ⟨_, rfl⟩, ⟨_, rfl⟩,
    fun t => ⟨_, rfl⟩, fun t => ⟨_, rfl⟩, ⟨_, rfl⟩, ⟨_, rfl⟩, ?_, ?_⟩
  · intro i hb hp
    refine ⟨.format, ?_⟩
    rw [toFloat64_str]; simp [stringToFloat, hb, hp, F.isNaN]
  · intro i hb hp
    refine ⟨.format, ?_⟩
    rw [toFloat32_str]; simp [stringToFloat, hb, hp, F.isNaN]

/-- `back` is the `float(int64(x))` of the code's round-trip test; only its value at MinInt64 (what an out-of-range
    conversion yields) is used, so one lemma serves both widths. -/
theorem floatToBig_sound (back : Int → Int) (hback : back (-(2 ^ 63)) = -(2 ^ 63)) (x : F) (n : Int)
    (h : floatToBig back x = .ok n) : ∃ a k, x = .fin a k ∧ a = n * 2 ^ k := by
  unfold floatToBig at h
  cases x with
  | nan => cases h
  | pinf => cases h
  | ninf => cases h
  | fin a k =>
    refine ⟨a, k, rfl, ?_⟩
    have hp : (0 : Int) < 2 ^ k := Int.pow_pos (by decide)
    simp only [F.cmp, Int.pow_zero, Int.mul_one] at h
    split at h
    · rename_i heq
      injection h with h
      injection heq with heq
      rw [Int.compare_eq_eq] at heq
      generalize hB : back (cvtI64 (.fin a k)) = B at heq
      have ht : F.truncInt a k = B := by
        unfold F.truncInt; rw [← heq]
        exact Int.mul_tdiv_cancel _ (Int.ne_of_gt hp)
      rw [cvtI64_fin] at h hB
      by_cases hr : -(2 ^ 63) ≤ F.truncInt a k ∧ F.truncInt a k < 2 ^ 63
      · rw [if_pos hr] at h
        rw [← heq, ← ht, h]
      · rw [if_neg hr] at hB
        rw [hback] at hB
        omega
    · cases h

theorem toF64Int_min : toF64Int (-(2 ^ 63)) = -(2 ^ 63) := by decide
theorem toF32Int_min : toF32Int (-(2 ^ 63)) = -(2 ^ 63) := by decide

theorem stringToBig_sound {D : Int → Prop} {i : StrInfo} {n : Int} (h0 : i.blank = true → D 0)
    (h10 : ∀ j, i.pBig10 = some j → D j) (h16 : ∀ j, i.hexPrefix = true → i.pBig16 = some j → D j)
    (h : stringToBig i = .ok n) : D n := by
  unfold stringToBig at h
  split at h
  · cases h; exact h0 ‹_›
  · split at h
    · cases h; exact h10 _ ‹_›
    · obtain ⟨hx, h⟩ := ite_else_error_eq_ok.mp h
      split at h
      · cases h; exact h16 _ hx ‹_›
      · cases h

/-- C17 (big integer). Whenever `ToBigInt` succeeds the result is exactly the integer the
    source denotes (floats: whole values only; text: what `SetString` read, base 10 or `0x`). -/
theorem c17_bigint_sound (sem : StrSem) (s : Src) (n : Int) (h : toBigInt s = .ok n) :
    denotesInt sem s n := by
  cases s with
  | int t v => exact Except.ok.inj h
  | bool b => exact Except.ok.inj h
  | f32 x =>
    obtain ⟨a, k, rfl, ha⟩ := floatToBig_sound toF32Int toF32Int_min x n h
    exact ha
  | f64 x =>
    obtain ⟨a, k, rfl, ha⟩ := floatToBig_sound toF64Int toF64Int_min x n h
    exact ha
  | str i => exact stringToBig_sound (sem.blank_zero i) (sem.big10_sound i) (sem.big16_sound i) h
  | _ => cases h

example : toBigInt (.f64 (.fin (-(2 ^ 63)) 0)) = .ok (-(2 ^ 63)) ∧ toBigInt (.f32 (.fin 12 2)) = .ok 3 ∧
    toBigInt (.f64 (.fin (2 ^ 63) 0)) = .error .notWhole ∧ toBigInt (.f64 (.fin 3 1)) = .error .notWhole ∧
    toBigInt (.int .u64 (2 ^ 64 - 1)) = .ok (2 ^ 64 - 1) := by decide

/-- C17 (bool): the documented truthy table for text (after trimming and lowering). -/
theorem c17_bool_table :
    boolTable "true" = some true ∧ boolTable "1" = some true ∧ boolTable "yes" = some true ∧
    boolTable "on" = some true ∧ boolTable "y" = some true ∧
    boolTable "false" = some false ∧ boolTable "0" = some false ∧ boolTable "no" = some false ∧
    boolTable "off" = some false ∧ boolTable "n" = some false ∧ boolTable "" = some false ∧
    boolTable "2" = none ∧ boolTable "t" = none ∧ boolTable "truee" = none := by decide

def boolPost (b : Bool) : Src → Prop
  | .bool b' => b = b'
  | .int _ v => (b = true ↔ v ≠ 0)
  | .f32 (.fin a _) => (b = true ↔ a ≠ 0)
  | .f64 (.fin a _) => (b = true ↔ a ≠ 0)
  | .f32 .pinf | .f32 .ninf | .f64 .pinf | .f64 .ninf => b = true
  | .str i => boolTable i.norm = some b
  | _ => False

/-- C17 (bool). A bool is returned unchanged; a number is true exactly when it is not zero
    (NaN is an error); text goes through the table. -/
theorem c17_bool_sound (s : Src) (b : Bool) (h : Coerce.toBool s = .ok b) : boolPost b s := by
  have float (x : F) (h : (if x.isNaN then .error .format else .ok (!isZero x) : R Bool) = .ok b) :
      boolPost b (.f32 x) ∧ boolPost b (.f64 x) := by
    obtain ⟨hn, hb⟩ := ite_error_eq_ok.mp h
    cases hb
    cases x with
    | fin a k => simp [boolPost, isZero]
    | nan => exact absurd rfl hn
    | _ => exact ⟨rfl, rfl⟩
  cases s with
  | bool b' => exact (Except.ok.inj h).symm
  | int t v => cases h; simp [boolPost]
  | f32 x => exact (float x h).1
  | f64 x => exact (float x h).2
  | str i =>
    simp only [Coerce.toBool] at h
    cases hb : boolTable i.norm with
    | none => rw [hb] at h; cases h
    | some b' => rw [hb] at h; cases h; exact hb
  | _ => cases h

example : Coerce.toBool (.int .i8 (-2)) = .ok true ∧ Coerce.toBool (.f64 (.fin 0 1074)) = .ok false ∧
    Coerce.toBool (.f32 .ninf) = .ok true ∧ Coerce.toBool (.str { seven with norm := "yes" }) = .ok true ∧
    Coerce.toBool (.str seven) = .error .format := by decide

theorem to_int (f g : F → List Nat) (ty : IntTy) (s : Src) :
    to f g (.int ty) s = Val.int <$> toInteger ty s := by
  cases ty with
  | i64 => rw [c17_integer_i64_eq]; rfl
  | _ => rfl

/-- `uint`/`uint64` values above MaxInt64 always fail (the intermediate is an int64): the only
    spurious failures for integer sources. -/
theorem toInteger_int_iff (t t' : IntTy) (v : Int) (hv : t'.inRange v) :
    toInteger t (.int t' v) = .ok v ↔ (t.inRange v ∧ v ≤ 2 ^ 63 - 1) := by
  show (intToInt64 t' v >>= checkBounds t) = .ok v ↔ _
  rw [intToInt64_eq t' v hv]
  by_cases hle : v ≤ 2 ^ 63 - 1
  · rw [if_pos hle]
    have h64 : IntTy.i64.inRange v := (i64_range v).mpr ⟨Int.le_trans (intTy_bounds t').1 hv.1, hle⟩
    exact (checkBounds_iff t v v h64).trans ⟨fun h => ⟨h.2, hle⟩, fun h => ⟨rfl, h.1⟩⟩
  · rw [if_neg hle]
    exact ⟨(fun h => nomatch h), fun h => absurd h.2 hle⟩

/-- Known finding `complex-magnitude`. The full statement for float targets: a successful
    `ToFloat64` of a source that denotes a real number `x` returns `x` itself. A complex source
    denotes a real when its imaginary part is zero (`.fin 0 k`); the bound `im` only names that
    part. -/
def c17_float64_full : Prop :=
  ∀ (s : Src) (x r : F), (s = .f64 x ∨ s = .f32 x ∨ ∃ im mag k, s = .cplx x (.fin 0 k) mag ∧ im = F.fin 0 k) →
    toFloat64 s = .ok r → r = x

/-- Partial: true for every float source (the excluded region is exactly the complex sources). -/
theorem c17_float64_partial (x r : F) :
    (toFloat64 (.f64 x) = .ok r → r = x) ∧ (toFloat64 (.f32 x) = .ok r → r = x) :=
  ⟨fun h => (c17_float64_sound _ r h).1, fun h => (c17_float64_sound _ r h).1⟩

/-- Witness: the full statement is false on complex sources — `complex(-3, 0)` (the code computes
    `math.Sqrt(9 + 0) = 3`) comes out as `3`. -/
theorem complex_magnitude_witness : ¬ c17_float64_full := by
  intro h
  have := h (.cplx (.fin (-3) 0) (.fin 0 0) (.fin 3 0)) (.fin (-3) 0) (.fin 3 0)
    (Or.inr (Or.inr ⟨.fin 0 0, .fin 3 0, 0, rfl, rfl⟩)) rfl
  revert this; decide

/-- Legacy `ToInt64(float64(1<<63))`: passes `x > math.MaxInt64` (the constant rounds to 2^63)
    and wraps to MinInt64; the fixed code reports overflow. -/
theorem legacy_int64_wraps_f64 :
    Legacy.toInt64F64 (.fin (2 ^ 63) 0) = .ok (-(2 ^ 63)) ∧
    toInt64 (.f64 (.fin (2 ^ 63) 0)) = .error .overflow := by decide

/-- Legacy `ToInt64(float32)` has no range test: 2^100 and +Inf become MinInt64. -/
theorem legacy_int64_wraps_f32 :
    Legacy.toInt64F32 (.fin (2 ^ 100) 0) = .ok (-(2 ^ 63)) ∧ Legacy.toInt64F32 .pinf = .ok (-(2 ^ 63)) ∧
    toInt64 (.f32 (.fin (2 ^ 100) 0)) = .error .overflow ∧ toInt64 (.f32 .pinf) = .error .overflow := by
  decide

/-- Legacy `ToInteger[T](float32)` has no wholeness test: 1.5 → 1, and −0.5 → 0 into uint8. -/
theorem legacy_integer_truncates :
    Legacy.toIntegerF32 .i32 (.fin 3 1) = .ok 1 ∧ Legacy.toIntegerF32 .u8 (.fin (-1) 1) = .ok 0 ∧
    toInteger .i32 (.f32 (.fin 3 1)) = .error .notWhole ∧
    toInteger .u8 (.f32 (.fin (-1) 1)) = .error .notWhole := by decide

/-- Legacy `ToInteger[int64]`: a float32 NaN and float64 2^63 become MinInt64. -/
theorem legacy_integer_nan :
    Legacy.toIntegerF32 .i64 .nan = .ok (-(2 ^ 63)) ∧
    Legacy.toIntegerF64 .i64 (.fin (2 ^ 63) 0) = .ok (-(2 ^ 63)) ∧
    toInteger .i64 (.f32 .nan) = .error .notWhole := by decide

/-- So `floatToInt64_sound`'s statement is false for the legacy code. -/
theorem legacy_not_sound :
    ¬ ∀ x n, Legacy.toInt64F64 x = .ok n → ∃ a k, x = .fin a k ∧ a = n * 2 ^ k := by
  intro h
  obtain ⟨a, k, he, ha⟩ := h (.fin (2 ^ 63) 0) (-(2 ^ 63)) (by decide)
  injection he with h1 h2
  subst h1; subst h2
  revert ha; decide

end Gozod.C17
