/-
  C15 — Parse through a caller's pointer (`Gozod.Graph.parsePtrS`, the model of validatePointer after /repo e584c0e).

  First for the `own` language with a pointer-typed root (`parsePtrS`): the call only allocates, the caller's own pointer
  comes back exactly when the validated value is the value it refers to, and otherwise a pointer allocated by the call.
  Then for every variant of every schema (`parsePtrP`), and last what "the same value" means for floats.
-/
import Gozod.Proofs.C15Own

namespace Gozod.C15
open Gozod.Graph

theorem parsePtrS_ext (s : GSchema) (σ : GStore) (p : Loc) : GExt σ.next σ (parsePtrS false s σ p).1 := by
  unfold parsePtrS
  split
  · next v _ =>
    have e := parseS_ext s σ v
    split
    · exact e
    · simp only [Bool.false_eq_true, ↓reduceIte]
      split
      · exact e
      · split
        · exact e
        · exact e.seq (galloc_ext _ _ _ (Nat.le_refl _))
  · exact GExt.refl _ _

set_option linter.unusedVariables false in
/-- without an overwrite, Parse through a caller's pointer only allocates.  NOT USED, here and wherever a statement of this file
    carries them: `hn`, `ho`; such a statement is the lemma above it (here `parsePtrS_ext`) under the name the check's
    theorem list cites. -/
theorem own_ptr_input_unchanged (s : GSchema) (σ : GStore) (p : Loc) (n : Nat) (hn : n ≤ σ.next) (ho : OwnedS n σ.heap s) :
    GExt σ.next σ (parsePtrS false s σ p).1 :=
  parsePtrS_ext s σ p

theorem own_ptr_same_pointer (s : GSchema) (σ : GStore) (p : Loc) (v w : GVal) (hp : readG σ.heap p = [(0, v)])
    (hw : (parseS s σ v).2 = some w) (hsame : sameV gdepth w v = true) :
    (parsePtrS false s σ p).2 = some (.ref p) := by
  unfold parsePtrS
  rw [hp]
  simp only [hw, hsame, Bool.false_eq_true, ↓reduceIte]

theorem own_ptr_own_pointer (s : GSchema) (σ : GStore) (p : Loc) (v w : GVal) (hp : readG σ.heap p = [(0, v)])
    (hw : (parseS s σ v).2 = some w) (hdiff : sameV gdepth w v = false)
    (hent : sameEntriesV (parseS s σ v).1.heap w v = false) :
    (parsePtrS false s σ p).2 = some (.ref (parseS s σ v).1.next) ∧
    readG (parsePtrS false s σ p).1.heap (parseS s σ v).1.next = [(0, w)] := by
  unfold parsePtrS
  rw [hp]
  simp only [hw, hdiff, hent, Bool.false_eq_true, ↓reduceIte]
  exact ⟨rfl, readG_galloc_new _ _⟩

/-- the code since /repo 3302475 -/
theorem own_ptr_same_entries (s : GSchema) (σ : GStore) (p : Loc) (v w : GVal) (hp : readG σ.heap p = [(0, v)])
    (hw : (parseS s σ v).2 = some w) (hent : sameEntriesV (parseS s σ v).1.heap w v = true) :
    (parsePtrS false s σ p).2 = some (.ref p) := by
  unfold parsePtrS
  rw [hp]
  simp only [hw, hent, Bool.false_eq_true, ↓reduceIte]
  split <;> rfl

/-- cell 1 = the caller's map `{9: 7, 10: 7}` (key 10 unknown to the schema), cell 2 = the caller's variable holding it -/
def σp : GStore :=
  { heap := gupd (gupd (fun _ => none) 1 [(9, .scalar 7), (10, .scalar 7)]) 2 [(0, .ref 1)], next := 3 }

/-- Witness (the code before e584c0e, `*ptr = v`): `Object({9: any}).Parse(&m)` stored the stripped result map through
    the pointer: the caller's variable (cell 2) refers to another map afterwards; the fixed code leaves it alone and answers
    with a pointer of its own. -/
theorem legacy_ptr_pointee_replaced :
    let s := GSchema.obj .strip [9] (fun _ => .any)
    reach gdepth (parsePtrS true s σp 2).1.heap (.ref 2) ≠ reach gdepth σp.heap (.ref 2) ∧
    ser gdepth (parsePtrS true s σp 2).1.heap (.ref 2) ≠ ser gdepth σp.heap (.ref 2) ∧
    reach gdepth (parsePtrS false s σp 2).1.heap (.ref 2) = reach gdepth σp.heap (.ref 2) ∧
    ser gdepth (parsePtrS false s σp 2).1.heap (.ref 2) = ser gdepth σp.heap (.ref 2) ∧
    isRef (parsePtrS false s σp 2).2 4 = true ∧ isRef (parsePtrS true s σp 2).2 2 = true := by decide +kernel

/-- the hypotheses of `own_ptr_same_pointer` are met: a slice schema hands back the caller's slice itself -/
example :
    let σ : GStore := { heap := gupd (gupd (fun _ => none) 1 [(0, .scalar 7)]) 2 [(0, .ref 1)], next := 3 }
    isRef (parsePtrS false (.slice .any) σ 2).2 2 = true := by decide +kernel

/-! ### the pointer clause over every variant of every schema (`parsePtrP`)

    `wantSame` is the documented answer, written from schema and pointee alone: `some true` = "looks like the pointee, so
    the caller's pointer comes back" (`ptr_same_pointer_full`, for /repo 3302475; `legacy_objptr_own_pointer` is the witness
    for the code before it, class ptr:parse:different-pointer:ZodObject).  Non-object roots hand back the value they were
    given (`sameValue`); an object's new map holds exactly the caller's entries (`sameEntries`).  Where the documented
    answer differs from the pointee (`some false`) the two clauses of the property cannot hold together to the letter
    (`ptr_clauses_exclusive`, `ptr_letter_conflict`): a pointer of its own is the only answer. -/

def rootObj : GSchema → Bool
  | .obj _ _ _ => true
  | .dflt _ t => rootObj t
  | _ => false

theorem parsePtrP_ext (ps : PSchema) (σ : GStore) (p : Loc) : GExt σ.next σ (parsePtrP ps σ p).1 := by
  unfold parsePtrP
  split
  · split
    · exact parsePtrS_ext _ σ p
    · split
      · exact GExt.refl _ _
      · split
        · exact parseS_ext _ σ _
        · exact GExt.refl _ _
  · exact GExt.refl _ _

set_option linter.unusedVariables false in
/-- NOT USED: `hn`, `ho` (`parsePtrP_ext`) -/
theorem ptrP_input_unchanged (ps : PSchema) (σ : GStore) (p : Loc) (n : Nat) (hn : n ≤ σ.next) (ho : OwnedS n σ.heap ps.s) :
    GExt σ.next σ (parsePtrP ps σ p).1 :=
  parsePtrP_ext ps σ p

set_option linter.unusedVariables false in
/-- first clause, pointer half: what the caller sees through its pointer — cells and look — is what it saw
    (NOT USED: `hn`, `ho`) -/
theorem ptrP_pointee_unchanged (ps : PSchema) (σ : GStore) (p : Loc) (n : Nat) (hn : n ≤ σ.next) (ho : OwnedS n σ.heap ps.s)
    (hb : ∀ x ∈ reach gdepth σ.heap (.ref p), x < σ.next) :
    reach gdepth (parsePtrP ps σ p).1.heap (.ref p) = reach gdepth σ.heap (.ref p) ∧
    ser gdepth (parsePtrP ps σ p).1.heap (.ref p) = ser gdepth σ.heap (.ref p) :=
  g_graph_frame gdepth σ.next σ _ _ (parsePtrP_ext ps σ p) hb

theorem keepsRoot_under : ∀ s, takesPtr s = true → rootObj s = false → keepsRoot (underDflt s) = true
  | .dflt _ t, ht, hr => keepsRoot_under t ht hr
  | .any, _, _ | .str _, _, _ | .slice _, _, _ | .record _, _, _ => rfl
  | .lit _ _, ht, _ | .union _ _, ht, _ => nomatch ht
  | .obj _ _ _, _, hr => nomatch hr

/-- `parseS_keeps` for what a pointer-typed schema validates the pointee with (`underDflt`), object roots apart -/
theorem parse_keeps : ∀ (s : GSchema), takesPtr s = true → rootObj s = false → ∀ (σ : GStore) (v w : GVal),
    (parseS (underDflt s) σ v).2 = some w → w = v :=
  fun s ht hr _ _ _ h => parseS_keeps (keepsRoot_under s ht hr) h

theorem sameV_flat (v : GVal) (hf : ∀ fs, v ≠ .agg fs) : sameV gdepth v v = true := by
  cases v with
  | agg fs => exact absurd rfl (hf fs)
  | _ => simp [gdepth, sameV]

/-- an accepted pointer went through `validatePointer` with the type's own validator (`underDflt`), which accepted the pointee -/
theorem ptr_accepted {ps : PSchema} {σ : GStore} {p : Loc} {v : GVal} {b : Bool} (hw : wantSame ps σ p = some b)
    (hp : readG σ.heap p = [(0, v)]) (hacc : (parsePtrP ps σ p).2.isSome = true) :
    ps.kind.ptrTyped = true ∧ takesPtr ps.s = true ∧ parsePtrP ps σ p = parsePtrS false (underDflt ps.s) σ p ∧
    ∃ w, (parseS (underDflt ps.s) σ v).2 = some w := by
  have hk : ps.kind.ptrTyped = true := by
    unfold wantSame at hw
    split at hw
    · assumption
    · cases hw
  have ht : takesPtr ps.s = true := by
    cases h : takesPtr ps.s
    · simp only [parsePtrP, h, Bool.false_eq_true, ↓reduceIte, Option.isSome_none] at hacc
    · rfl
  have he : parsePtrP ps σ p = parsePtrS false (underDflt ps.s) σ p := by simp only [parsePtrP, ht, hk, ↓reduceIte]
  refine ⟨hk, ht, he, ?_⟩
  rw [he] at hacc
  cases hq : (parseS (underDflt ps.s) σ v).2 with
  | none => simp only [parsePtrS, hp, hq, Option.isSome_none, Bool.false_eq_true] at hacc
  | some w => exact ⟨w, rfl⟩

theorem ptr_same_pointer_nonobj (ps : PSchema) (hno : rootObj ps.s = false) (σ : GStore) (p : Loc) (v : GVal)
    (hp : readG σ.heap p = [(0, v)]) (hf : ∀ fs, v ≠ .agg fs) (hacc : (parsePtrP ps σ p).2.isSome = true)
    (hw : wantSame ps σ p = some true) : (parsePtrP ps σ p).2 = some (.ref p) := by
  obtain ⟨_, ht, he, w, hq⟩ := ptr_accepted hw hp hacc
  obtain rfl := parse_keeps ps.s ht hno σ v w hq
  rw [he]
  exact own_ptr_same_pointer _ σ p w w hp hq (sameV_flat w hf)

theorem fold_obj_all (mode : ObjMode) (fields : List Nat) (pk : Nat → GStore → GVal → GStore × Option GVal) :
    ∀ (es : Entries) (σ : GStore) (out : Entries), (∀ p ∈ es, mode = .strip → fields.contains p.1 = true) →
    (foldEntries (objStep mode fields pk) es σ).2 = some out → out = es := by
  intro es σ out hk h
  rw [fold_obj_out mode fields pk es σ out h]
  exact List.filter_eq_self.2 (fun p hp => by cases mode <;> first | exact hk p hp rfl | rfl)

theorem find_self (es : Entries) (hn : (es.map (·.1)).Nodup) (p : Nat × GVal) (hp : p ∈ es) :
    es.find? (fun q => q.1 == p.1) = some p := Assoc.find?_key hn hp

/-- the pointee is a well-formed Go value: no bare aggregate; a map / slice is allocated, has distinct keys, and its entries
    hold scalars, nils or references (any-typed containers, what the class `optr` builds) -/
def PointeeOK (σ : GStore) (v : GVal) : Prop :=
  (∀ fs, v ≠ .agg fs) ∧
  ∀ l, v = .ref l → l < σ.next ∧ ((readG σ.heap l).map (·.1)).Nodup ∧ ∀ q ∈ readG σ.heap l, ∀ fs, q.2 ≠ .agg fs

theorem obj_keeps_entries (mode : ObjMode) (fields : List Nat) (kids : Nat → GSchema) (σ : GStore) (l : Loc) (w : GVal)
    (hv : PointeeOK σ (.ref l)) (hk : ∀ p ∈ readG σ.heap l, mode = .strip → fields.contains p.1 = true)
    (h : (parseS (.obj mode fields kids) σ (.ref l)).2 = some w) :
    sameEntriesV (parseS (.obj mode fields kids) σ (.ref l)).1.heap w (.ref l) = true := by
  obtain ⟨hl, hnd, hflat⟩ := hv.2 l rfl
  have hext := parseS_ext (.obj mode fields kids) σ (.ref l)
  obtain ⟨l', τ, hl', hok, _, hp⟩ := parseS_obj_some h
  cases hl'
  rw [List.filter_eq_self.2 (fun q hq => by cases mode <;> first | exact hk q hq rfl | rfl)] at hp
  rw [hp] at h hext ⊢
  cases h
  -- the new map holds the caller's entries, the caller's map holds them still: each is found under its key, and is itself
  simp only [sameEntriesV, readG_galloc_new, readG_congr l (hext.2 l hl), (Bool.and_eq_true _ _ ▸ hok).1,
    Bool.true_and, beq_self_eq_true, List.all_eq_true]
  intro q hq
  rw [find_self _ hnd q hq]
  exact sameV_flat q.2 (hflat q hq)

set_option linter.unusedVariables false in
/-- NOT USED: `hn`, `ho` (`obj_keeps_entries`) -/
theorem obj_same_entries (mode : ObjMode) (fields : List Nat) (kids : Nat → GSchema) (σ : GStore) (l : Loc) (w : GVal) (n : Nat)
    (hn : n ≤ σ.next) (ho : OwnedS n σ.heap (.obj mode fields kids)) (hv : PointeeOK σ (.ref l))
    (hk : ∀ p ∈ readG σ.heap l, mode = .strip → fields.contains p.1 = true)
    (h : (parseS (.obj mode fields kids) σ (.ref l)).2 = some w) :
    sameEntriesV (parseS (.obj mode fields kids) σ (.ref l)).1.heap w (.ref l) = true :=
  obj_keeps_entries mode fields kids σ l w hv hk h

theorem rootObj_under : ∀ s, rootObj s = true → ∃ m f k, underDflt s = .obj m f k
  | .obj m f k, _ => ⟨m, f, k, rfl⟩
  | .dflt _ t, h => rootObj_under t h
  | .any, h | .str _, h | .lit _ _, h | .slice _, h | .record _, h | .union _ _, h => nomatch h

theorem specKeeps_under (h : GHeap) (v : GVal) : ∀ s, specKeeps (underDflt s) h v = specKeeps s h v
  | .dflt _ t => specKeeps_under h v t
  | .any | .str _ | .lit _ _ | .obj _ _ _ | .slice _ | .record _ | .union _ _ => rfl

set_option linter.unusedVariables false in
/-- the same-pointer clause for the code as it is (/repo 3302475): a pointer passed to a pointer-typed, optional or
    nilable schema of the language — ANY root, objects included — that accepts it, where the documented answer looks like
    what the pointer refers to (`wantSame = some true`), comes back as the same pointer. No hypothesis about the model's
    answer.  NOT USED: `hn`, `ho`.  (`_full`: every root, objects included; `ptr_same_pointer_nonobj` is the case of the other roots.) -/
theorem ptr_same_pointer_full (ps : PSchema) (σ : GStore) (p : Loc) (v : GVal) (n : Nat) (hn : n ≤ σ.next)
    (ho : OwnedS n σ.heap ps.s) (hp : readG σ.heap p = [(0, v)]) (hv : PointeeOK σ v)
    (hacc : (parsePtrP ps σ p).2.isSome = true) (hw : wantSame ps σ p = some true) :
    (parsePtrP ps σ p).2 = some (.ref p) := by
  by_cases hr : rootObj ps.s = true
  · obtain ⟨hk, _, he, w, hq⟩ := ptr_accepted hw hp hacc
    obtain ⟨mode, fields, kids, hu⟩ := rootObj_under ps.s hr
    rw [he, hu]
    rw [hu] at hq
    obtain ⟨l, _, rfl, _⟩ := parseS_obj_some hq
    -- the documented answer keeps every key: in strip mode every key of the caller's map is a field of the shape
    have hsk : specKeeps (.obj mode fields kids) σ.heap (.ref l) = true := by
      simp only [wantSame, hk, ↓reduceIte, hp, Option.some.injEq] at hw
      rw [← hu, specKeeps_under, hw]
    have hkeys : ∀ q ∈ readG σ.heap l, mode = .strip → fields.contains q.1 = true := by
      intro q hq' hm
      subst hm
      exact List.all_eq_true.1 hsk q hq'
    exact own_ptr_same_entries _ σ p (.ref l) w hp hq
      (obj_keeps_entries mode fields kids σ l w hv hkeys hq)
  · exact ptr_same_pointer_nonobj ps (by simpa using hr) σ p v hp hv.1 hacc hw

/-- cell 1 = the caller's map `{9: 7}` (nothing the schema does not know), cell 2 = the caller's variable holding it -/
def σq : GStore :=
  { heap := gupd (gupd (fun _ => none) 1 [(9, .scalar 7)]) 2 [(0, .ref 1)], next := 3 }

/-- Witness (legacy: the code between e584c0e and 3302475, `parsePtrS0`): `ObjectPtr({9: any}).Parse(&m)`, `m = {9: 7}` —
    nothing to strip, the clause demands the caller's pointer — and the answer was a pointer of its own (cell 4) to a new
    map (cell 3). The code as it is answers with the caller's pointer (cell 2). -/
theorem legacy_objptr_own_pointer :
    isRef (parsePtrS0 (.obj .strip [9] (fun _ => .any)) σq 2).2 4 = true ∧
    wantSame ⟨.pointer, .obj .strip [9] (fun _ => .any)⟩ σq 2 = some true ∧
    isRef (parsePtrP ⟨.pointer, .obj .strip [9] (fun _ => .any)⟩ σq 2).2 2 = true := by decide +kernel

/-- the hypotheses of `ptr_same_pointer_full` are met: optional / nilable / pointer-typed objects in every mode, records,
    defaults, any — all answer with the caller's pointer; a value-typed record answers the value; a union root is refused -/
example :
    isRef (parsePtrP ⟨.optional, .obj .loose [9] (fun _ => .any)⟩ σq 2).2 2 = true ∧
    isRef (parsePtrP ⟨.nilable, .obj .strict [9] (fun _ => .any)⟩ σq 2).2 2 = true ∧
    isRef (parsePtrP ⟨.optional, .record (.str [7])⟩ σq 2).2 2 = true ∧
    isRef (parsePtrP ⟨.nilable, .dflt (.scalar 1) (.record .any)⟩ σq 2).2 2 = true ∧
    isRef (parsePtrP ⟨.pointer, .any⟩ σq 2).2 2 = true ∧
    isRef (parsePtrP ⟨.value, .any⟩ σq 2).2 2 = true ∧
    isRef (parsePtrP ⟨.value, .record .any⟩ σq 2).2 1 = true ∧
    (parsePtrP ⟨.pointer, .union .any .any⟩ σq 2).2.isSome = false ∧
    wantSame ⟨.optional, .obj .loose [9] (fun _ => .any)⟩ σq 2 = some true := by decide +kernel

example : PointeeOK σq (.ref 1) := by
  refine ⟨nofun, fun l hl => ?_⟩
  cases hl
  refine ⟨by decide, by decide, fun q hq => ?_⟩
  obtain rfl := List.mem_singleton.1 (hq : q ∈ [(9, GVal.scalar 7)])
  exact nofun

/-- an object's answer is a cell allocated by the call.  NOT USED: the two hypotheses about `n`. -/
theorem obj_builds_new : ∀ (s : GSchema), rootObj s = true → ∀ (σ : GStore) (v w : GVal) (n : Nat), n ≤ σ.next →
    OwnedS n σ.heap (underDflt s) → (parseS (underDflt s) σ v).2 = some w → ∃ x, w = .ref x ∧ σ.next ≤ x := by
  intro s hr σ v w n _ _ h
  obtain ⟨mode, fields, kids, hu⟩ := rootObj_under s hr
  rw [hu] at h
  obtain ⟨l, τ, _, _, e, hp⟩ := parseS_obj_some h
  rw [hp] at h
  exact ⟨_, (Option.some.inj h).symm, e.1⟩

/-- whatever a Parse that left the input graph unchanged did, the caller's pointer shows afterwards what it showed before.
    So where the documented answer does not look like the pointee (`wantSame = some false`), "the same pointer comes back"
    and "the input graph is unchanged" cannot both hold. (The statement is `g_graph_frame` at `.ref p`; it stands here for
    the reading of the two clauses it gives.) -/
theorem ptr_clauses_exclusive (σ τ : GStore) (p : Loc) (he : GExt σ.next σ τ)
    (hb : ∀ x ∈ reach gdepth σ.heap (.ref p), x < σ.next) :
    ser gdepth τ.heap (.ref p) = ser gdepth σ.heap (.ref p) :=
  (g_graph_frame gdepth σ.next σ τ (.ref p) he hb).2

/-- Witness (the letter of the two clauses): `Object({9: any}).Optional().Parse(&m)`, `m = {9: 7, 10: 7}`: the documented
    answer drops key 10 (`wantSame = some false`); the code answers with its own pointer (cell 4), the answer looks like
    `&{9: 7}`, not like what the caller's pointer shows, and the caller's pointer shows what it showed. -/
theorem ptr_letter_conflict :
    let ps : PSchema := ⟨.optional, .obj .strip [9] (fun _ => .any)⟩
    wantSame ps σp 2 = some false ∧
    isRef (parsePtrP ps σp 2).2 4 = true ∧
    ser gdepth (parsePtrP ps σp 2).1.heap (.ref 4) ≠ ser gdepth σp.heap (.ref 2) ∧
    ser gdepth (parsePtrP ps σp 2).1.heap (.ref 2) = ser gdepth σp.heap (.ref 2) := by decide +kernel

/-! ### identity is a matter of bits

    A scalar leaf of the model is its content id, and the id of a float is the id of its BIT PATTERN (`storex.FloatRepr`: every
    NaN payload has its own id, −0 and +0 differ).  So `sameV` on leaves is bit-for-bit comparison and reflexive on every value
    (`sameV_refl`): that is what makes `wantSame` demand the caller's own pointer for a pointee that is, or holds, a NaN.
    `sameVBy eq` compares leaves with another equality, e.g. Go's `==` (`reflect.Value.Equal`), which on floats is not
    reflexive (NaN) and not injective on bits (−0 == +0): validatePointer with it answers a pointer to a private copy of a NaN
    (`eq_variant_nan_own_pointer`) and takes two different values for one. -/

def aggFits : Nat → GVal → Bool
  | 0, _ => false
  | f + 1, .agg fs => fs.all (fun p => aggFits f p.2)
  | _ + 1, _ => true

theorem zip_self_all {α : Type} (P : α × α → Bool) : ∀ (xs : List α), (xs.zip xs).all P = xs.all (fun x => P (x, x)) := by
  intro xs
  induction xs with
  | nil => rfl
  | cons x xs ih => simp [List.zip_cons_cons, List.all_cons, ih]

/-- `sameValue` is reflexive on EVERY value, NaN leaves of any payload included; the `reflect.Value.Equal` variant is not
    (`eq_variant_not_refl`) -/
theorem sameV_refl : ∀ (f : Nat) (v : GVal), aggFits f v = true → sameV f v v = true := by
  intro f
  induction f with
  | zero => intro v h; simp [aggFits] at h
  | succ f ih =>
    intro v h
    cases v with
    | scalar n => simp [sameV]
    | nil => simp [sameV]
    | ref l => simp [sameV]
    | agg fs =>
      simp only [aggFits] at h
      simp only [sameV, beq_self_eq_true, Bool.true_and]
      rw [zip_self_all]
      rw [List.all_eq_true] at h ⊢
      intro p hp
      simp [ih p.2 (h p hp)]

theorem sameV_refl_leaf (bits : Nat) : sameV gdepth (.scalar bits) (.scalar bits) = true :=
  sameV_refl gdepth (.scalar bits) rfl

/-- hypothesis met by a nested value: a struct holding an array of leaves, a leaf and a reference -/
example : aggFits gdepth (.agg [(0, .agg [(0, .scalar 383), (1, .scalar 60)]), (1, .scalar 718), (2, .ref 5)]) = true := by decide +kernel

/-- leaves with different bits are different values, whatever `==` says about them (−0 / +0; two NaN payloads) -/
theorem sameV_leaf_bits (a b : Nat) : sameV gdepth (.scalar a) (.scalar b) = true ↔ a = b := by
  simp [gdepth, sameV]

/-- the clause for a pointee that is a float leaf of ANY bit pattern (NaN included), through every pointer-answering way of
    making `types.Any()`: the statement demands the caller's pointer and the code answers it. -/
theorem ptr_same_pointer_leaf (k : PKind) (hk : k.ptrTyped = true) (σ : GStore) (p : Loc) (bits : Nat)
    (hp : readG σ.heap p = [(0, .scalar bits)]) :
    wantSame ⟨k, .any⟩ σ p = some true ∧ (parsePtrP ⟨k, .any⟩ σ p).2 = some (.ref p) := by
  simp [wantSame, parsePtrP, parsePtrS, takesPtr, underDflt, specKeeps, parseS, hk, hp, sameV_refl_leaf]

def sameVBy (eq : Nat → Nat → Bool) : Nat → GVal → GVal → Bool
  | 0, _, _ => false
  | _ + 1, .scalar n, .scalar m => eq n m
  | _ + 1, .nil, .nil => true
  | _ + 1, .ref l, .ref l' => l == l'
  | f + 1, .agg fs, .agg gs =>
    fs.length == gs.length && (fs.zip gs).all (fun pq => pq.1.1 == pq.2.1 && sameVBy eq f pq.1.2 pq.2.2)
  | _ + 1, _, _ => false

/-- validatePointer with that test (no `sameEntries` needed for the witness: the root is no object) -/
def parsePtrBy (eq : Nat → Nat → Bool) (s : GSchema) (σ : GStore) (p : Loc) : GStore × Option GVal :=
  match readG σ.heap p with
  | [(0, v)] =>
    match (parseS s σ v).2 with
    | none => ((parseS s σ v).1, none)
    | some w =>
      if sameVBy eq gdepth w v then ((parseS s σ v).1, some (.ref p))
      else ((galloc (parseS s σ v).1 [(0, w)]).1, some (.ref (galloc (parseS s σ v).1 [(0, w)]).2))
  | _ => (σ, none)

/-- Go's `==` on float leaves: NaN equals nothing, the zeros are equal.  383 stands for a NaN, 793 / 163 for −0 / +0: ids chosen
    for the witnesses below, nothing else refers to them. -/
def goEq (n m : Nat) : Bool :=
  if n == 383 || m == 383 then false
  else if (n == 793 || n == 163) && (m == 793 || m == 163) then true
  else n == m

/-- with `==` on content ids `sameVBy` IS `sameV`: the witnesses below differ from the code in the leaf comparison only -/
theorem sameVBy_beq : ∀ (f : Nat) (v w : GVal), sameVBy (fun n m => n == m) f v w = sameV f v w := by
  intro f
  induction f with
  | zero => intro v w; rfl
  | succ f ih =>
    intro v w
    cases v <;> cases w <;> simp [sameVBy, sameV, ih]

/-- Witness: under `==` a value is not always itself — a NaN leaf, and a struct holding one in an array member -/
theorem eq_variant_not_refl :
    sameVBy goEq gdepth (.scalar 383) (.scalar 383) = false ∧
    sameVBy goEq gdepth (.agg [(0, .scalar 60), (1, .agg [(0, .scalar 383)])]) (.agg [(0, .scalar 60), (1, .agg [(0, .scalar 383)])]) = false ∧
    sameV gdepth (.agg [(0, .scalar 60), (1, .agg [(0, .scalar 383)])]) (.agg [(0, .scalar 60), (1, .agg [(0, .scalar 383)])]) = true := by
  decide +kernel

/-- Witness: under `==` two different values are one (−0 and +0); bit identity keeps them apart -/
theorem eq_variant_conflates_zeros :
    sameVBy goEq gdepth (.scalar 793) (.scalar 163) = true ∧ sameV gdepth (.scalar 793) (.scalar 163) = false := by decide +kernel

/-- cell 2 = the caller's variable holding a NaN -/
def σnan : GStore := { heap := gupd (fun _ => none) 2 [(0, .scalar 383)], next := 3 }

/-- Witness (`sameValue` through `reflect.Value.Equal`): `AnyPtr().Parse(&nan)`: the statement demands the caller's pointer
    (`wantSame = some true`), the code as it is answers it (cell 2), the `==` variant answers a pointer of its own (cell 3). -/
theorem eq_variant_nan_own_pointer :
    wantSame ⟨.pointer, .any⟩ σnan 2 = some true ∧
    isRef (parsePtrP ⟨.pointer, .any⟩ σnan 2).2 2 = true ∧
    isRef (parsePtrBy goEq .any σnan 2).2 3 = true := by decide +kernel

end Gozod.C15
