/-
  C06 — the meaning of a tag on a field of kind K, for EVERY value (not probes): the schema FromStruct builds
  accepts a value iff the value satisfies every rule of the tag under the rule's documented meaning
  (`Tags.Mean`; legend of the three pairs: Proofs/C06.lean).
-/
import Gozod.Model.TagMeaning
import Gozod.Proofs.C06
namespace Gozod.C06
open Gozod.TagParser Gozod.Tags Gozod.Tags.Mean

def presentOf (fam : Fam) : Val → Bool
  | .str _ => fam == .str
  | .num _ d => (fam == .int && d == 0) || fam == .float
  | .coll _ => fam == .coll
  | _ => false

theorem one_le_cast (k : Nat) : decide ((1 : Int) ≤ k) = decide (1 ≤ k) := decide_eq_decide.mpr (by omega)

theorem rule_eq (L : Lang) (fam : Fam) (r : Rule) (v : Val) (hd : Docd fam r = true) (hv : presentOf fam v = true) :
    (Code.ruleChecks fam r).all (Code.Check.holds L · v) = Spec.holds L r v := by
  unfold Code.ruleChecks Spec.holds
  unfold Docd at hd
  -- `hv` leaves a string in family str, a number in int or float, a collection in coll
  cases v <;> cases fam <;> try cases hv
  -- the rule's name: `hd` disposes of the names that are not documented for the family
  all_goals
    simp only [Spec.strRule, Spec.numRule, Spec.collRule, Spec.intParam]
    cases hc : classify r.name <;> simp only [hc, Bool.false_eq_true] at hd
  -- the parameter: absent, not a decimal integer, a decimal integer.  `Check.holds` is unfolded last, on literal
  -- lists of checks: under the binder of `List.all` it would unfold into its whole table in every goal.
  all_goals
    rcases firstParam r with _ | p
    · simp only [Code.numericRule, Fam.numeric, List.all_cons, List.all_nil, Bool.and_true,
        if_true, Option.bind_none, beq_self_eq_true] <;> simp only [Code.Check.holds, one_le_cast]
    · rcases hb : Rules.atoi? p with _ | b <;>
      simp only [hb, Code.numericRule, Code.numBound, Fam.numeric, List.all_cons, List.all_nil, Bool.and_true,
        if_true, Option.bind_some, Bool.false_eq_true, if_false, beq_self_eq_true] <;> simp only [Code.Check.holds, one_le_cast]

theorem checks_eq (L : Lang) (fam : Fam) (rules : List Rule) (v : Val)
    (hd : ∀ r ∈ rules, Docd fam r = true) (hv : presentOf fam v = true) :
    (rules.flatMap (Code.ruleChecks fam)).all (Code.Check.holds L · v) = rules.all (Spec.holds L · v) := by
  induction rules with
  | nil => rfl
  | cons r rs ih =>
    simp only [List.flatMap_cons, List.all_append, List.all_cons]
    rw [rule_eq L fam r v (hd r (by simp)) hv, ih (fun r' hr' => hd r' (by simp [hr']))]

theorem required_eq (rules : List Rule) : Code.hasRequired rules = Spec.required rules := rfl

/-- the literal bounds of the tag are parsed exactly by the code (the domain of the transcription `Code`):
    a 64-bit decimal integer literal on an integer field, |n| ≤ 2^53 on a float field, a Go `int` for
    lengths and element counts -/
def boundExact (fam : Fam) (r : Rule) : Bool :=
  match (firstParam r).bind Rules.atoi? with
  | none => true
  | some n =>
    match fam with
    | .int => decide (-(2 ^ 63) ≤ n ∧ n ≤ 2 ^ 64 - 1)
    | .float => decide (-(2 ^ 53) ≤ n ∧ n ≤ 2 ^ 53)
    | _ => decide (-(2 ^ 63) ≤ n ∧ n ≤ 2 ^ 63 - 1)

/-- Full statement over ALL rule names (false: `nonempty` is enforced on strings although documented for
    slices only, and undocumented names have no documented meaning at all). -/
def c06_tag_meaning_all : Prop := ∀ L K rules v, typed K v = true → Code.accepts L K rules v = Spec.accepts L K rules v

/-- The meaning of a tag, for every value and every field kind (string, every integer width, unsigned, float32/64, slices,
    maps, a pointer to each): for every list of rules documented for the field's class and every value the field can hold
    (nil included), the schema FromStruct builds accepts the value iff it satisfies every rule under its documented meaning;
    a nil pointer iff the tag has no `required`.  `_hb` is not used: `boundExact` marks the domain on which `Code` (bounds as
    exact integers) is the library's parsing of the literals, a side condition of the tie to the table (`blockSide`). -/
theorem c06_tag_meaning (L : Lang) (K : FKind) (rules : List Rule) (v : Val)
    (hd : ∀ r ∈ rules, Docd K.fam r = true) (_hb : ∀ r ∈ rules, boundExact K.fam r = true) (hv : typed K v = true) :
    Code.accepts L K rules v = Spec.accepts L K rules v := by
  cases v with
  | nil => rfl
  | other ok => rfl
  | str _ | num _ _ | coll _ => exact checks_eq L K.fam rules _ hd hv

/-- every rule adds its checks, none replaces any -/
theorem _root_.Gozod.Tags.Mean.Code.accepts_append (L : Lang) (K : FKind) (rs rs' : List Rule) (v : Val) :
    Code.accepts L K (rs ++ rs') v = (Code.accepts L K rs v && Code.accepts L K rs' v) := by
  cases v with
  | nil =>
    simp only [Code.accepts, Code.hasRequired, List.any_append, Bool.not_or]
    cases K.ptr <;> rfl
  | other ok => exact (Bool.and_self ok).symm
  | str _ | num _ _ | coll _ => simp only [Code.accepts, List.flatMap_append, List.all_append]

theorem c06_spec_perm (L : Lang) (K : FKind) (rs rs' : List Rule) (h : rs.Perm rs') (v : Val) :
    Spec.accepts L K rs v = Spec.accepts L K rs' v := by
  have hr : Spec.required rs = Spec.required rs' := h.any_eq
  cases v <;> simp only [Spec.accepts, hr, h.all_eq]

/-- every rule only adds checks (`ruleChecks`) and a value passes when it passes all of them, so the order of the rules
    never matters to the transcription `Code` — which is the library on `Docd` rules only (it has no `enum` branch, and
    `enum` replaces the schema: Proofs/C06H.lean `c06_tag_meaning_full_false`): hence `Docd` in `c06_code_perm`. -/
theorem _root_.Gozod.Tags.Mean.Code.accepts_perm (L : Lang) (K : FKind) (rs rs' : List Rule) (h : rs.Perm rs') (v : Val) :
    Code.accepts L K rs v = Code.accepts L K rs' v := by
  have hr : Code.hasRequired rs = Code.hasRequired rs' := h.any_eq
  cases v <;> simp only [Code.accepts, hr, List.all_flatMap, h.all_eq]

set_option linter.unusedVariables false in
/-- Order independence of the schema, for every value: every permutation of the tag's (documented) rules.  The
    hypotheses mark the domain on which `Code` is the library, as in `c06_tag_meaning`; the proof uses none. -/
theorem c06_code_perm (L : Lang) (K : FKind) (rs rs' : List Rule) (h : rs.Perm rs') (v : Val)
    (hd : ∀ r ∈ rs, Docd K.fam r = true) (hb : ∀ r ∈ rs, boundExact K.fam r = true) (hv : typed K v = true) :
    Code.accepts L K rs v = Code.accepts L K rs' v :=
  Code.accepts_perm L K rs rs' h v

/-- White space around the tag text never changes the meaning (from `c06_parse_ws`), for every kind and value. -/
theorem c06_meaning_ws (L : Lang) (K : FKind) (w₁ w₂ t : Str) (h₁ : AllSpace w₁) (h₂ : AllSpace w₂) (v : Val) :
    acceptsTag L K (w₁ ++ t ++ w₂) v = acceptsTag L K t v := by
  unfold acceptsTag Rules.rulesOf
  rw [c06_parse_ws false w₁ w₂ t h₁ h₂]

-- the hypotheses are inhabited: `min=3,max=5` on an int8 field (family int), a *float64, a []T
example : let rs := Rules.rulesOf (Rules.nm "min=3,max=5")
    (∀ r ∈ rs, Docd .int r = true) ∧ (∀ r ∈ rs, boundExact .int r = true) ∧
    Code.accepts ⟨fun _ _ => true, fun _ _ => true⟩ ⟨false, .int⟩ rs (.num 4 0) = true ∧
    Code.accepts ⟨fun _ _ => true, fun _ _ => true⟩ ⟨true, .float⟩ rs (.num 11 1) = false ∧
    Code.accepts ⟨fun _ _ => true, fun _ _ => true⟩ ⟨false, .coll⟩ rs (.coll 6) = false := by decide +kernel

/-- witness for `c06_tag_meaning_all`: `nonempty` on a string field rejects "" (documented for slices only) -/
theorem c06_tag_meaning_all_false : ¬ c06_tag_meaning_all := by
  intro h
  have := h ⟨fun _ _ => true, fun _ _ => true⟩ ⟨false, .str⟩ [⟨Rules.nm "nonempty", none⟩] (.str []) rfl
  revert this
  decide +kernel

end Gozod.C06
