/-
  C01 — primitive schemas accept exactly the values satisfying type and every check (`c01_accept_iff`, `c01_result`);
  the numeric checks of Model/NumChecks.lean mean the mathematical relation (`c01_num_holds_spec`, through C16 and
  FloatMulRound), the float checks on every binary64 bit pattern (`c01_float_*`).
-/
import Gozod.Model.Prim
import Gozod.Model.NumChecks
import Gozod.Proofs.C10Prim
import Gozod.Proofs.C16
import Gozod.Proofs.FloatMulRound

namespace Gozod.C01
open Gozod.Prim

variable {P O T V : Type}

def payload : Input V → Option V
  | .val v => some v
  | .ptr v => some v
  | _ => none

/-- A schema "built by chaining built-in checks": no nil-related modifier is set. (No theorem needs it: `c01_accept_iff` holds
    of every `Internals` on non-nil inputs.) -/
def plain (i : Internals P O V) : Prop :=
  i.optional = false ∧ i.nilable = false ∧ i.nonOptional = false ∧
  i.dv = none ∧ i.df = none ∧ i.pv = none ∧ i.pf = none

theorem parse_of_payload (env : Env P O T V) (i : Internals P O V) {x : Input V} {v : V}
    (h : payload x = some v) : ∃ pin, parse env i x = checked env i pin v := by
  cases x with
  | val w | ptr w => cases h; exact ⟨_, rfl⟩
  | _ => cases h

/-- C01, acceptance: for every primitive schema, check chain, environment interpreting the checks and
    non-nil input: Parse succeeds iff the input has the schema's Go type (as a value or through a pointer) and
    no attached check fails on the value threaded through the overwrites before it. -/
theorem c01_accept_iff (env : Env P O T V) (i : Internals P O V) (x : Input V)
    (hx : x ≠ .nil ∧ x ≠ .nilPtr) :
    (∃ r, parse env i x = .okVal r) ↔
      ∃ v, payload x = some v ∧ ∀ k, k < i.checks.length → failsAt env i.checks k v = false := by
  cases x with
  | nil => exact absurd rfl hx.1
  | nilPtr => exact absurd rfl hx.2
  | foreign => exact ⟨nofun, nofun⟩
  | val v | ptr v =>
    simp only [parse, payload, Option.some.injEq, exists_eq_left', C10.checked_okVal_iff, exists_and_left, exists_eq,
      and_true]

/-- C01, result: on success the returned value is the input threaded through the declared overwrites,
    and nothing else. -/
theorem c01_result (env : Env P O T V) (i : Internals P O V) (x : Input V) (r v : V)
    (hv : payload x = some v) (h : parse env i x = .okVal r) :
    r = seenAt env i.checks i.checks.length v := by
  obtain ⟨pin, e⟩ := parse_of_payload env i hv
  exact ((C10.checked_okVal_iff env i pin v r).mp (e ▸ h)).2

def overwritesOf : List (Check P O) → List O
  | [] => []
  | .overwrite o :: cs => o :: overwritesOf cs
  | .pred .. :: cs => overwritesOf cs

/-- The value a chain hands on is the left-to-right composition of exactly its overwrites, whatever predicates stand
    between them: with `c01_result`, "unchanged apart from declared overwrites". -/
theorem seenAt_compose (env : Env P O T V) : ∀ (cs : List (Check P O)) (v : V),
    seenAt env cs cs.length v = (overwritesOf cs).foldl (fun x o => env.apply o x) v := by
  intro cs
  induction cs with
  | nil => intro v; rfl
  | cons c cs ih =>
    intro v
    cases c with
    | overwrite o => simp only [List.length_cons, seenAt, overwritesOf, List.foldl_cons]; exact ih _
    | pred p a w => simp only [List.length_cons, seenAt, overwritesOf]; exact ih _

theorem seenAt_no_overwrite (env : Env P O T V) (cs : List (Check P O)) (v : V) (h : hasOverwrite cs = false) :
    seenAt env cs cs.length v = v := by
  rw [seenAt_compose]
  have : overwritesOf cs = [] := by
    induction cs with
    | nil => rfl
    | cons c cs ih =>
      cases c with
      | overwrite o => simp [hasOverwrite] at h
      | pred p a w => simp only [hasOverwrite] at h; simpa [overwritesOf] using ih h
  rw [this]; rfl

/-- C01, foreign kinds: a value that is neither of the schema's type nor a pointer to it is
    never accepted (no coercion unless asked for). -/
theorem c01_foreign_rejected (env : Env P O T V) (i : Internals P O V) :
    parse env i .foreign = .errType := rfl

open FloatMul in
/-- `Float.Int` is `val == math.Trunc(val)`. -/
theorem isIntF_eq_spec (x : F) : isIntF x = specIsIntF x := by
  cases x with
  | fin a k =>
    simp only [isIntF, specIsIntF, F.truncInt]
    by_cases h : (2:Int)^k ∣ a
    · simp [h, Int.tdiv_mul_cancel h]
    · have : ¬ (a.tdiv (2^k) * 2^k = a) := fun e => h ⟨a.tdiv (2^k), by rw [Int.mul_comm]; exact e.symm⟩
      simp [h, this]
  | _ => rfl

open NumChecks in
/-- Every numeric check of the model holds exactly when its documented (mathematical) meaning holds, for
    well-formed operands: comparisons by `c16_cmp`, integer multiples by `multipleOfInts_exact`. -/
theorem c01_num_holds_spec (p : NPred) (v : Num) (hv : C16.Num.wf v)
    (hp : match p with
          | .cmp _ b => C16.Num.wf b
          | .mult d => C16.Num.wf d ∧ C16.isInt d = true ∧ C16.isInt v = true
          | .finite => True
          | .safe => True
          | .multF d => FloatMul.F.rep d ∧ ∀ x, v = .f x → FloatMul.F.rep x   -- operands are binary64 values (`ofBits_rep`)
          | .isInt => True) :
    holds p v = specHolds p v := by
  cases p with
  | cmp op b => exact C16.c16_cmp op v b hv hp
  | mult d =>
    obtain ⟨hd, hid, hiv⟩ := hp
    have := C16.multipleOfInts_exact v d hv hd hiv hid
    simp only [holds, specHolds, this]
    cases v with
    | f x => cases hiv
    | i _ | u _ =>
      cases d with
      | f x => cases hid
      | i _ | u _ => rfl
  | finite => rfl
  | safe =>
    have wf : ∀ n : Int, IntTy.i64.inRange n → C16.Num.wf (safeBound v n) := by
      intro n hn
      cases v with
      | f x => trivial
      | i _ | u _ => exact hn
    have wlo := wf (-(2 ^ 53 - 1)) (by decide)
    have whi := wf (2 ^ 53 - 1) (by decide)
    simp only [holds, specHolds, C16.c16_cmp _ v _ hv wlo, C16.c16_cmp _ v _ hv whi]
  | multF d =>
    cases v with
    | f x => simp only [holds, specHolds]; exact FloatMul.implMultF_eq_specMultF x d (hp.2 x rfl) hp.1
    | _ => rfl
  | isInt =>
    cases v with
    | f x => simp only [holds, specHolds]; exact isIntF_eq_spec x
    | _ => rfl

/-! ### Float checks, for every binary64 input (finite, NaN, ±Inf, −0 — `F.ofBits` decodes every bit pattern) -/

open NumChecks FloatMul in
/-- Float `MultipleOf` / `Step`: for every pair of binary64 bit patterns the check evaluates to the documented
    ε-relation on the exact remainder and the exact difference: the rounded subtraction in the code never
    changes the verdict. -/
theorem c01_float_multipleOf (vb db : Nat) :
    holds (.multF (F.ofBits db)) (.f (F.ofBits vb)) = specMultF (F.ofBits vb) (F.ofBits db) :=
  implMultF_eq_specMultF _ _ (ofBits_rep vb) (ofBits_rep db)

open NumChecks in
/-- Float comparisons (`Gt/Gte/Lt/Lte/Min/Max/Positive/Negative/NonNegative/NonPositive`): the
    mathematical order on the extended reals, false when a NaN is involved — every input, every bound. -/
theorem c01_float_cmp (op : CmpOp) (x b : F) :
    holds (.cmp op (.f b)) (.f x) = (match F.cmp x b with | none => false | some o => op.ofOrdering o) :=
  rfl

open NumChecks in
/-- `C16.c16_nan_left` on the check. -/
theorem c01_float_nan_rejected (op : CmpOp) (b : Num) : holds (.cmp op b) (.f .nan) = false :=
  C16.c16_nan_left op b

open NumChecks in
theorem c01_float_finite_iff (x : F) : holds .finite (.f x) = true ↔ ∃ a k, x = .fin a k := by
  cases x <;> simp [holds, isFinite]

open NumChecks in
/-- `Safe` on a float: −(2^53−1) ≤ x ≤ 2^53−1 in the mathematical order; NaN and ±Inf fail. -/
theorem c01_float_safe_iff (x : F) :
    holds .safe (.f x) = true ↔
      F.cmp x (F.ofInt (-(2 ^ 53 - 1))) ∈ [some .gt, some .eq] ∧ F.cmp x (F.ofInt (2 ^ 53 - 1)) ∈ [some .lt, some .eq] := by
  simp only [holds, safeBound, implCmp, cmpNum, Bool.and_eq_true]
  cases h1 : F.cmp x (F.ofInt (-(2 ^ 53 - 1))) with
  | none => simp
  | some o1 =>
    cases h2 : F.cmp x (F.ofInt (2 ^ 53 - 1)) with
    | none => simp
    | some o2 => cases o1 <;> cases o2 <;> simp [CmpOp.ofOrdering]

open NumChecks FloatMul in
/-- `isIntF_eq_spec` on the check. -/
theorem c01_float_int (x : F) : holds .isInt (.f x) = specIsIntF x :=
  isIntF_eq_spec x

example : NumChecks.holds (.multF (F.ofBits 0x3FB999999999999A)) (.f (F.ofBits 0x3FD3333333333333)) = true := by
  decide +kernel   -- 0.3 is a multiple of 0.1 under the ε-rule (math.Mod gives 0.09999999999999998)

end Gozod.C01
