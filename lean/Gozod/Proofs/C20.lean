/-
  C20 — format validators accept exactly the well-formed strings of their format, and the
  pattern exported to JSON Schema matches the same strings.

  For every format: `Gen.val_<f>` is the regular expression the validator matches and `Gen.pat_<f>` the pattern exported to
  JSON Schema (both regenerated from the library on every run, Gen/Re_<f>.lean); `Fmt.<f>` is its definition (Model/FormatSpec.lean).

    c20_<f>          ∀ s, accepts val_<f> s = Fmt.<f>.run s        validator = definition
    c20_<f>_pattern  ∀ s, accepts pat_<f> s = Fmt.<f>.run s        exported pattern = definition

  The validators that are parsers (CIDR, IPv6, ISO date, ISO date-time, Base64URL's length rule) have their theorems in
  C20Netip*.lean, C20Parsers.lean, C20Rfc3339.lean, C20Base64URL.lean.  Where a pattern is not the definition this file has
  the statement that fails as a `Prop` (`c20_<f>_pattern_full`) and a witness against it.  `_full` is not the mark of these:
  `bisim_sound_full` (no excluded region) and `…_optsec_full`, `…_partial_full` (the year read in full) are theorems.
-/
import Gozod.Proofs.C20Bisim
import Gozod.Proofs.C20Fixed
import Gozod.Proofs.C20Ipv4
import Gozod.Model.GoParsers
import Gozod.Gen.Cert_hex
import Gozod.Gen.Cert_e164
import Gozod.Gen.Re_mac
import Gozod.Gen.Re_macdash
import Gozod.Gen.Cert_base64
import Gozod.Gen.Re_uuid
import Gozod.Gen.Re_uuidv4
import Gozod.Gen.Re_uuidv6
import Gozod.Gen.Re_uuidv7
import Gozod.Gen.Re_guid
import Gozod.Gen.Re_isodatetime
import Gozod.Gen.Cert_base64url_partial
import Gozod.Gen.Re_macdot
import Gozod.Model.FormatSpecV6
import Gozod.Gen.Re_ipv6
import Gozod.Gen.Re_cidrv6
namespace Gozod.C20
open Gozod Gozod.Re

theorem c20_ipv4_pattern : ∀ s, accepts Gen.pat_ipv4 s = Fmt.ipv4.run s := c20_ipv4
example : Fmt.ipv4.run (b! "255.0.10.199") = true ∧ Fmt.ipv4.run (b! "256.0.0.0") = false ∧
    Fmt.ipv4.run (b! "1.2.3.04") = false ∧ Fmt.ipv4.run (b! "1.2.3.4\n") = false := by decide

theorem c20_hex : ∀ s, accepts Gen.val_hex s = Fmt.hex.run s := bisim_sound_full _ _ Gen.cert_hex_ok
theorem c20_hex_pattern : ∀ s, accepts Gen.pat_hex s = Fmt.hex.run s := c20_hex

theorem c20_e164 : ∀ s, accepts Gen.val_e164 s = Fmt.e164.run s := bisim_sound_full _ _ Gen.cert_e164_ok
theorem c20_e164_pattern : ∀ s, accepts Gen.pat_e164 s = Fmt.e164.run s := c20_e164
example : Fmt.e164.run (b! "+1234567") = true ∧ Fmt.e164.run (b! "+123456") = false ∧
    Fmt.e164.run (b! "+123456789012345") = true ∧ Fmt.e164.run (b! "+1234567890123456") = false := by decide

theorem c20_mac : ∀ s, accepts Gen.val_mac s = (Fmt.mac 58).run s := mac_of_classes 58 rfl rfl
theorem c20_mac_pattern : ∀ s, accepts Gen.pat_mac s = (Fmt.mac 58).run s := c20_mac
theorem c20_macdash : ∀ s, accepts Gen.val_macdash s = (Fmt.mac 45).run s := mac_of_classes 45 rfl rfl
theorem c20_macdash_pattern : ∀ s, accepts Gen.pat_macdash s = (Fmt.mac 45).run s := c20_macdash
example : (Fmt.mac 58).run (b! "00:1A:2B:3C:4D:5E") = true ∧ (Fmt.mac 58).run (b! "00:1A:2b:3C:4D:5E") = false := by decide

theorem c20_base64 : ∀ s, accepts Gen.val_base64 s = Fmt.base64.run s := bisim_sound_full _ _ Gen.cert_base64_ok
theorem c20_base64_pattern : ∀ s, accepts Gen.pat_base64 s = Fmt.base64.run s := c20_base64
example : Fmt.base64.run (b! "QUI=") = true ∧ Fmt.base64.run (b! "QUI") = false ∧ Fmt.base64.run (b! "Q===") = false := by decide

theorem c20_uuid : ∀ s, accepts Gen.val_uuid s = (Fmt.uuid none).run s := uuid_any_of_classes rfl rfl
theorem c20_uuid_pattern : ∀ s, accepts Gen.pat_uuid s = (Fmt.uuid none).run s := c20_uuid
theorem c20_uuidv4 : ∀ s, accepts Gen.val_uuidv4 s = (Fmt.uuid (some 4)).run s := uuid_of_classes 4 (by decide) rfl
theorem c20_uuidv4_pattern : ∀ s, accepts Gen.pat_uuidv4 s = (Fmt.uuid (some 4)).run s := c20_uuidv4
theorem c20_uuidv6 : ∀ s, accepts Gen.val_uuidv6 s = (Fmt.uuid (some 6)).run s := uuid_of_classes 6 (by decide) rfl
theorem c20_uuidv6_pattern : ∀ s, accepts Gen.pat_uuidv6 s = (Fmt.uuid (some 6)).run s := c20_uuidv6
theorem c20_uuidv7 : ∀ s, accepts Gen.val_uuidv7 s = (Fmt.uuid (some 7)).run s := uuid_of_classes 7 (by decide) rfl
theorem c20_uuidv7_pattern : ∀ s, accepts Gen.pat_uuidv7 s = (Fmt.uuid (some 7)).run s := c20_uuidv7
theorem c20_guid : ∀ s, accepts Gen.val_guid s = Fmt.guid.run s := guid_of_classes rfl
theorem c20_guid_pattern : ∀ s, accepts Gen.pat_guid s = Fmt.guid.run s := c20_guid
example : (Fmt.uuid none).run (b! "123e4567-e89b-12d3-a456-426614174000") = true ∧
    (Fmt.uuid none).run (b! "123e4567-e89b-92d3-a456-426614174000") = false ∧
    (Fmt.uuid none).run (b! "00000000-0000-0000-0000-000000000000") = true ∧
    (Fmt.uuid (some 4)).run (b! "00000000-0000-0000-0000-000000000000") = false := by decide

/-- Says nothing about the validator: `Parsers.goCIDRv4` is the definition itself by `def` (Model/GoParsers.lean), and the
    driver does not run it.  The validator theorem is `c20_cidrv4_netip` (Proofs/C20Netip.lean). -/
theorem c20_cidrv4 : ∀ s, Parsers.goCIDRv4 s = Fmt.cidrv4.run s := fun _ => rfl
example : Fmt.cidrv4.run (b! "10.0.0.0/8") = true ∧ Fmt.cidrv4.run (b! "10.0.0.0/33") = false ∧
    Fmt.cidrv4.run (b! "10.0.0.0/08") = false ∧ Fmt.cidrv4.run (b! "::ffff:1.2.3.4/120") = false := by decide

/-! ## ISO date-time: the exported pattern is RFC 3339 except that it lets the seconds be omitted
  (what the pattern is: the end of Proofs/C20DateTimeOpt.lean) -/

def c20_isodatetime_pattern_full : Prop :=
  ∀ s, accepts Gen.pat_isodatetime s = (Fmt.isoDateTimeQ false).run s

theorem c20_isodatetime_pattern_witness : ¬ c20_isodatetime_pattern_full := fun h =>
  absurd (h (b! "2024-12-06T15:30Z")) (by decide +kernel)

example : Fmt.isoDateTimeNoSecQ.run (b! "2024-12-06T15:30:00.5+08:00") = false ∧
    (Fmt.isoDateTimeQ false).run (b! "2024-12-06T15:30:00.5+08:00") = true ∧
    Fmt.isoDateTimeNoSecQ.run (b! "2024-12-06T15:30Z") = true ∧
    (Fmt.isoDateTimeQ false).run (b! "2024-12-06T15:30:00,5Z") = false ∧
    (Fmt.isoDateTimeQ false).run (b! "2024-12-06T1:30:00Z") = false ∧
    (Fmt.isoDateTimeQ false).run (b! "2023-02-29T00:00:00Z") = false := by decide +kernel

/-- `time.Parse(time.RFC3339, s)` alone, without the guard pattern validate.ISODateTime puts in front of it (kaptinlin/gozod
    65193df), is not RFC 3339 either: a ',' before the fraction, a one-digit hour, an offset of 24:00 -/
theorem c20_isodatetime_goparse_witness :
    Parsers.goRFC3339 (b! "2024-12-06T15:30:00,5Z") = true ∧ Parsers.goRFC3339 (b! "2024-12-06T1:30:00Z") = true ∧
    Parsers.goRFC3339 (b! "2024-12-06T15:30:00+24:00") = true := by decide +kernel

/-! ## Base64URL: the exported pattern checks the alphabet only -/

def c20_base64url_pattern_full : Prop := ∀ s, accepts Gen.pat_base64url s = Fmt.base64url.run s

theorem c20_base64url_pattern_partial :
    ∀ s, Fmt.base64urlBadLen.run s = false → accepts Gen.pat_base64url s = Fmt.base64url.run s :=
  bisim_sound _ _ Gen.cert_base64url_partial_ok

theorem c20_base64url_pattern_witness : ¬ c20_base64url_pattern_full := fun h =>
  absurd (h (b! "A=")) (by decide +kernel)

example : Fmt.base64urlBadLen.run (b! "QUJDRA") = false ∧ Fmt.base64url.run (b! "QUJDRA") = true ∧
    Fmt.base64urlBadLen.run (b! "A") = true ∧ Fmt.base64urlBadLen.run (b! "QUI=") = false ∧
    Fmt.base64url.run (b! "QUI=") = true := by decide +kernel

/-! ## IPv6 and CIDRv6 (RFC 4291 §2.2, `Fmt.ipv6` / `Fmt.cidrv6` in Model/FormatSpecV6.lean)

  The statements about the exported patterns `regex.IPv6` / `regex.CIDRv6` that fail, with their witnesses; what does hold is
  `c20_ipv6_pattern_nozone`, `c20_cidrv6_pattern_nozone` (Proofs/C20V6Dot.lean). -/

/-- forget what the current group would be worth as a decimal octet -/
def forgetV (q : Fmt.V6St) : Fmt.V6St := if q.ph = 3 then { q with v := 256 } else q

theorem forgetV_ph (q : Fmt.V6St) : (forgetV q).ph = q.ph := by unfold forgetV; split <;> rfl

-- `apply_ite` moves `Option.map forgetV` to the leaves of the step function, where `forgetV` of a literal state evaluates
theorem ipv6Step_forget (q : Fmt.V6St) (c : Nat) (hc : c ≠ 46) :
    (Fmt.ipv6StepG true q c).map forgetV = Fmt.ipv6StepG false (forgetV q) c := by
  obtain ⟨ph, g, ell, n, v, k⟩ := q
  by_cases h3 : ph = 3
  · subst h3
    simp [Fmt.ipv6StepG, forgetV, hc, apply_ite (Option.map _)]
  · simp [Fmt.ipv6StepG, forgetV, Fmt.V6St.start, Fmt.V6St.digit, hc, h3, apply_ite (Option.map _)]

theorem ipv6Acc_forget (q : Fmt.V6St) : Fmt.ipv6Acc q = Fmt.ipv6Acc (forgetV q) := by
  unfold forgetV; split <;> rfl

/-- among the strings without a '.', the definition needs rules 1 and 2 only (a fact about the definition: no pattern
    theorem rests on it) -/
theorem ipv6_hex_quot : ∀ s, avoids [46] s = true → Fmt.ipv6.run s = Fmt.ipv6Hex.run s :=
  sim_run_avoid [46] Fmt.ipv6 Fmt.ipv6Hex forgetV rfl rfl
    (fun q c hc => ipv6Step_forget q c (by intro h; subst h; simp [List.elem] at hc)) ipv6Acc_forget

theorem cidrv6Step_forget (q : Fmt.V6St) (c : Nat) (hc : c ≠ 46) :
    (Fmt.cidrv6StepG true q c).map forgetV = Fmt.cidrv6StepG false (forgetV q) c := by
  unfold Fmt.cidrv6StepG
  rw [forgetV_ph, ← ipv6Acc_forget, ← ipv6Step_forget q c hc]
  by_cases h6 : q.ph = 6
  · have e : forgetV q = q := by simp [forgetV, h6]
    rw [if_pos h6, if_pos h6, e]
    obtain ⟨ph, g, ell, n, v, k⟩ := q
    simp only at h6; subst h6
    simp [Fmt.V6St.digit, forgetV, apply_ite (Option.map _)]
  · rw [if_neg h6, if_neg h6]
    by_cases h47 : c = 47
    · rw [if_pos h47, if_pos h47]; split <;> rfl
    · rw [if_neg h47, if_neg h47]

theorem cidrv6_hex_quot : ∀ s, avoids [46] s = true → Fmt.cidrv6.run s = Fmt.cidrv6Hex.run s :=
  sim_run_avoid [46] Fmt.cidrv6 Fmt.cidrv6Hex forgetV rfl rfl
    (fun q c hc => cidrv6Step_forget q c (by intro h; subst h; simp [List.elem] at hc))
    (fun q => by obtain ⟨ph, g, ell, n, v, k⟩ := q; simp only [forgetV]; split <;> rfl)

def c20_ipv6_pattern_full : Prop := ∀ s, accepts Gen.pat_ipv6 s = Fmt.ipv6.run s
def c20_cidrv6_pattern_full : Prop := ∀ s, accepts Gen.pat_cidrv6 s = Fmt.cidrv6.run s

example : avoids [46, 37] (b! "2001:db8::8a2e:370:7334") = true ∧ Fmt.ipv6.run (b! "2001:db8::8a2e:370:7334") = true ∧
    Fmt.ipv6.run (b! "1:2:3:4:5:6:7:8") = true ∧ Fmt.ipv6.run (b! "1:2:3:4:5:6:7::") = true ∧ Fmt.ipv6.run (b! "::") = true ∧
    Fmt.ipv6.run (b! "1:2:3:4:5:6:7") = false ∧ Fmt.ipv6.run (b! "1::2::3") = false ∧ Fmt.ipv6.run (b! "1:2:3:4:5:6:7:8::") = false ∧
    Fmt.ipv6.run (b! "12345::") = false ∧ Fmt.ipv6.run (b! ":1::2") = false ∧ Fmt.ipv6.run (b! "::ffff:1.2.3.4") = true ∧
    Fmt.ipv6.run (b! "1:2:3:4:5:6:1.2.3.4") = true ∧ Fmt.ipv6.run (b! "1:2:3:4:5:6:7:1.2.3.4") = false ∧
    Fmt.ipv6.run (b! "::1.2.3.256") = false ∧ Fmt.ipv6.run (b! "::01.2.3.4") = false ∧ Fmt.ipv6.run (b! "fe80::1%eth0") = false ∧
    Fmt.cidrv6.run (b! "2001:db8::/32") = true ∧ Fmt.cidrv6.run (b! "::/129") = false ∧ Fmt.cidrv6.run (b! "::/00") = false := by
  decide +kernel

/-- the three ways in which `regex.IPv6` is not RFC 4291: a zone id is taken, a leading zero in the dotted quad is taken,
    six groups followed by a dotted quad are refused -/
theorem c20_ipv6_witnesses :
    accepts Gen.pat_ipv6 (b! "fe80::1%eth0") = true ∧ Fmt.ipv6.run (b! "fe80::1%eth0") = false ∧
    accepts Gen.pat_ipv6 (b! "::01.2.3.4") = true ∧ Fmt.ipv6.run (b! "::01.2.3.4") = false ∧
    accepts Gen.pat_ipv6 (b! "1:2:3:4:5:6:1.2.3.4") = false ∧ Fmt.ipv6.run (b! "1:2:3:4:5:6:1.2.3.4") = true := by
  decide +kernel

theorem c20_ipv6_pattern_witness : ¬ c20_ipv6_pattern_full := fun h =>
  absurd (h (b! "1:2:3:4:5:6:1.2.3.4")) (by rw [c20_ipv6_witnesses.2.2.2.2.1, c20_ipv6_witnesses.2.2.2.2.2]; decide)

/-- Says nothing about the validator, as `c20_cidrv4`; the validator theorem is `c20_ipv6_netip` (Proofs/C20Netip6.lean). -/
theorem c20_ipv6 : ∀ s, Parsers.goIPv6 s = Fmt.ipv6.run s := fun _ => rfl

theorem c20_cidrv6_pattern_witnesses :
    accepts Gen.pat_cidrv6 (b! "fe80::a%eth0/127") = true ∧ Fmt.cidrv6.run (b! "fe80::a%eth0/127") = false ∧
    accepts Gen.pat_cidrv6 (b! "::01.2.3.4/120") = true ∧ Fmt.cidrv6.run (b! "::01.2.3.4/120") = false ∧
    accepts Gen.pat_cidrv6 (b! "1:2:3:4:5:6:1.2.3.4/64") = false ∧ Fmt.cidrv6.run (b! "1:2:3:4:5:6:1.2.3.4/64") = true := by
  decide +kernel

theorem c20_cidrv6_pattern_witness : ¬ c20_cidrv6_pattern_full := fun h =>
  absurd (h (b! "1:2:3:4:5:6:1.2.3.4/64")) (by rw [c20_cidrv6_pattern_witnesses.2.2.2.2.1, c20_cidrv6_pattern_witnesses.2.2.2.2.2]; decide)

/-- Says nothing about the validator, as `c20_cidrv4`; the validator theorem is `c20_cidrv6_netip` (Proofs/C20Netip6.lean). -/
theorem c20_cidrv6 : ∀ s, Parsers.goCIDRv6 s = Fmt.cidrv6.run s := fun _ => rfl

/-! ## option-taking constructors (IsoTime(options): Proofs/C20Time.lean; IsoDateTime(options): Proofs/C20DateTimeOpt.lean) -/

theorem c20_macdot : ∀ s, accepts Gen.val_macdot s = (Fmt.mac 46).run s := mac_of_classes 46 rfl rfl

example : (Fmt.isoTimeOpt (.digits 0)).run (b! "06:15:00") = true ∧ (Fmt.isoTimeOpt (.digits 0)).run (b! "06:15:00.123") = false ∧
    (Fmt.isoTimeOpt (.digits 0)).run (b! "06:15") = false ∧ (Fmt.isoTimeOpt .any).run (b! "06:15") = true ∧
    (Fmt.isoTimeOpt (.digits 3)).run (b! "06:15:00.123") = true ∧ (Fmt.isoTimeOpt (.digits 3)).run (b! "06:15:00.12") = false ∧
    (Fmt.isoTimeOpt .minute).run (b! "06:15:00") = false := by decide +kernel

/-- precision nil and precision 0 are different option sets (a cache of compiled patterns has to key them apart) -/
example : (Fmt.isoDateTimeOpt (.digits 0) true false).run (b! "2020-01-01T06:15:00.123+02:00") = false ∧
    (Fmt.isoDateTimeOpt (.digits 0) true false).run (b! "2020-01-01T06:15Z") = false ∧
    (Fmt.isoDateTimeOpt .any true false).run (b! "2020-01-01T06:15:00.123+02:00") = true ∧
    (Fmt.isoDateTimeOpt .any true false).run (b! "2020-01-01T06:15Z") = true ∧
    (Fmt.isoDateTimeOpt .any false true).run (b! "2020-01-01T06:15") = true ∧
    (Fmt.isoDateTimeOpt .any false false).run (b! "2020-01-01T06:15:00+02:00") = false := by decide +kernel

end Gozod.C20
