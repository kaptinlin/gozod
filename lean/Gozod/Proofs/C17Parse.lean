/-
  C17, text sources: `strconv.ParseInt` / `ParseUint` / `FormatInt` as Lean functions
  (`Gozod.Model.ParseInt`) with the theorems that make integer-string sources part of the proof
  instead of assumptions shipped by the harness. `Denotes` is a positional reading independent
  of the parser's loop; the accepted language is exactly sign? digit+ (leading zeros and a
  leading plus included), within the range for `ParseInt`, without one for
  `big.Int.SetString(·, 10)`; `strings.TrimSpace` leaves a numeral alone.
-/
import Gozod.Model.ParseInt

namespace Gozod.C17P
open Gozod.ParseInt

theorem digitVal_dec (d : Nat) (h : d < 10) : digitVal 10 (d + 48) = some d := by
  unfold digitVal
  rw [if_pos (by omega)]
  congr 1

theorem digitVal_dec_inv (b d : Nat) (h : digitVal 10 b = some d) : b = d + 48 ∧ d < 10 := by
  unfold digitVal at h
  by_cases h1 : 48 ≤ b ∧ b ≤ 57
  · rw [if_pos h1] at h; injection h with h; omega
  · rw [if_neg h1, if_neg (by omega), if_neg (by omega)] at h; cases h

/-- One round of the loop `acc ↦ acc * 10 + d` is one more position in front. -/
theorem posVal_step (acc d : Nat) (ds : List Nat) :
    (acc * 10 + d) * 10 ^ ds.length + posVal 10 ds = acc * 10 ^ (d :: ds).length + posVal 10 (d :: ds) := by
  simp only [posVal, List.length_cons]
  rw [Nat.pow_succ, Nat.add_mul, Nat.mul_assoc, Nat.mul_comm 10, Nat.add_assoc]

theorem digitsVal_map (ds : List Nat) : ∀ acc, (∀ d ∈ ds, d < 10) →
    digitsVal 10 (ds.map (· + 48)) acc = some (acc * 10 ^ ds.length + posVal 10 ds) := by
  induction ds with
  | nil => intro acc _; simp [digitsVal, posVal]
  | cons d ds ih =>
    intro acc h
    have hd : d < 10 := h d (List.mem_cons_self ..)
    have ht : ∀ x ∈ ds, x < 10 := fun x hx => h x (List.mem_cons_of_mem _ hx)
    simp only [List.map_cons, digitsVal, digitVal_dec d hd, ih _ ht, posVal_step]

theorem digitsVal_sound (bs : List Nat) : ∀ acc n, digitsVal 10 bs acc = some n →
    ∃ ds, bs = ds.map (· + 48) ∧ (∀ d ∈ ds, d < 10) ∧ n = acc * 10 ^ ds.length + posVal 10 ds := by
  induction bs with
  | nil => intro acc n h; simp [digitsVal] at h; exact ⟨[], rfl, by simp, by simp [posVal, h]⟩
  | cons b bs ih =>
    intro acc n h
    simp only [digitsVal] at h
    cases hb : digitVal 10 b with
    | none => rw [hb] at h; cases h
    | some d =>
      rw [hb] at h
      have ⟨hbd, hd⟩ := digitVal_dec_inv b d hb
      have ⟨ds, e, hall, hn⟩ := ih _ _ h
      refine ⟨d :: ds, by simp [e, hbd], ?_, ?_⟩
      · intro x hx
        rcases List.mem_cons.mp hx with rfl | hx
        · exact hd
        · exact hall x hx
      · rw [hn, posVal_step]

theorem map_ne_nil {ds : List Nat} (h : ds ≠ []) : ds.map (· + 48) ≠ [] := by
  cases ds with
  | nil => exact absurd rfl h
  | cons _ _ => simp

theorem parseUint_digits (ds : List Nat) (bits : Nat) (hne : ds ≠ []) (hall : ∀ d ∈ ds, d < 10) :
    parseUint (ds.map (· + 48)) bits = if posVal 10 ds < 2 ^ bits then some (posVal 10 ds) else none := by
  have h := digitsVal_map ds 0 hall
  simp only [Nat.zero_mul, Nat.zero_add] at h
  unfold parseUint
  rw [if_neg (map_ne_nil hne), h]

theorem parseUint_sound (bs : List Nat) (bits n : Nat) (h : parseUint bs bits = some n) :
    ∃ ds, bs = ds.map (· + 48) ∧ ds ≠ [] ∧ (∀ d ∈ ds, d < 10) ∧ n = posVal 10 ds ∧ n < 2 ^ bits := by
  unfold parseUint at h
  by_cases hne : bs = []
  · rw [if_pos hne] at h; cases h
  · rw [if_neg hne] at h
    cases hd : digitsVal 10 bs 0 with
    | none => rw [hd] at h; cases h
    | some m =>
      rw [hd] at h
      simp only [] at h
      have ⟨ds, e, hall, hm⟩ := digitsVal_sound bs 0 m hd
      by_cases hlt : m < 2 ^ bits
      · rw [if_pos hlt] at h; injection h with h; subst h
        refine ⟨ds, e, ?_, hall, by simpa using hm, hlt⟩
        intro hnil; subst hnil; exact hne e
      · rw [if_neg hlt] at h; cases h

theorem splitSign_digits (ds : List Nat) (hne : ds ≠ []) (hall : ∀ d ∈ ds, d < 10) :
    splitSign (ds.map (· + 48)) = (false, ds.map (· + 48)) := by
  cases ds with
  | nil => exact absurd rfl hne
  | cons d ds =>
    have hd : d < 10 := hall d (List.mem_cons_self ..)
    simp only [List.map_cons]
    unfold splitSign
    split
    · rename_i e; injection e with e _; omega
    · rename_i e; injection e with e _; omega
    · rfl

theorem splitSign_cases (bs : List Nat) :
    ((splitSign bs).1 = false ∧ (bs = (splitSign bs).2 ∨ bs = 43 :: (splitSign bs).2)) ∨
    ((splitSign bs).1 = true ∧ bs = 45 :: (splitSign bs).2) := by
  unfold splitSign
  split
  · exact Or.inl ⟨rfl, Or.inr rfl⟩
  · exact Or.inr ⟨rfl, rfl⟩
  · exact Or.inl ⟨rfl, Or.inl rfl⟩

/-- `Denotes`, read through `splitSign`. -/
theorem denotes_iff (bs : List Nat) (n : Int) :
    Denotes bs n ↔ ∃ ds, (splitSign bs).2 = ds.map (· + 48) ∧ ds ≠ [] ∧ (∀ d ∈ ds, d < 10) ∧
      n = if (splitSign bs).1 then -(posVal 10 ds : Int) else (posVal 10 ds : Int) := by
  constructor
  · rintro ⟨neg, sign, ds, rfl, hne, hall, hsg, hn⟩
    have hsplit : splitSign (sign ++ ds.map (· + 48)) = (neg, ds.map (· + 48)) := by
      rcases hsg with ⟨rfl, rfl | rfl⟩ | ⟨rfl, rfl⟩
      · exact splitSign_digits ds hne hall
      · rfl
      · rfl
    exact ⟨ds, by rw [hsplit], hne, hall, by rw [hsplit]; exact hn⟩
  · rintro ⟨ds, e, hne, hall, hn⟩
    rcases splitSign_cases bs with ⟨hneg, hbs | hbs⟩ | ⟨hneg, hbs⟩ <;> rw [hneg] at hn
    · exact ⟨false, [], ds, by rw [hbs, e]; rfl, hne, hall, .inl ⟨rfl, .inl rfl⟩, hn⟩
    · exact ⟨false, [43], ds, by rw [hbs, e]; rfl, hne, hall, .inl ⟨rfl, .inr rfl⟩, hn⟩
    · exact ⟨true, [45], ds, by rw [hbs, e]; rfl, hne, hall, .inr ⟨rfl, rfl⟩, hn⟩

theorem two_pow_cast (k : Nat) : ((2 ^ k : Nat) : Int) = (2 : Int) ^ k := by
  simp [Int.natCast_pow]

/-- Soundness: whatever `ParseInt` returns is the value the text denotes, and it fits. -/
theorem parseInt_sound (bs : List Nat) (bits : Nat) (n : Int)
    (h : parseInt bs bits = some n) :
    Denotes bs n ∧ -(2 ^ (bits - 1) : Int) ≤ n ∧ n < 2 ^ (bits - 1) := by
  unfold parseInt at h
  cases hu : parseUint (splitSign bs).2 bits with
  | none => rw [hu] at h; cases h
  | some un =>
    rw [hu] at h
    obtain ⟨ds, e, hdne, hall, hun, _⟩ := parseUint_sound _ bits un hu
    have hcast := two_pow_cast (bits - 1)
    have hden (hn : n = if (splitSign bs).1 then -(un : Int) else (un : Int)) : Denotes bs n :=
      (denotes_iff bs n).mpr ⟨ds, e, hdne, hall, hun ▸ hn⟩
    have hpos : 0 < 2 ^ (bits - 1) := Nat.pow_pos (by decide)
    rw [← hcast]
    cases hneg : (splitSign bs).1 <;> simp only [hneg, Bool.false_eq_true, ↓reduceIte] at h hden
    · by_cases hc : un ≥ 2 ^ (bits - 1)
      · rw [if_pos hc] at h; cases h
      · rw [if_neg hc] at h; injection h with h
        exact ⟨hden h.symm, by omega, by omega⟩
    · by_cases hc : un > 2 ^ (bits - 1)
      · rw [if_pos hc] at h; cases h
      · rw [if_neg hc] at h; injection h with h
        exact ⟨hden h.symm, by omega, by omega⟩

/-- Completeness: every decimal numeral whose value fits `bits` bits is accepted, with the
    value it denotes. -/
theorem parseInt_complete (bs : List Nat) (bits : Nat) (n : Int) (hb : 1 ≤ bits)
    (hd : Denotes bs n) (hlo : -(2 ^ (bits - 1) : Int) ≤ n) (hhi : n < 2 ^ (bits - 1)) :
    parseInt bs bits = some n := by
  obtain ⟨ds, e, hne, hall, hn⟩ := (denotes_iff bs n).mp hd
  have hpow : 2 ^ bits = 2 * 2 ^ (bits - 1) := by
    rw [← Nat.pow_succ']; congr 1; omega
  rw [hn, ← two_pow_cast] at hlo hhi
  unfold parseInt
  rw [e, parseUint_digits ds bits hne hall]
  cases hneg : (splitSign bs).1 <;> simp only [hneg, Bool.false_eq_true, ↓reduceIte] at hn hlo hhi ⊢
  · rw [if_pos (by omega)]
    simp only []
    rw [if_neg (by omega), hn]
  · rw [if_pos (by omega)]
    simp only []
    rw [if_neg (by omega), hn]

theorem parseInt_iff (bs : List Nat) (bits : Nat) (n : Int) (hb : 1 ≤ bits) :
    parseInt bs bits = some n ↔ (Denotes bs n ∧ -(2 ^ (bits - 1) : Int) ≤ n ∧ n < 2 ^ (bits - 1)) :=
  ⟨parseInt_sound bs bits n, fun ⟨hd, hlo, hhi⟩ => parseInt_complete bs bits n hb hd hlo hhi⟩

theorem natDigitsAux_spec : ∀ (fuel n : Nat) (acc : List Nat), n < 2 ^ fuel → 0 < fuel → (∀ d ∈ acc, d < 10) →
    (∀ d ∈ natDigitsAux fuel n acc, d < 10) ∧ natDigitsAux fuel n acc ≠ [] ∧
    posVal 10 (natDigitsAux fuel n acc) = n * 10 ^ acc.length + posVal 10 acc := by
  intro fuel
  induction fuel with
  | zero => intro n acc _ h; exact absurd h (by decide)
  | succ fuel ih =>
    intro n acc hn _ hacc
    unfold natDigitsAux
    by_cases h10 : n < 10
    · rw [if_pos h10]
      refine ⟨?_, by simp, by simp [posVal]⟩
      intro d hd
      rcases List.mem_cons.mp hd with rfl | hd
      · exact h10
      · exact hacc d hd
    · rw [if_neg h10]
      have hf : 0 < fuel := by
        cases fuel with
        | zero => simp at hn; omega
        | succ _ => omega
      have hlt : n / 10 < 2 ^ fuel := by
        rw [Nat.pow_succ] at hn; omega
      have hacc' : ∀ d ∈ n % 10 :: acc, d < 10 := by
        intro d hd
        rcases List.mem_cons.mp hd with rfl | hd
        · omega
        · exact hacc d hd
      have ⟨h1, h2, h3⟩ := ih (n / 10) (n % 10 :: acc) hlt hf hacc'
      refine ⟨h1, h2, ?_⟩
      rw [h3]; simp only [posVal, List.length_cons]
      rw [Nat.pow_succ, ← Nat.add_assoc]
      congr 1
      have h := Nat.div_add_mod n 10
      calc n / 10 * (10 ^ acc.length * 10) + n % 10 * 10 ^ acc.length
          = (10 * (n / 10) + n % 10) * 10 ^ acc.length := by
            rw [Nat.add_mul, Nat.mul_comm 10 (n / 10), Nat.mul_assoc, Nat.mul_comm 10]
        _ = n * 10 ^ acc.length := by rw [h]

theorem natDigits_spec (n : Nat) :
    (∀ d ∈ natDigits n, d < 10) ∧ natDigits n ≠ [] ∧ posVal 10 (natDigits n) = n := by
  have h := natDigitsAux_spec (n.log2 + 1) n [] Nat.lt_log2_self (by omega) (by simp)
  simpa [natDigits, posVal] using h

theorem formatInt_denotes (n : Int) : Denotes (formatInt n) n := by
  have ⟨h1, h2, h3⟩ := natDigits_spec n.natAbs
  unfold formatInt
  by_cases hneg : n < 0
  · rw [if_pos hneg]
    exact ⟨true, [45], natDigits n.natAbs, rfl, h2, h1, Or.inr ⟨rfl, rfl⟩, by simp [h3]; omega⟩
  · rw [if_neg hneg]
    exact ⟨false, [], natDigits n.natAbs, rfl, h2, h1, Or.inl ⟨rfl, Or.inl rfl⟩, by simp [h3]; omega⟩

/-- Round trip: `ParseInt(FormatInt(n, 10), 10, bits) = n` for every `n` of the width. -/
theorem parseInt_formatInt (bits : Nat) (n : Int) (hb : 1 ≤ bits)
    (hlo : -(2 ^ (bits - 1) : Int) ≤ n) (hhi : n < 2 ^ (bits - 1)) :
    parseInt (formatInt n) bits = some n :=
  parseInt_complete _ bits n hb (formatInt_denotes n) hlo hhi

theorem parseInt_formatInt_i64 (n : Int) (hlo : -(2 ^ 63 : Int) ≤ n) (hhi : n < 2 ^ 63) :
    parseInt (formatInt n) 64 = some n := parseInt_formatInt 64 n (by decide) hlo hhi

theorem parseUint_formatNat (bits n : Nat) (h : n < 2 ^ bits) : parseUint (formatNat n) bits = some n := by
  have ⟨h1, h2, h3⟩ := natDigits_spec n
  unfold formatNat
  rw [parseUint_digits _ bits h2 h1, h3, if_pos h]

theorem parseBig_sound (bs : List Nat) (n : Int) (h : parseBig bs 10 = some n) : Denotes bs n := by
  unfold parseBig at h
  by_cases hne : (splitSign bs).2 = []
  · rw [if_pos hne] at h; cases h
  · rw [if_neg hne] at h
    cases hd : digitsVal 10 (splitSign bs).2 0 with
    | none => rw [hd] at h; cases h
    | some m =>
      rw [hd] at h
      injection h with h
      obtain ⟨ds, e, hall, hm⟩ := digitsVal_sound _ 0 m hd
      rw [Nat.zero_mul, Nat.zero_add] at hm
      exact (denotes_iff bs n).mpr ⟨ds, e, fun hnil => hne (by rw [e, hnil]; rfl), hall, hm ▸ h.symm⟩

theorem parseBig_complete (bs : List Nat) (n : Int) (hd : Denotes bs n) : parseBig bs 10 = some n := by
  obtain ⟨ds, e, hne, hall, hn⟩ := (denotes_iff bs n).mp hd
  unfold parseBig
  rw [e, if_neg (map_ne_nil hne), digitsVal_map ds 0 hall, Nat.zero_mul, Nat.zero_add, hn]

theorem parseBig_formatInt (n : Int) : parseBig (formatInt n) 10 = some n :=
  parseBig_complete _ n (formatInt_denotes n)

/-- Every white-space encoding starts (and ends) with a byte outside 33…127. -/
theorem spaceAtHead_ascii (b : Nat) (rest : List Nat) (h : 33 ≤ b ∧ b ≤ 127) : spaceAtHead (b :: rest) = 0 := by
  unfold spaceAtHead
  -- the match has 13 arms; every one but the last (`h_13`, the fall-through) fixes the first byte
  split
  case h_13 => rfl
  all_goals (rename_i e; injection e with e; omega)

theorem spaceAtEndRev_ascii (b : Nat) (rest : List Nat) (h : 33 ≤ b ∧ b ≤ 127) : spaceAtEndRev (b :: rest) = 0 := by
  unfold spaceAtEndRev
  -- as above; `h_12` is the arm `b :: 0x80 :: 0xE2 :: _`, whose `b` must be one of 0x80…0xAF
  split
  case h_12 e => injection e with e; exact if_neg (by omega)
  case h_13 => rfl
  all_goals (rename_i e; injection e with e; omega)

theorem stripWith_zero (f : List Nat → Nat) (fuel : Nat) (bs : List Nat) (h : f bs = 0) : stripWith f fuel bs = bs := by
  cases fuel with
  | zero => rfl
  | succ k => simp [stripWith, h]

theorem stripWith_ones (f : List Nat → Nat) (l rest : List Nat) (hl : ∀ b ∈ l, ∀ tl, f (b :: tl) = 1)
    (fuel : Nat) (hfuel : l.length ≤ fuel) :
    stripWith f fuel (l ++ rest) = stripWith f (fuel - l.length) rest := by
  induction l generalizing fuel with
  | nil => simp
  | cons b l ih =>
    cases fuel with
    | zero => simp at hfuel
    | succ k =>
      have h1 := hl b (List.mem_cons_self ..) (l ++ rest)
      have hk : l.length ≤ k := by simpa using hfuel
      simp only [List.cons_append, stripWith, h1, List.drop_succ_cons, List.drop_zero, List.length_cons]
      rw [ih (fun c hc => hl c (List.mem_cons_of_mem _ hc)) k hk]
      congr 1; omega

theorem stripWith_prefix (f : List Nat → Nat) (l rest : List Nat) (hl : ∀ b ∈ l, ∀ tl, f (b :: tl) = 1)
    (hrest : f rest = 0) (fuel : Nat) (hfuel : l.length ≤ fuel) : stripWith f fuel (l ++ rest) = rest := by
  rw [stripWith_ones f l rest hl fuel hfuel]
  exact stripWith_zero _ _ _ hrest

/-- `TrimSpace` against the shape of the text: one-byte white space on either side of a core
    of printable ASCII goes, the core stays. -/
theorem trimSpace_frame (l core r : List Nat) (hh : ∀ b ∈ l ++ r, ∀ tl, spaceAtHead (b :: tl) = 1)
    (hr : ∀ b ∈ r, ∀ tl, spaceAtEndRev (b :: tl) = 1) (hc : ∀ b ∈ core, 33 ≤ b ∧ b ≤ 127) :
    trimSpace (l ++ core ++ r) = core := by
  unfold trimSpace
  cases core with
  | nil =>
    -- nothing but white space: the first pass takes it all
    rw [List.append_nil, ← List.append_nil (l ++ r), stripWith_prefix _ (l ++ r) [] hh rfl _ (by simp)]
    rfl
  | cons b cs =>
    have hend : spaceAtEndRev (b :: cs).reverse = 0 := by
      cases hcr : (b :: cs).reverse with
      | nil => simp at hcr
      | cons c rest => exact spaceAtEndRev_ascii c rest (hc c (List.mem_reverse.mp (hcr ▸ List.mem_cons_self ..)))
    have h1 : stripWith spaceAtHead (l ++ (b :: cs) ++ r).length (l ++ (b :: cs) ++ r) = b :: cs ++ r := by
      rw [List.append_assoc]
      exact stripWith_prefix _ l _ (fun c h => hh c (List.mem_append_left _ h))
        (spaceAtHead_ascii b _ (hc b (List.mem_cons_self ..))) _ (by simp)
    have h2 : stripWith spaceAtEndRev (b :: cs ++ r).length (b :: cs ++ r).reverse = (b :: cs).reverse := by
      rw [List.reverse_append]
      exact stripWith_prefix _ r.reverse _ (fun c h => hr c (List.mem_reverse.mp h)) hend _ (by simp; omega)
    simp only [h1, h2, List.reverse_reverse]

theorem trimSpace_ascii (bs : List Nat) (h : ∀ b ∈ bs, 33 ≤ b ∧ b ≤ 127) : trimSpace bs = bs := by
  simpa using trimSpace_frame [] bs [] nofun nofun h

theorem formatInt_ascii (n : Int) : ∀ b ∈ formatInt n, 33 ≤ b ∧ b ≤ 127 := by
  have ⟨h1, _, _⟩ := natDigits_spec n.natAbs
  have hd : ∀ b ∈ formatNat n.natAbs, 33 ≤ b ∧ b ≤ 127 := by
    intro b hb
    unfold formatNat at hb
    obtain ⟨d, hd, rfl⟩ := List.mem_map.mp hb
    have := h1 d hd
    omega
  intro b hb
  unfold formatInt at hb
  by_cases hneg : n < 0
  · rw [if_pos hneg] at hb
    rcases List.mem_cons.mp hb with rfl | hb
    · omega
    · exact hd b hb
  · rw [if_neg hneg] at hb; exact hd b hb

theorem trimSpace_formatInt (n : Int) : trimSpace (formatInt n) = formatInt n :=
  trimSpace_ascii _ (formatInt_ascii n)

theorem denotes_ne_nil (bs : List Nat) (n : Int) (h : Denotes bs n) : bs ≠ [] := by
  obtain ⟨_, sign, ds, e, hne, _⟩ := h
  intro hnil
  rw [hnil] at e
  have := congrArg List.length e
  simp at this
  cases ds with
  | nil => exact hne rfl
  | cons _ _ => simp at this

theorem digitsVal_rejects (base : Nat) (bs : List Nat) (b : Nat) (hb : digitVal base b = none) (hm : b ∈ bs) :
    ∀ acc, digitsVal base bs acc = none := by
  induction bs with
  | nil => cases hm
  | cons c cs ih =>
    intro acc
    simp only [digitsVal]
    cases hc : digitVal base c with
    | none => rfl
    | some d =>
      simp only []
      rcases List.mem_cons.mp hm with rfl | hm
      · rw [hb] at hc; cases hc
      · exact ih hm _

/-- A byte that is neither a digit nor a leading sign anywhere in the text is a syntax error:
    underscores (`"1_000"`), blanks inside (`"1 2"`), letters, a decimal point, an exponent. -/
theorem parseInt_rejects (bs : List Nat) (bits b : Nat) (hm : b ∈ bs) (hb : digitVal 10 b = none)
    (hs : b ≠ 43 ∧ b ≠ 45) : parseInt bs bits = none := by
  have hrest : b ∈ (splitSign bs).2 := by
    rcases splitSign_cases bs with ⟨_, h | h⟩ | ⟨_, h⟩
    · rw [← h]; exact hm
    · rw [h] at hm
      rcases List.mem_cons.mp hm with h' | h'
      · exact absurd h' hs.1
      · exact h'
    · rw [h] at hm
      rcases List.mem_cons.mp hm with h' | h'
      · exact absurd h' hs.2
      · exact h'
  have : parseUint (splitSign bs).2 bits = none := by
    unfold parseUint
    split
    · rfl
    · rw [digitsVal_rejects 10 _ b hb hrest]
  unfold parseInt
  rw [this]

theorem parseInt_rejects_underscore (bs : List Nat) (bits : Nat) (hm : 95 ∈ bs) : parseInt bs bits = none :=
  parseInt_rejects bs bits 95 hm (by decide) (by decide)

/-- Boundary instances at every width (range errors just outside, acceptance at the limits,
    leading zeros and plus, bare signs, double signs, empty). `"-128"` = [45,49,50,56]. -/
theorem parseInt_boundaries :
    parseInt [45, 49, 50, 56] 8 = some (-128) ∧ parseInt [45, 49, 50, 57] 8 = none ∧
    parseInt [49, 50, 55] 8 = some 127 ∧ parseInt [49, 50, 56] 8 = none ∧
    parseInt [43, 48, 48, 49, 50, 55] 8 = some 127 ∧
    parseInt (formatInt (2 ^ 63 - 1)) 64 = some (2 ^ 63 - 1) ∧ parseInt (formatInt (2 ^ 63)) 64 = none ∧
    parseInt (formatInt (-(2 ^ 63))) 64 = some (-(2 ^ 63)) ∧ parseInt (formatInt (-(2 ^ 63) - 1)) 64 = none ∧
    parseInt [] 64 = none ∧ parseInt [43] 64 = none ∧ parseInt [45] 64 = none ∧
    parseInt [45, 45, 49] 64 = none ∧ parseInt [43, 45, 49] 64 = none ∧
    parseUint [43, 49] 64 = none ∧ parseUint (formatNat (2 ^ 64 - 1)) 64 = some (2 ^ 64 - 1) ∧
    parseUint (formatNat (2 ^ 64)) 64 = none := by
  decide +kernel

example : Denotes [43, 48, 55] 7 ∧ parseInt [43, 48, 55] 8 = some 7 :=
  ⟨⟨false, [43], [0, 7], rfl, by simp, by decide, Or.inl ⟨rfl, Or.inr rfl⟩, by decide⟩, by decide⟩

/-- " \t7 　" → "7"; an incomplete white-space encoding is kept; all-blank → "".  (Samples: the function
    itself is driven against `strings.TrimSpace` by the run.) -/
theorem trimSpace_samples :
    trimSpace [32, 9, 55, 0xC2, 0xA0, 0xE3, 0x80, 0x80] = [55] ∧
    trimSpace [0xE2, 0x80, 55] = [0xE2, 0x80, 55] ∧ trimSpace [55, 0xC2] = [55, 0xC2] ∧
    trimSpace [32, 0xE2, 0x80, 0x8A, 10] = [] ∧ trimSpace [49, 32, 50] = [49, 32, 50] := by
  decide

end Gozod.C17P
