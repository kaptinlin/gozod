/-
  C10 — `validatePointer`'s pointer pass, its run of the checks over the raw pointer (`firstPassG` / `runChecksG`,
  Model/ChecksC.lean; "first": up to /repo 49e6e91 it ran before the regular loop, since then after it, on accepted inputs):
  whatever a type's wrappers do with a raw pointer payload (`rawB : P → RawB`, `ow : OwB` — any classification), issues
  and value are those of the regular loop (`c10_generic_all`); the classification the driver uses (`Drv.C10U.clsOf`)
  matters for the callback log only.

  The passes the model spells out for strings (`runChecksOn`) and containers (`runChecksC`) are instances; each section
  keeps the theorems about the code before 49e6e91.
-/
import Gozod.Proofs.C10Loop
namespace Gozod.C10

variable {P O T V : Type}

theorem firstPassG_issues_ne_nil (env : Env P O T V) (rawB : P → RawB) (ow : OwB) (cs : List (Check P O)) :
    ∀ (i : Nat) (val : V) (raw : Bool) (iss : List Nat) (log : List (Ev V)), iss ≠ [] →
      (firstPassG env rawB ow i cs val raw iss log).issues ≠ [] := by
  induction cs with
  | nil => intro i val raw iss log h; exact h
  | cons c cs ih =>
    intro i val raw iss log h
    have hsnoc : iss ++ [i] ≠ [] := List.append_ne_nil_of_right_ne_nil _ (List.cons_ne_nil _ _)
    obtain ⟨evs, -, e⟩ := firstPassG_turn env rawB ow i c cs val raw iss log
    rw [e]
    split
    · split
      · exact hsnoc
      · exact ih _ _ _ _ _ hsnoc
    · exact ih _ _ _ _ _ h

theorem firstPassG_ok_cons {env : Env P O T V} {rawB : P → RawB} {ow : OwB} {i : Nat} {c : Check P O}
    {cs : List (Check P O)} {val : V} {raw : Bool} {log : List (Ev V)}
    (h : (firstPassG env rawB ow i (c :: cs) val raw [] log).issues = []) :
    failsG env rawB raw c val = false ∧ ∃ log',
      firstPassG env rawB ow i (c :: cs) val raw [] log =
        firstPassG env rawB ow (i + 1) cs (stepG env ow raw c val).1 (stepG env ow raw c val).2 [] log' := by
  obtain ⟨evs, -, e⟩ := firstPassG_turn env rawB ow i c cs val raw [] log
  cases hf : failsG env rawB raw c val with
  | false => exact ⟨rfl, _, by rw [e, if_neg (fun h => by rw [hf] at h; cases h.2)]⟩
  | true =>
    rw [e, if_pos ⟨skipped_nil _, hf⟩] at h
    split at h
    · cases h
    · exact absurd h (firstPassG_issues_ne_nil env rawB ow cs _ _ _ _ _ (List.cons_ne_nil _ _))

theorem stepG_applies (env : Env P O T V) {ow : OwB} (happ : ow.applies = true) (raw : Bool) (c : Check P O) (x : V) :
    (stepG env ow raw c x).1 = stepSeen env c x := by
  cases c with
  | overwrite o => simp only [stepG, happ, Bool.not_true, Bool.and_false, Bool.false_eq_true, if_false, stepSeen]
  | pred p a w => rfl

theorem firstPassG_ok_val (env : Env P O T V) (rawB : P → RawB) {ow : OwB} (happ : ow.applies = true)
    (cs : List (Check P O)) : ∀ (i : Nat) (val : V) (raw : Bool) (log : List (Ev V)),
      (firstPassG env rawB ow i cs val raw [] log).issues = [] →
      (firstPassG env rawB ow i cs val raw [] log).val = seenAt env cs cs.length val := by
  induction cs with
  | nil => intros; rfl
  | cons c cs ih =>
    intro i val raw log h
    obtain ⟨-, log', e⟩ := firstPassG_ok_cons h
    rw [e] at h ⊢
    rw [List.length_cons, seenAt_cons_succ, ← stepG_applies env happ raw]
    exact ih _ _ _ _ h

/-- Pass and regular loop both hand the input through the overwrites: the one fact `c10_generic_all` needs of the pass. -/
theorem firstPassG_of_ok (env : Env P O T V) (rawB : P → RawB) (ow : OwB) (happ : ow.applies = true)
    (cs : List (Check P O)) :
    ∀ (i j : Nat) (val : V) (raw : Bool) (log log' : List (Ev V)),
      (runFrom env j cs val [] log').issues = [] →
      (firstPassG env rawB ow i cs val raw [] log).issues = [] →
      (firstPassG env rawB ow i cs val raw [] log).val = (runFrom env j cs val [] log').val := by
  intro i j val raw log log' h hg
  rw [← firstPassG_cooked env rawB ow] at h ⊢
  rw [firstPassG_ok_val env rawB happ cs _ _ _ _ hg, firstPassG_ok_val env rawB happ cs _ _ _ _ h]

theorem runChecksG_of_rejected (env : Env P O T V) (rawB : P → RawB) (ow : OwB) (viaPtr : Bool)
    (cs : List (Check P O)) (v : V) (h : (runChecks env cs v).issues ≠ []) :
    runChecksG env rawB ow viaPtr cs v = runChecks env cs v := by
  simp only [runChecksG, if_pos h, ite_self]

/-- C10 for every schema type, value and pointer inputs: whatever the type's wrappers do with a raw pointer
    payload, `validatePointer` reports exactly the issues and returns exactly the value of the regular loop, so
    the clauses of C10Loop hold verbatim;
    an overwrite is applied to the VALUE once (`IntPtr().Overwrite(x+1).Parse(&5)` = 6), although its callback
    is invoked twice. -/
theorem c10_generic_all (env : Env P O T V) (rawB : P → RawB) (ow : OwB) (viaPtr : Bool) (cs : List (Check P O)) (v : V) :
    (runChecksG env rawB ow viaPtr cs v).issues = (runChecks env cs v).issues ∧
    (runChecksG env rawB ow viaPtr cs v).val = (runChecks env cs v).val := by
  by_cases hr : (runChecks env cs v).issues = []
  · simp only [runChecksG, hr, ne_eq, not_true_eq_false, if_false]
    split
    · split
      next hc =>
        simp only [Bool.and_eq_true, List.isEmpty_iff] at hc
        exact ⟨rfl, firstPassG_of_ok env rawB ow hc.1 cs 0 0 v true [] [] hr hc.2⟩
      · exact ⟨rfl, rfl⟩
    · exact ⟨hr, rfl⟩
  · rw [runChecksG_of_rejected env rawB ow viaPtr cs v hr]; exact ⟨rfl, rfl⟩

/-- Parsing succeeds exactly when no check fails — every type, every input route. -/
theorem c10_generic_ok_iff (env : Env P O T V) (rawB : P → RawB) (ow : OwB) (viaPtr : Bool) (cs : List (Check P O)) (v : V) :
    (runChecksG env rawB ow viaPtr cs v).issues = [] ↔ ∀ k, k < cs.length → failsAt env cs k v = false := by
  rw [(c10_generic_all env rawB ow viaPtr cs v).1]
  exact c10_ok_iff_no_fail env cs v

theorem runChecksG_ok_val (env : Env P O T V) (rawB : P → RawB) (ow : OwB) (viaPtr : Bool) (cs : List (Check P O)) (v : V)
    (h : (runChecksG env rawB ow viaPtr cs v).issues = []) :
    (runChecksG env rawB ow viaPtr cs v).val = seenAt env cs cs.length v := by
  rw [(c10_generic_all env rawB ow viaPtr cs v).1] at h
  rw [(c10_generic_all env rawB ow viaPtr cs v).2, c10_ok_value env cs v h]

/-- A rejected input has run the regular loop only: nothing attached after an aborting failure is evaluated,
    over the whole callback log. -/
theorem c10_generic_abort (env : Env P O T V) (rawB : P → RawB) (ow : OwB) (viaPtr : Bool) (cs : List (Check P O)) (v : V) (k : Nat)
    (hk : k ∈ (runChecksG env rawB ow viaPtr cs v).issues) (ha : abortAt cs k = true) :
    ∀ e ∈ (runChecksG env rawB ow viaPtr cs v).log, e.pos ≤ k := by
  have hne : (runChecks env cs v).issues ≠ [] := by
    rw [← (c10_generic_all env rawB ow viaPtr cs v).1]; exact List.ne_nil_of_mem hk
  rw [runChecksG_of_rejected env rawB ow viaPtr cs v hne] at hk ⊢
  exact (c10_abort_stops env cs v k hk ha).1

/-- `I`: a set of values closed under the overwrites, on which the two environments' overwrites agree — ASCII strings for
    Go's Unicode-aware overwrites against the ASCII ones (`C01.strU_runOn_ascii`). -/
theorem firstPassG_env_congr {env₁ env₂ : Env P O T V} (I : V → Prop) (hh : env₁.holds = env₂.holds)
    (ha : ∀ o v, I v → env₁.apply o v = env₂.apply o v ∧ I (env₂.apply o v)) (rawB : P → RawB) (ow : OwB)
    (cs : List (Check P O)) : ∀ (i : Nat) (v : V) (raw : Bool) (iss : List Nat) (log : List (Ev V)), I v →
      firstPassG env₁ rawB ow i cs v raw iss log = firstPassG env₂ rawB ow i cs v raw iss log := by
  induction cs with
  | nil => intros; rfl
  | cons c cs ih =>
    intro i v raw iss log hv
    have ih' := fun i raw iss log => ih i v raw iss log hv
    cases c with
    | overwrite o => simp only [firstPassG, (ha o v hv).1, ih', fun i raw iss log => ih i _ raw iss log (ha o v hv).2]
    | pred p a w => cases w <;> simp only [firstPassG, hh, ih']

theorem runChecksG_env_congr {env₁ env₂ : Env P O T V} (I : V → Prop) (hh : env₁.holds = env₂.holds)
    (ha : ∀ o v, I v → env₁.apply o v = env₂.apply o v ∧ I (env₂.apply o v)) (rawB : P → RawB) (ow : OwB)
    (viaPtr : Bool) (cs : List (Check P O)) (v : V) (hv : I v) :
    runChecksG env₁ rawB ow viaPtr cs v = runChecksG env₂ rawB ow viaPtr cs v := by
  simp only [runChecksG, runChecks, ← firstPassG_cooked _ rawB ow, firstPassG_env_congr I hh ha rawB ow cs _ v _ _ _ hv]

/-! ### comparing two classifications

  Not on the way to `c10_generic_all`: these serve the statements about the code before /repo 49e6e91 only, where the
  pointer pass decided. -/

/-- `hle` compares the two classifications at ANY pair of rawness flags (the two passes cook at different turns), so this
    serves comparisons that are uniform in rawness: a class against `run`. -/
theorem firstPassG_ok_mono (env : Env P O T V) {rawB₁ rawB₂ : P → RawB} {ow : OwB} (happ : ow.applies = true)
    (hle : ∀ raw₁ raw₂ c x, failsG env rawB₁ raw₁ c x = true → failsG env rawB₂ raw₂ c x = true)
    (cs : List (Check P O)) : ∀ (i j : Nat) (val : V) (raw₁ raw₂ : Bool) (log₁ log₂ : List (Ev V)),
      (firstPassG env rawB₂ ow j cs val raw₂ [] log₂).issues = [] →
      (firstPassG env rawB₁ ow i cs val raw₁ [] log₁).issues = [] := by
  induction cs with
  | nil => intros; rfl
  | cons c cs ih =>
    intro i j val raw₁ raw₂ log₁ log₂ h
    obtain ⟨hf₂, log₂', e₂⟩ := firstPassG_ok_cons h
    have hf₁ : failsG env rawB₁ raw₁ c val = false :=
      Bool.eq_false_iff.mpr fun hf => by rw [hle _ raw₂ _ _ hf] at hf₂; cases hf₂
    obtain ⟨evs, -, e₁⟩ := firstPassG_turn env rawB₁ ow i c cs val raw₁ [] log₁
    rw [e₂, stepG_applies env happ] at h
    rw [e₁, if_neg (fun h => by rw [hf₁] at h; cases h.2), stepG_applies env happ]
    exact ih _ _ _ _ _ _ _ h

theorem effB_run (raw : Bool) (p : P) : effB (fun _ => RawB.run) raw p = .run := by cases raw <;> rfl

theorem effB_eq_rawB {rawB : P → RawB} {raw : Bool} {p : P} {c : RawB} (h : effB rawB raw p = c) (hc : c ≠ .run) :
    rawB p = c := by
  cases raw with
  | false => exact absurd h.symm hc
  | true => exact h

/-- A pass in which no check has class `issue` fails only where the regular loop does. -/
theorem firstPassG_ok_of_run_ok (env : Env P O T V) {rawB : P → RawB} {ow : OwB} (hno : ∀ p, rawB p ≠ .issue)
    (happ : ow.applies = true) (cs : List (Check P O)) (i j : Nat) (val : V) (raw : Bool) (log log' : List (Ev V))
    (h : (runFrom env j cs val [] log').issues = []) : (firstPassG env rawB ow i cs val raw [] log).issues = [] := by
  rw [← firstPassG_cooked env (fun _ => RawB.run) ow] at h
  refine firstPassG_ok_mono env happ (fun raw₁ raw₂ c x => ?_) cs i j val raw false log log' h
  rw [failsG_of_run env (effB_run raw₂)]
  cases c with
  | overwrite o => exact id
  | pred p a w =>
    simp only [failsG, checkFails]
    cases hc : effB rawB raw₁ p with
    | vac => rw [Bool.and_false]; exact Bool.noConfusion
    | issue => exact absurd (effB_eq_rawB hc nofun) (hno p)
    | run => cases w <;> exact id

/-- A pass in which no check has class `vac` fails wherever the regular loop does. -/
theorem run_ok_of_firstPassG_ok (env : Env P O T V) {rawB : P → RawB} {ow : OwB} (hno : ∀ p, rawB p ≠ .vac)
    (happ : ow.applies = true) (cs : List (Check P O)) (i j : Nat) (val : V) (raw : Bool) (log log' : List (Ev V))
    (h : (firstPassG env rawB ow i cs val raw [] log).issues = []) : (runFrom env j cs val [] log').issues = [] := by
  rw [← firstPassG_cooked env (fun _ => RawB.run) ow]
  refine firstPassG_ok_mono env happ (fun raw₁ raw₂ c x => ?_) cs j i val false raw log' log h
  rw [failsG_of_run env (effB_run raw₁)]
  cases c with
  | overwrite o => exact id
  | pred p a w =>
    simp only [failsG, checkFails]
    cases hc : effB rawB raw₂ p with
    | vac => exact absurd (effB_eq_rawB hc nofun) (hno p)
    | issue => cases w <;> simp +contextual
    | run => cases w <;> exact id

/-! ### string schemas: value and pointer inputs, value and pointer schemas (`runChecksOn`) -/

/-- The overwrite half of the string classification: applied only on a pointer-typed schema, and keeps a pointer.
    (The predicate half: every predicate reports on the raw pointer, `fun _ => RawB.issue`.) -/
def strOw (ptrSchema : Bool) : OwB := if ptrSchema then .stay else .skip

/-- `firstPassFrom` is `firstPassG` at (every predicate `issue`, `strOw`), remembering only WHETHER an issue exists:
    its flag is `!iss.isEmpty`. -/
theorem firstPassG_string (env : Env P O T V) (ps : Bool) (cs : List (Check P O)) :
    ∀ (i : Nat) (val : V) (iss : List Nat) (log : List (Ev V)),
      firstPassFrom env ps i cs val (!iss.isEmpty) log =
        ⟨(firstPassG env (fun _ => RawB.issue) (strOw ps) i cs val true iss log).val,
         !(firstPassG env (fun _ => RawB.issue) (strOw ps) i cs val true iss log).issues.isEmpty,
         (firstPassG env (fun _ => RawB.issue) (strOw ps) i cs val true iss log).log⟩ := by
  induction cs with
  | nil => intros; rfl
  | cons c cs ih =>
    intro i val iss log
    have hsnoc : ∀ k, (!(iss ++ [k]).isEmpty) = true := by intro k; cases iss <;> rfl
    cases c with
    | overwrite o =>
      cases ps <;> simp only [firstPassFrom, firstPassG, strOw, OwB.applies, OwB.staysRaw, Bool.not_true, Bool.not_false,
        Bool.and_false, Bool.and_self, Bool.false_eq_true, ↓reduceIte, ih]
    | pred p abort w =>
      cases w with
      | none => cases abort <;> simp only [firstPassFrom, firstPassG, effB, Bool.false_eq_true, ↓reduceIte, ← ih, hsnoc]
      | some w =>
        cases iss with
        | cons k iss =>
          simp only [firstPassFrom, firstPassG, List.isEmpty_cons, Bool.not_false, ne_eq, reduceCtorEq, not_false_eq_true,
            ↓reduceIte, ← ih]
        | nil =>
          cases abort <;> cases hw : env.holds w val <;>
            simp only [firstPassFrom, firstPassG, effB, hw, List.isEmpty_nil, List.isEmpty_cons, Bool.not_true,
              Bool.not_false, Bool.false_eq_true, Bool.true_eq_false, ne_eq, not_true_eq_false, List.nil_append,
              ↓reduceIte, ← ih]

theorem runChecksG_string (env : Env P O T V) (ps pin : Bool) (cs : List (Check P O)) (v : V) :
    runChecksG env (fun _ => RawB.issue) (strOw ps) pin cs v = runChecksOn env ps pin cs v := by
  have h := firstPassG_string env ps cs 0 v [] []
  have happ : (strOw ps).applies = ps := by cases ps <;> rfl
  simp only [List.isEmpty_nil, Bool.not_true] at h
  simp only [runChecksG, runChecksOn, h, happ, Bool.not_not]

/-- The early return of `validatePointer` as it was up to /repo 49e6e91 (`legacyRunChecksOn`: the pointer pass
    first, taken when it has no issue) was sound. -/
theorem firstPass_early (env : Env P O T V) :
    ∀ (cs : List (Check P O)) (i j : Nat) (val : V) (log : List (Ev V)) (log' : List (Ev V)),
      (firstPassFrom env true i cs val false log).hasIssue = false →
      (runFrom env j cs val [] log').issues = [] ∧
      (runFrom env j cs val [] log').val = (firstPassFrom env true i cs val false log).val := by
  intro cs i j val log log' h
  have e := firstPassG_string env true cs i val [] log
  simp only [List.isEmpty_nil, Bool.not_true] at e
  rw [e] at h ⊢
  simp only [Bool.not_eq_eq_eq_not, Bool.not_false, List.isEmpty_iff] at h
  -- every predicate has class `issue` on the raw pointer: the pass fails wherever the loop would
  have hr := run_ok_of_firstPassG_ok env (rawB := fun _ => RawB.issue) (fun _ => nofun) rfl cs i j val true log log' h
  exact ⟨hr, (firstPassG_of_ok env _ _ rfl cs i j val true log log' hr h).symm⟩

/-- `c10_generic_all` at the string classification: the pointer pass only adds callback invocations. -/
theorem c10_runOn_issues (env : Env P O T V) (ps pin : Bool) (cs : List (Check P O)) (v : V) :
    (runChecksOn env ps pin cs v).issues = (runChecks env cs v).issues ∧
    (runChecksOn env ps pin cs v).val = (runChecks env cs v).val :=
  runChecksG_string env ps pin cs v ▸ c10_generic_all ..

/-- `validatePointer` as it was up to /repo 49e6e91 (pointer pass first): the same issues, and the same value on success. -/
theorem c10_legacy_runOn_issues (env : Env P O T V) (ps pin : Bool) (cs : List (Check P O)) (v : V) :
    (legacyRunChecksOn env ps pin cs v).issues = (runChecks env cs v).issues ∧
    ((runChecks env cs v).issues = [] → (legacyRunChecksOn env ps pin cs v).val = (runChecks env cs v).val) := by
  simp only [legacyRunChecksOn]
  split
  · split
    next h2 =>
      simp only [Bool.and_eq_true, Bool.not_eq_eq_eq_not, Bool.not_true] at h2
      obtain ⟨rfl, hfp⟩ := h2
      have := firstPass_early env cs 0 0 v [] [] hfp
      exact ⟨this.1.symm, fun _ => this.2.symm⟩
    · exact ⟨rfl, fun _ => rfl⟩
  · exact ⟨rfl, fun _ => rfl⟩

theorem c10_runOn_ok_iff (env : Env P O T V) (ps pin : Bool) (cs : List (Check P O)) (v : V) :
    (runChecksOn env ps pin cs v).issues = [] ↔ ∀ k, k < cs.length → failsAt env cs k v = false :=
  runChecksG_string env ps pin cs v ▸ c10_generic_ok_iff ..

theorem runChecksOn_env_congr {env₁ env₂ : Env P O T V} (I : V → Prop) (hh : env₁.holds = env₂.holds)
    (ha : ∀ o v, I v → env₁.apply o v = env₂.apply o v ∧ I (env₂.apply o v)) (ps pin : Bool)
    (cs : List (Check P O)) (v : V) (hv : I v) : runChecksOn env₁ ps pin cs v = runChecksOn env₂ ps pin cs v := by
  rw [← runChecksG_string, ← runChecksG_string]
  exact runChecksG_env_congr I hh ha _ _ pin cs v hv

/-- Value threading over the *whole* log, pointer pass included (false: `c10_first_pass_witness`). -/
def c10_value_threading_full (env : Env P O T V) : Prop :=
  ∀ (ps pin : Bool) (cs : List (Check P O)) (v : V),
    ∀ e ∈ (runChecksOn env ps pin cs v).log, e.val = seenAt env cs e.pos v

/-- Abort over the *whole* log, pointer pass included (proved: `c10_abort_stops_all`). -/
def c10_abort_stops_full (env : Env P O T V) : Prop :=
  ∀ (ps pin : Bool) (cs : List (Check P O)) (v : V) (k : Nat),
    k ∈ (runChecksOn env ps pin cs v).issues → abortAt cs k = true →
    ∀ e ∈ (runChecksOn env ps pin cs v).log, e.pos ≤ k

theorem runChecksOn_of_no_pass (env : Env P O T V) (ps : Bool) {pin : Bool} {cs : List (Check P O)} (v : V)
    (h : (pin && hasOverwrite cs) = false) : runChecksOn env ps pin cs v = runChecks env cs v := by
  simp only [runChecksOn, h, Bool.false_eq_true, if_false]

/-- Where the pointer pass does not run (value inputs, or no overwrite attached). -/
theorem c10_value_threading_partial (env : Env P O T V) (ps pin : Bool) (cs : List (Check P O)) (v : V)
    (h : (pin && hasOverwrite cs) = false) :
    ∀ e ∈ (runChecksOn env ps pin cs v).log, e.val = seenAt env cs e.pos v := by
  rw [runChecksOn_of_no_pass env ps v h]
  exact c10_value_threading env cs v

/-- `c10_abort_stops_all` where the pointer pass does not run (`_all` needs no such hypothesis). -/
theorem c10_abort_stops_partial (env : Env P O T V) (ps pin : Bool) (cs : List (Check P O)) (v : V) (k : Nat)
    (h : (pin && hasOverwrite cs) = false)
    (hk : k ∈ (runChecksOn env ps pin cs v).issues) (ha : abortAt cs k = true) :
    ∀ e ∈ (runChecksOn env ps pin cs v).log, e.pos ≤ k := by
  rw [runChecksOn_of_no_pass env ps v h] at hk ⊢
  exact (c10_abort_stops env cs v k hk ha).1

/-- A rejected input has run the regular loop only, so nothing attached after an aborting failure is evaluated. -/
theorem c10_abort_stops_all (env : Env P O T V) : c10_abort_stops_full env := by
  intro ps pin cs v k hk ha
  rw [← runChecksG_string] at hk ⊢
  exact c10_generic_abort _ _ _ _ _ _ k hk ha

/-- `c10_abort_stops_full` of the code up to /repo 49e6e91 (false: `c10_legacy_first_pass_witness`). -/
def c10_legacy_abort_stops_full (env : Env P O T V) : Prop :=
  ∀ (ps pin : Bool) (cs : List (Check P O)) (v : V) (k : Nat),
    k ∈ (legacyRunChecksOn env ps pin cs v).issues → abortAt cs k = true →
    ∀ e ∈ (legacyRunChecksOn env ps pin cs v).log, e.pos ≤ k

/-! ### container schemas (slice, object, …): every input goes through `validatePointer` (`runChecksC`)

  Before /repo 49e6e91 (`legacyRunChecksC`) the container agreed with the regular loop only when no vacuous check
  preceded the first overwrite; otherwise it accepted a value on which an attached check fails. -/

/-- The predicate half of the container classification: vacuous or evaluated. (The overwrite half: `.cook`, a plain value is stored.) -/
def vacB (vac : P → Bool) (p : P) : RawB := if vac p then .vac else .run

theorem firstPassG_container (env : Env P O T V) (vac : P → Bool) (cs : List (Check P O)) :
    ∀ (i : Nat) (val : V) (raw : Bool) (iss : List Nat) (log : List (Ev V)),
      firstPassG env (vacB vac) .cook i cs val raw iss log = firstPassC env vac i cs val raw iss log := by
  induction cs with
  | nil => intros; rfl
  | cons c cs ih =>
    intro i val raw iss log
    cases c with
    | overwrite o =>
      simp only [firstPassG, firstPassC, OwB.applies, OwB.staysRaw, Bool.not_true, Bool.and_false, Bool.false_eq_true,
        if_false, ih]
    | pred p abort w =>
      cases raw <;> cases hv : vac p <;> cases w <;>
        simp only [firstPassG, firstPassC, effB, vacB, hv, Bool.and_self, Bool.and_true, Bool.and_false,
          Bool.false_eq_true, if_true, if_false, ih]

theorem runChecksG_container (env : Env P O T V) (vac : P → Bool) (cs : List (Check P O)) (v : V) :
    runChecksG env (vacB vac) .cook true cs v = runChecksC env vac cs v := by
  unfold runChecksG runChecksC
  simp only [Bool.true_and, firstPassG_container, OwB.applies, List.isEmpty_iff]

/-- `c10_generic_all` at `vacB`: the pointer pass only repeats callback invocations on accepted inputs. -/
theorem c10_container_all (env : Env P O T V) (vac : P → Bool) (cs : List (Check P O)) (v : V) :
    (runChecksC env vac cs v).issues = (runChecks env cs v).issues ∧
    (runChecksC env vac cs v).val = (runChecks env cs v).val :=
  runChecksG_container env vac cs v ▸ c10_generic_all env (vacB vac) .cook true cs v

theorem c10_container_ok_iff (env : Env P O T V) (vac : P → Bool) (cs : List (Check P O)) (v : V) :
    (runChecksC env vac cs v).issues = [] ↔ ∀ k, k < cs.length → failsAt env cs k v = false :=
  runChecksG_container env vac cs v ▸ c10_generic_ok_iff env (vacB vac) .cook true cs v

theorem c10_container_abort (env : Env P O T V) (vac : P → Bool) (cs : List (Check P O)) (v : V) (k : Nat)
    (hk : k ∈ (runChecksC env vac cs v).issues) (ha : abortAt cs k = true) :
    ∀ e ∈ (runChecksC env vac cs v).log, e.pos ≤ k := by
  rw [← runChecksG_container] at hk ⊢
  exact c10_generic_abort env (vacB vac) .cook true cs v k hk ha

/-! #### the code up to /repo 49e6e91: pointer pass first (`legacyRunChecksC`) -/

theorem firstPassC_cooked (env : Env P O T V) (vac : P → Bool) (cs : List (Check P O)) :
    ∀ (i : Nat) (val : V) (iss : List Nat) (log : List (Ev V)),
      firstPassC env vac i cs val false iss log = runFrom env i cs val iss log := by
  intro i val iss log
  rw [← firstPassG_container, firstPassG_cooked]

theorem firstPassC_vacFree (env : Env P O T V) (vac : P → Bool) (cs : List (Check P O)) :
    ∀ (i : Nat) (val : V) (iss : List Nat) (log : List (Ev V)), vacFree vac cs = true →
      firstPassC env vac i cs val true iss log = runFrom env i cs val iss log := by
  induction cs with
  | nil => intros; rfl
  | cons c cs ih =>
    intro i val iss log hv
    cases c with
    | overwrite o => simp only [firstPassC, runFrom, firstPassC_cooked]
    | pred p abort w =>
      simp only [vacFree, Bool.and_eq_true, Bool.not_eq_true'] at hv
      have ih' := fun i val iss log => ih i val iss log hv.2
      cases w <;> simp only [firstPassC, runFrom, hv.1, Bool.and_false, Bool.false_eq_true, if_false, ih']

/-- `firstPassG_issues_ne_nil` for the regular loop. Nothing uses it. -/
theorem runFrom_issues_ne_nil (env : Env P O T V) (cs : List (Check P O)) :
    ∀ (i : Nat) (val : V) (iss : List Nat) (log : List (Ev V)), iss ≠ [] →
      (runFrom env i cs val iss log).issues ≠ [] := by
  intro i val iss log
  rw [← firstPassG_cooked env (fun _ => RawB.run) .cook]
  exact firstPassG_issues_ne_nil env _ _ cs i val false iss log

theorem vacB_ne_issue (vac : P → Bool) (p : P) : vacB vac p ≠ .issue := by
  unfold vacB; split <;> nofun

/-- Of the code up to /repo 49e6e91: the pointer pass of a container accepts wherever the regular loop does. Nothing uses it. -/
theorem firstPassC_of_ok (env : Env P O T V) (vac : P → Bool) (cs : List (Check P O)) :
    ∀ (i j : Nat) (val : V) (raw : Bool) (log log' : List (Ev V)),
      (runFrom env j cs val [] log').issues = [] →
      (firstPassC env vac i cs val raw [] log).issues = [] ∧
      (firstPassC env vac i cs val raw [] log).val = (runFrom env j cs val [] log').val := by
  intro i j val raw log log' h
  have hg := firstPassG_ok_of_run_ok env (vacB_ne_issue vac) (ow := .cook) rfl cs i j val raw log log' h
  rw [← firstPassG_container]
  exact ⟨hg, firstPassG_of_ok env _ .cook rfl cs i j val raw log log' h hg⟩

theorem c10_legacy_container_partial (env : Env P O T V) (vac : P → Bool) (cs : List (Check P O)) (v : V)
    (h : vacFree vac cs = true) :
    (legacyRunChecksC env vac cs v).issues = (runChecks env cs v).issues ∧
    (legacyRunChecksC env vac cs v).val = (runChecks env cs v).val := by
  have hfp : firstPassC env vac 0 cs v true [] [] = runChecks env cs v := firstPassC_vacFree env vac cs 0 v [] [] h
  simp only [legacyRunChecksC, hfp]
  split
  · split
    next hi => exact ⟨hi.symm, rfl⟩
    · exact ⟨rfl, rfl⟩
  · exact ⟨rfl, rfl⟩

/-- What `c10_container_ok_iff` says, of the code up to /repo 49e6e91 (false: `c10_legacy_container_witness`). -/
def c10_legacy_container_full (env : Env P O T V) (vac : P → Bool) : Prop :=
  ∀ (cs : List (Check P O)) (v : V),
    (legacyRunChecksC env vac cs v).issues = [] ↔ ∀ k, k < cs.length → failsAt env cs k v = false

/-- A predicate is its own verdict (`false`: a length check the value violates). -/
def witnessEnv : Env Bool Unit Unit Nat := ⟨fun p _ => p, fun _ v => v, fun _ v => v⟩

example : vacFree (fun (_ : Bool) => false) [Check.pred false false none, Check.overwrite ()] = true := by decide

/-- The code up to /repo 49e6e91: `Slice[int](Int()).Max(0).Overwrite(id).Parse([]int{7})` succeeded — with a vacuous check
    before an overwrite the container accepted although check 0 fails. `runChecksC` rejects the same instance (next `example`). -/
theorem c10_legacy_container_witness : ¬ c10_legacy_container_full witnessEnv (fun _ => true) := by
  intro h
  have := (h [Check.pred false false none, Check.overwrite ()] 7).mp (by decide)
  exact absurd (this 0 (by decide)) (by decide)

example : (runChecksC witnessEnv (fun _ => true) [Check.pred false false none, Check.overwrite ()] 7).issues = [0] := by decide

/-! non-vacuity: an `issue`-class check before an overwrite, pointer input: accepted, overwrite applied once -/
private def gEnv : Env Nat Nat Nat Nat := ⟨fun p v => v ≥ p, fun o v => v + o, fun t v => v * t⟩

example : (runChecksG gEnv (fun _ => RawB.issue) .cook true [.pred 5 false none, .overwrite 1] 5).val = 6 ∧
    (runChecksG gEnv (fun _ => RawB.issue) .cook true [.pred 5 false none, .overwrite 1] 5).issues = [] ∧
    ((runChecksG gEnv (fun _ => RawB.issue) .cook true [.pred 5 false none, .overwrite 1] 5).log.filter
      (fun e => match e with | .over _ _ => true | _ => false)).length = 2 := by decide

end Gozod.C10
