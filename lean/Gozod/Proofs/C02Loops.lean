/-
  What the validators of `Model/Containers.lean` compute.

  An element loop is `asked.flatMap (block env wrap)`: a list of ASKED triples (segment, member, value), each contributing
  the member's issues re-filed under the segment. Three variants: Array re-files nothing (`elemBlock`), Record stops at
  the first rejected value (`headBlock`), Object and Struct walk the SHAPE (`fieldBlock`, `sfieldBlock`: a block or an own
  issue per field). Acceptance, origin and completeness of issues are then facts about `flatMap`. The asked lists are the
  code-side counterpart of `Spec.Shape.asked`; no lemma relates the two, they meet in `posOK` / `optAcc` (`posAsked_ok`,
  `C02.positional_all`). A validator that stops at the first stage that found something is `ofIssues (stage a b)`.
-/
import Gozod.Model.Containers

namespace Gozod.Cont

theorem ofIssues_isOk (is : List Issue) : (ofIssues is).isOk = true ↔ is = [] := by
  cases is <;> simp [ofIssues, Res.isOk]

theorem ofIssues_issues (is : List Issue) : (ofIssues is).issues = is := by
  cases is <;> rfl

theorem errs_nil {env : Env} {m : Mid} {x : V} : errs env m x = [] ↔ acc env m x = true := by
  unfold errs acc; cases env m x <;> simp

theorem mresIssues_eq (env : Env) (m : Mid) (v : V) : mresIssues (env m v) = errs env m v := rfl

theorem sizeIssues_nil (cs : List SizeCk) (n : Nat) : sizeIssues cs n = [] ↔ sizeOK cs n = true := by
  induction cs with
  | nil => simp [sizeIssues, sizeOK]
  | cons c cs ih =>
    simp only [sizeIssues, sizeOK, List.all_cons, Bool.and_eq_true, List.append_eq_nil_iff]
    rw [ih]; simp only [sizeOK]
    cases h : c.holds n <;> simp

theorem nilPath_isOk (m : Mods) : (nilPath m).isOk = nilOK m := by
  unfold nilPath nilOK
  cases m.nonOptional <;> cases m.optional <;> cases m.nilable <;> simp [Res.isOk]

def Own (i : Issue) : Prop := i.path = [] ∧ i.code.known = true ∧ i.hasMsg = true ∧ i.hasPath = true

theorem own_mk {c : Code} (h : c.known = true) : Own (mk c []) := ⟨rfl, h, rfl, rfl⟩

theorem sizeIssues_own {cs : List SizeCk} {n : Nat} : ∀ i ∈ sizeIssues cs n, Own i := by
  induction cs with
  | nil => simp [sizeIssues]
  | cons c cs ih =>
    simp only [sizeIssues, List.mem_append]
    rintro i (h | h)
    · split at h
      · cases h
      · cases List.mem_singleton.1 h
        cases c <;> first | exact own_mk rfl | (simp only [SizeCk.issue]; split <;> exact own_mk rfl)
    · exact ih i h

theorem eq_of_mem_ite {c : Prop} [Decidable c] {i x : Issue} (h : i ∈ if c then [] else [x]) : i = x := by
  split at h
  · cases h
  · exact List.mem_singleton.1 h

def stage (a b : List Issue) : List Issue :=
  match a with
  | [] => b
  | _ => a

theorem stage_eq_nil {a b : List Issue} : stage a b = [] ↔ a = [] ∧ b = [] := by
  cases a <;> simp [stage]

theorem forall_mem_stage {P : Issue → Prop} {a b : List Issue} (ha : ∀ i ∈ a, P i) (hb : ∀ i ∈ b, P i) :
    ∀ i ∈ stage a b, P i := by
  cases a with
  | nil => exact hb
  | cons => exact ha

theorem sublist_stage_left {l a b : List Issue} (h : l.Sublist a) : l.Sublist (stage a b) := by
  cases a with
  | nil => rw [List.sublist_nil.1 h]; exact List.nil_sublist _
  | cons => exact h

def lenIssues (lo : Nat) (hi : Option Nat) (n : Nat) : List Issue :=
  if n < lo then [mk .tooSmall []] else if hi.any (· < n) then [mk .tooBig []] else []

theorem lenIssues_nil {lo n : Nat} {hi : Option Nat} :
    lenIssues lo hi n = [] ↔ lo ≤ n ∧ ∀ h, hi = some h → n ≤ h := by
  unfold lenIssues
  cases hi <;> simp <;> split <;> simp <;> omega

theorem lenIssues_own {lo n : Nat} {hi : Option Nat} : ∀ i ∈ lenIssues lo hi n, Own i := by
  unfold lenIssues
  split <;> (try split) <;> simp [Own, mk, Code.known]

theorem validateArray_eq (env : Env) (items : List Mid) (rest : Option Mid) (cs : List SizeCk) (xs : List V) :
    validateArray env items rest cs xs = ofIssues (stage (sizeIssues cs xs.length)
      (stage (lenIssues items.length (if rest.isSome then none else some items.length) xs.length)
        (arrayElems env 0 items rest xs))) := by
  unfold validateArray lenIssues
  cases sizeIssues cs xs.length with
  | cons => rfl
  | nil =>
    by_cases h1 : xs.length < items.length <;> by_cases h2 : items.length < xs.length <;> cases rest <;>
      simp [h1, h2, stage, ofIssues]

theorem validateTuple_eq (env : Env) (items : List Mid) (req : Nat) (rest : Option Mid) (cs : List SizeCk)
    (xs : List V) :
    validateTuple env items req rest cs xs = ofIssues
      (stage (lenIssues req (if rest.isNone then some items.length else none) xs.length)
        (stage (tupleElems env 0 items rest xs) (sizeIssues cs xs.length))) := by
  unfold validateTuple lenIssues
  by_cases h1 : xs.length < req <;> by_cases h2 : items.length < xs.length <;> cases rest <;>
    cases tupleElems env 0 items _ xs <;> simp [h1, h2, stage, ofIssues]

theorem validateMap_eq (env : Env) (km vm : Option Mid) (cs : List SizeCk) (es : List (V × V)) :
    validateMap env km vm cs es = ofIssues (stage (sizeIssues cs es.length) (mapEntries env km vm es)) := by
  unfold validateMap; cases sizeIssues cs es.length <;> rfl

theorem validateSet_eq (env : Env) (m : Mid) (cs : List SizeCk) (xs : List V) :
    validateSet env m cs xs = ofIssues (stage (sizeIssues cs xs.length) (setElems env m xs)) := by
  unfold validateSet; cases sizeIssues cs xs.length <;> rfl

def block (env : Env) (wrap : Seg → Issue → Issue) (a : Seg × Mid × V) : List Issue :=
  (errs env a.2.1 a.2.2).map (wrap a.1)

theorem block_nil {env : Env} {wrap : Seg → Issue → Issue} {a : Seg × Mid × V} :
    block env wrap a = [] ↔ acc env a.2.1 a.2.2 = true := by
  simp only [block, List.map_eq_nil_iff, errs_nil]

theorem mem_block {env : Env} {wrap : Seg → Issue → Issue} {a : Seg × Mid × V} {i : Issue} :
    i ∈ block env wrap a ↔ ∃ c ∈ errs env a.2.1 a.2.2, wrap a.1 c = i := List.mem_map

def elemBlock (env : Env) (a : Seg × Mid × V) : List Issue :=
  if acc env a.2.1 a.2.2 then [] else [mk .invalidElement [a.1]]

def askedOK (env : Env) (as : List (Seg × Mid × V)) : Bool := as.all fun a => acc env a.2.1 a.2.2

theorem flatMap_block_nil {env : Env} {wrap : Seg → Issue → Issue} {as : List (Seg × Mid × V)} :
    as.flatMap (block env wrap) = [] ↔ askedOK env as = true := by
  simp only [List.flatMap_eq_nil_iff, block_nil, askedOK, List.all_eq_true]

theorem flatMap_elemBlock_nil {env : Env} {as : List (Seg × Mid × V)} :
    as.flatMap (elemBlock env) = [] ↔ askedOK env as = true := by
  simp [List.flatMap_eq_nil_iff, elemBlock, askedOK]

/-- arguments: items, rest schema, index of the first value, values (Slice is `posAsked [] (some e) 0`). -/
def posAsked : List Mid → Option Mid → Nat → List V → List (Seg × Mid × V)
  | _, _, _, [] => []
  | m :: ms, r, i, x :: xs => (.idx i, m, x) :: posAsked ms r (i + 1) xs
  | [], some r, i, x :: xs => (.idx i, r, x) :: posAsked [] (some r) (i + 1) xs
  | [], none, _, _ :: _ => []

def sliceWrap (cfg : Cfg) : Seg → Issue → Issue := if cfg.slicePrepend then prepend else replacePath

theorem sliceElems_eq (cfg : Cfg) (env : Env) (e : Mid) (i : Nat) (xs : List V) :
    sliceElems cfg env e i xs = (posAsked [] (some e) i xs).flatMap (block env (sliceWrap cfg)) := by
  induction xs generalizing i with
  | nil => rfl
  | cons x xs ih => cases h : cfg.slicePrepend <;> simp [sliceElems, posAsked, block, sliceWrap, h, ih]

theorem tupleElems_eq (env : Env) (i : Nat) (ms : List Mid) (r : Option Mid) (xs : List V) :
    tupleElems env i ms r xs = (posAsked ms r i xs).flatMap (block env prepend) := by
  fun_induction posAsked ms r i xs <;> simp [tupleElems, block, *]

theorem arrayElems_eq (env : Env) (i : Nat) (ms : List Mid) (r : Option Mid) (xs : List V) :
    arrayElems env i ms r xs = (posAsked ms r i xs).flatMap (elemBlock env) := by
  fun_induction posAsked ms r i xs <;> simp [arrayElems, elemBlock, *]

def mapAsked (km vm : Option Mid) (es : List (V × V)) : List (Seg × Mid × V) :=
  es.flatMap fun e => (km.map (e.1.seg, ·, e.1)).toList ++ (vm.map (e.1.seg, ·, e.2)).toList

theorem mapEntries_eq (env : Env) (km vm : Option Mid) (es : List (V × V)) :
    mapEntries env km vm es = (mapAsked km vm es).flatMap (block env prepend) := by
  induction es with
  | nil => rfl
  | cons e es ih => cases km <;> cases vm <;> simp [mapEntries, mapAsked, optErrs, block, ih]

theorem setElems_eq (env : Env) (m : Mid) (xs : List V) :
    setElems env m xs = (xs.map fun x => (x.seg, m, x)).flatMap (block env prepend) := by
  induction xs with
  | nil => rfl
  | cons x xs ih => simp [setElems, block, ih]

def keyWrap (cfg : Cfg) : Seg → Issue → Issue := if cfg.recordKeyPath then prepend else fun _ => dropPath

theorem recordSchemaKeys_eq (cfg : Cfg) (env : Env) (m : Mid) (loose : Bool) (es : List (V × V)) :
    recordSchemaKeys cfg env m loose es =
      (if loose then [] else es.map fun e => (e.1.seg, m, e.1)).flatMap (block env (keyWrap cfg)) := by
  induction es with
  | nil => cases loose <;> rfl
  | cons e es ih =>
    cases loose <;> cases h : cfg.recordKeyPath <;> simp_all [recordSchemaKeys, block, keyWrap]

def valWrap (cfg : Cfg) : Seg → Issue → Issue := if cfg.recordKeyPath then prepend else fun _ => id

def recAsked (env : Env) (ks : KeySpec) (vm : Mid) (loose : Bool) (es : List (V × V)) : List (Seg × Mid × V) :=
  (es.filter fun e => !recSkip env ks loose e.1).map fun e => (e.1.seg, vm, e.2)

theorem recordValues_eq (cfg : Cfg) (env : Env) (ks : KeySpec) (vm : Mid) (loose : Bool) (es : List (V × V)) :
    recordValues cfg env ks vm loose es =
      ((recAsked env ks vm loose es).map (block env (valWrap cfg))).find? (fun b => !b.isEmpty) := by
  induction es with
  | nil => rfl
  | cons e es ih =>
    simp only [recordValues, recAsked, List.filter_cons]
    cases recSkip env ks loose e.1
    · simp only [Bool.false_eq_true, ↓reduceIte, Bool.not_false, List.map_cons, List.find?_cons, block, errs]
      cases env vm e.2 <;> cases h : cfg.recordKeyPath <;> simp [valWrap, h, ih, recAsked]
    · simp only [↓reduceIte, Bool.not_true, Bool.false_eq_true]; exact ih

def headBlock (bs : List (List Issue)) : List Issue := (bs.find? fun b => !b.isEmpty).getD []

theorem headBlock_nil {bs : List (List Issue)} : headBlock bs = [] ↔ ∀ b ∈ bs, b = [] := by
  induction bs with
  | nil => simp [headBlock]
  | cons b bs ih => cases b <;> simp_all [headBlock]

theorem headBlock_blocks_nil {env : Env} {wrap : Seg → Issue → Issue} {as : List (Seg × Mid × V)} :
    headBlock (as.map (block env wrap)) = [] ↔ askedOK env as = true := by
  simp only [headBlock_nil, List.forall_mem_map, block_nil, askedOK, List.all_eq_true]

theorem mem_headBlock {bs : List (List Issue)} {i : Issue} (h : i ∈ headBlock bs) : ∃ b ∈ bs, i ∈ b := by
  unfold headBlock at h
  cases hf : bs.find? (fun b => !b.isEmpty) with
  | none => simp [hf] at h
  | some b => exact ⟨b, List.mem_of_find?_eq_some hf, by simpa [hf] using h⟩

def recordKeyIssues (cfg : Cfg) (env : Env) (ks : KeySpec) (loose isPartial : Bool) (es : List (V × V)) : List Issue :=
  match ks with
  | .none => []
  | .enum allowed _ => recordEnumKeys allowed isPartial es
  | .schema m => recordSchemaKeys cfg env m loose es

theorem validateRecord_eq (cfg : Cfg) (env : Env) (ks : KeySpec) (vm : Mid) (loose isPartial : Bool)
    (cs : List SizeCk) (es : List (V × V)) :
    validateRecord cfg env ks vm loose isPartial cs es = ofIssues (stage (sizeIssues cs es.length)
      (stage (headBlock ((recAsked env ks vm loose es).map (block env (valWrap cfg))))
        (recordKeyIssues cfg env ks loose isPartial es))) := by
  unfold validateRecord headBlock
  rw [recordValues_eq]
  cases sizeIssues cs es.length with
  | cons => rfl
  | nil =>
    cases hf : ((recAsked env ks vm loose es).map (block env (valWrap cfg))).find? (fun b => !b.isEmpty) with
    | none => cases ks <;> rfl
    | some b =>
      have := List.find?_some hf
      cases b with
      | nil => cases this
      | cons => rfl

def fieldBlock (env : Env) (p : Partial) (es : List (V × V)) (f : Field) : List Issue :=
  match lookupKey f.name es with
  | none => if fieldOptional p f then [] else [mk .invalidType [.key f.name]]
  | some v =>
    if v.isNil && f.exactOptional then [mk .invalidType [.key f.name]] else block env prepend (.key f.name, f.m, v)

def fieldKept (env : Env) (es : List (V × V)) (f : Field) : Bool :=
  match lookupKey f.name es with
  | none => false
  | some v => !(v.isNil && f.exactOptional) && acc env f.m v

theorem objectFields_eq (env : Env) (p : Partial) (es : List (V × V)) (shape : List Field) :
    objectFields env p es shape = (shape.flatMap (fieldBlock env p es), shape.countP (fieldKept env es)) := by
  induction shape with
  | nil => rfl
  | cons f fs ih =>
    simp only [objectFields, ih]
    cases h : lookupKey f.name es with
    | none => simp [fieldBlock, fieldKept, h]
    | some v =>
      cases h2 : v.isNil && f.exactOptional <;> cases he : env f.m v <;>
        simp [fieldBlock, fieldKept, h, h2, block, errs, acc, he]

def unknownOf (shape : List Field) (es : List (V × V)) : List (V × V) := es.filter fun e => !isKnown shape e.1

def unkAsked (shape : List Field) (mode : Mode) (c : Option Mid) (es : List (V × V)) : List (Seg × Mid × V) :=
  match mode, c with
  | .strict, _ => []
  | _, some c => (unknownOf shape es).map fun e => (e.1.seg, c, e.2)
  | _, none => []

/-- the unknown-key loop: catch-all issues; the keys strict mode reports; the unknown keys kept (passthrough). -/
theorem objectUnknown_eq (env : Env) (shape : List Field) (mode : Mode) (c : Option Mid) (es : List (V × V)) :
    objectUnknown env shape mode c es =
      ((unkAsked shape mode c es).flatMap (block env prepend),
       if mode = .strict then (unknownOf shape es).map (keyId ·.1) else [],
       if mode = .passthrough then (unknownOf shape es).countP (fun e => c.all (acc env · e.2)) else 0) := by
  induction es with
  | nil => cases mode <;> cases c <;> rfl
  | cons e es ih =>
    simp only [objectUnknown, ih]
    cases h : isKnown shape e.1 <;> cases mode <;> cases c <;>
      simp [unkAsked, unknownOf, List.countP_cons, h, block, errs, acc]
    all_goals (rename_i cm; cases env cm e.2 <;> simp)

theorem validateObject_eq (env : Env) (shape : List Field) (mode : Mode) (c : Option Mid) (p : Partial)
    (cs : List SizeCk) (es : List (V × V)) :
    validateObject env shape mode c p cs es =
      ofIssues ((objectFields env p es shape).1 ++ (objectUnknown env shape mode c es).1
        ++ (if (objectUnknown env shape mode c es).2.1.isEmpty then []
            else [{ code := .unrecognizedKeys, path := [], keys := (objectUnknown env shape mode c es).2.1 }])
        ++ sizeIssues cs ((objectFields env p es shape).2 + (objectUnknown env shape mode c es).2.2)) := rfl

def sfieldBlock (env : Env) (fs : List (Nat × V)) (f : Field) : List Issue :=
  match lookupField f.name fs with
  | none => if f.optional then [] else [mk .invalidType [.key f.name]]
  | some v => block env prepend (.key f.name, f.m, v)

theorem structFields_eq (env : Env) (fs : List (Nat × V)) (shape : List Field) :
    structFields env fs shape = shape.flatMap (sfieldBlock env fs) := by
  induction shape with
  | nil => rfl
  | cons f rest ih => simp only [structFields, ih, List.flatMap_cons, sfieldBlock, block]; cases lookupField f.name fs <;> rfl

theorem sublist_flatMap {α β : Type} {f : α → List β} {l : List α} {a : α} (h : a ∈ l) :
    (f a).Sublist (l.flatMap f) := by
  rw [List.flatMap_def]; exact List.sublist_flatten_of_mem (List.mem_map_of_mem h)

theorem engine_issues {α : Type} {m : Mods} {ex : V → Option α} {va : α → Res} {v : V} {i : Issue}
    (h : i ∈ (engine m ex va v).issues) : Own i ∨ ∃ a, ex v = some a ∧ i ∈ (va a).issues := by
  have own : ∀ {j : Issue}, j ∈ [mk .invalidType []] → Own j := fun hj => List.mem_singleton.1 hj ▸ own_mk rfl
  unfold engine nilPath at h
  split at h
  · -- the nil path ends in `ok` (no issue: `cases h`) or in the one `invalid_type` issue at the root
    left; repeat' split at h
    all_goals first | exact own h | cases h
  · cases he : ex v with
    | none => rw [he] at h; exact .inl (own h)
    | some a => rw [he] at h; exact .inr ⟨a, rfl, h⟩

theorem engine_of_extract {α : Type} {m : Mods} {ex : V → Option α} {va : α → Res} {v : V} {a : α}
    (hv : v.isNilLike = false) (hx : ex v = some a) : engine m ex va v = va a := by
  simp [engine, hv, hx]

/-- `ok`, one own issue, or exactly the non-empty list `is`: how a parser that hands the input on can end (union and xor:
    `is = []`; intersection: the merged issues of both sides; DU, lazy: the issues of the member asked). -/
def OwnOrExactly (r : Res) (is : List Issue) : Prop :=
  r = .ok ∨ (∃ i, Own i ∧ r = .err [i]) ∨ (is ≠ [] ∧ r = .err is)

theorem OwnOrExactly.issues {r : Res} {is : List Issue} (h : OwnOrExactly r is) {i : Issue} (hi : i ∈ r.issues) :
    Own i ∨ i ∈ is := by
  rcases h with rfl | ⟨j, hj, rfl⟩ | ⟨_, rfl⟩
  · cases hi
  · exact .inl (List.mem_singleton.1 hi ▸ hj)
  · exact .inr hi

theorem validateUnion_ends (env : Env) (opts : List Mid) (v : V) : OwnOrExactly (validateUnion env opts v) [] := by
  unfold validateUnion
  split
  · exact .inl rfl
  · cases opts <;> exact .inr (.inl ⟨_, own_mk rfl, rfl⟩)

theorem validateXor_ends (env : Env) (opts : List Mid) (v : V) : OwnOrExactly (validateXor env opts v) [] := by
  unfold validateXor
  split
  · exact .inl rfl
  · cases opts <;> exact .inr (.inl ⟨_, own_mk rfl, rfl⟩)
  · exact .inr (.inl ⟨_, own_mk rfl, rfl⟩)

theorem mem_mergeUnrec {cfg : Cfg} {l r : List Issue} {i : Issue} (h : i ∈ mergeUnrec cfg l r) :
    i ∈ l ∨ i ∈ r ∨ ∃ ks, i = { code := .unrecognizedKeys, path := [], keys := ks, hasPath := cfg.interPath } := by
  unfold mergeUnrec at h
  simp only [List.mem_append, List.mem_filter] at h
  rcases h with (⟨h, _⟩ | ⟨h, _⟩) | h
  · exact .inl h
  · exact .inr (.inl h)
  · exact .inr (.inr ⟨_, eq_of_mem_ite h⟩)

theorem validateInter_ends (cfg : Cfg) (env : Env) (l r : Mid) (v : V) :
    OwnOrExactly (validateInter cfg env l r v) (mergeUnrec cfg (errs env l v) (errs env r v)) := by
  unfold validateInter
  simp only [mresIssues_eq]
  cases mergeUnrec cfg (errs env l v) (errs env r v) with
  | cons i is => exact .inr (.inr ⟨List.cons_ne_nil _ _, rfl⟩)
  | nil =>
    show OwnOrExactly (if mergeable (mresVal (env l v)) (mresVal (env r v)) then .ok else .err [mk .custom []]) []
    split
    · exact .inl rfl
    · exact .inr (.inl ⟨_, own_mk rfl, rfl⟩)

theorem lookupDisc_mem {dv : V} {dmap : List (Nat × Mid)} {t : Mid} (h : lookupDisc dv dmap = some t) :
    ∃ e ∈ dmap, e.2 = t := by
  unfold lookupDisc at h
  split at h
  · obtain ⟨e, he, rfl⟩ := Option.map_eq_some_iff.1 h
    exact ⟨e, List.mem_of_find?_eq_some he, rfl⟩
  · cases h

theorem parseDU_ends (env : Env) (m : Mods) (disc : Nat) (dmap : List (Nat × Mid)) (opts : List Mid) (v : V) :
    ∃ is, OwnOrExactly (parseDU env m disc dmap opts v) is ∧ (is = [] ∨ ∃ e ∈ dmap, is = errs env e.2 v) := by
  have own : ∀ c : Code, c.known = true → ∃ is, OwnOrExactly (.err [mk c []]) is ∧ (is = [] ∨ ∃ e ∈ dmap, is = errs env e.2 v) :=
    fun c hc => ⟨[], .inr (.inl ⟨_, own_mk hc, rfl⟩), .inl rfl⟩
  unfold parseDU
  split
  · exact ⟨[], .inl rfl, .inl rfl⟩
  · split
    · next es _ =>
      dsimp only
      cases lookupKey disc (es.getD []) with
      | none => exact own _ rfl
      | some dv =>
        dsimp only
        cases hd : lookupDisc dv dmap with
        | none =>
          dsimp only
          split
          · exact ⟨[], .inl rfl, .inl rfl⟩
          · exact own _ rfl
        | some t =>
          obtain ⟨e, he, rfl⟩ := lookupDisc_mem hd
          refine ⟨_, ?_, .inr ⟨e, he, rfl⟩⟩
          dsimp only
          unfold errs
          cases env e.2 (.map .str .any es) with
          | ok => exact .inl rfl
          | err i is => exact .inr (.inr ⟨List.cons_ne_nil _ _, rfl⟩)
    · exact own _ rfl

theorem parseDU_isOk (env : Env) (m : Mods) (disc : Nat) (dmap : List (Nat × Mid)) (opts : List Mid) (v : V) :
    (parseDU env m disc dmap opts v).isOk =
      ((duNil v && (m.optional || m.nilable)) ||
        match v with
        | .map .str .any es =>
          (match lookupKey disc (es.getD []) with
           | none => false
           | some dv =>
             match lookupDisc dv dmap with
             | some t => acc env t v
             | none => firstAcc env opts v)
        | _ => false) := by
  unfold parseDU
  rw [Bool.or_comm m.optional]
  cases duNil v && (m.nilable || m.optional)
  · simp only [Bool.false_eq_true, ↓reduceIte, Bool.false_or]
    split
    · next es =>
      dsimp only
      cases lookupKey disc (es.getD []) with
      | none => rfl
      | some dv =>
        dsimp only
        cases lookupDisc dv dmap with
        | none => dsimp only; cases firstAcc env opts (.map .str .any es) <;> rfl
        | some t => dsimp only [acc]; cases env t (.map .str .any es) <;> rfl
    · next h => split <;> first | rfl | exact absurd rfl (h _)
  · rfl
theorem parseLazy_ends (cfg : Cfg) (env : Env) (m : Mods) (direct : Bool) (t : Mid) (v : V) :
    OwnOrExactly (parseLazy cfg env m direct t v) (errs env t v) := by
  unfold parseLazy lazyAsk
  split
  · -- a nil input: every arm of lazy's own nil path is `ok` or one own issue (built by `mk`, or a literal)
    repeat' split
    all_goals first | exact .inl rfl | exact .inr (.inl ⟨_, own_mk rfl, rfl⟩) | exact .inr (.inl ⟨_, ⟨rfl, rfl, rfl, rfl⟩, rfl⟩)
  · by_cases h : (cfg.lazyWrap || direct) = true
    · rw [if_pos h]
      unfold errs
      cases env t v with
      | ok => exact .inl rfl
      | err i is =>
        dsimp only
        split
        · exact .inl rfl
        · exact .inr (.inr ⟨List.cons_ne_nil _ _, rfl⟩)
    · rw [if_neg h]
      exact .inl rfl

end Gozod.Cont
