/-
  C07 for recursive schemas whose Lazy cycle does not close at the root (Model/JsonSchemaRec.lean).

  The Lazy's reference names the schema it resolves to (`validTF`; finding C07-lazy-ref-nonroot): the document and Parse
  agree on every instance — by induction on the instance.  `validTL` is the document whose reference is `#`, the ROOT
  document: right at the root only (witnesses).  `validTF` / `validTL` are written out in the model as the meaning of those
  documents with `$ref` resolved; `Kw` has no named reference, so they are not `jsValid` of a `JS` term.
-/
import Gozod.Proofs.C07
import Gozod.Model.JsonSchemaRec
namespace Gozod.C07
open Gozod.Jsc

theorem leaf_eqv (leaf : S) (h : reprRec leaf = true) (x : Json) (hx : instOK x = true) :
    jsValid (toJS false false false leaf) x = accepts leaf x := by
  simp only [reprRec, Bool.and_eq_true] at h
  exact eqv leaf false false false x h.1 hx

theorem leaf_null (leaf : S) (h : reprRec leaf = true) : accepts leaf .null = false := by
  simp only [reprRec, Bool.and_eq_true, Bool.not_eq_true'] at h
  exact accepts_null_false false leaf h.2 h.1

mutual
theorem validVF_eq (leaf : S) (h : reprRec leaf = true) : (x : Json) → instOK x = true → validVF leaf x = acceptsV leaf x
  | .arr xs, hx => by
    rw [validVF, acceptsV, leaf_eqv leaf h _ hx, allValidVF_eq leaf h xs hx]
  | .null, hx => (leaf_eqv leaf h _ hx).trans (leaf_null leaf h)
  | .bool _, hx => leaf_eqv leaf h _ hx
  | .num _, hx => leaf_eqv leaf h _ hx
  | .str _, hx => leaf_eqv leaf h _ hx
  | .obj _, hx => leaf_eqv leaf h _ hx
theorem allValidVF_eq (leaf : S) (h : reprRec leaf = true) : (xs : JsonList) → instListOK xs = true → allValidVF leaf xs = allV leaf xs
  | .nil, _ => rfl
  | .cons x xs, hx => by
    simp only [instListOK, Bool.and_eq_true] at hx
    rw [allValidVF, allV, validVF_eq leaf h x hx.1, allValidVF_eq leaf h xs hx.2]
end

/-- C07 for the recursive family, fixed converter: every wrapper, every leaf of the base fragment, every in-scope
    instance (arbitrarily deep). -/
theorem c07_rec_equiv (w : Wrap) (leaf : S) (x : Json) (h : reprRec leaf = true) (hx : instOK x = true) :
    validTF w leaf x = acceptsT w leaf x := by
  cases w with
  | root => exact validVF_eq leaf h x hx
  | field =>
    cases x with
    | obj fs =>
      simp only [validTF, acceptsT]
      cases hf : fs.find kVal with
      | none => rfl
      | some v =>
        simp only [validVF_eq leaf h v (find_instOK kVal v fs hx hf)]
    | _ => rfl
  | slice =>
    cases x with
    | arr xs => exact allValidVF_eq leaf h xs hx
    | _ => rfl

/-- the family's model has a verdict only (`acceptsT`), no returned value: the two directions of the property are this one
    equation read twice. -/
theorem c07_rec_sound (w : Wrap) (leaf : S) (x : Json) (h : reprRec leaf = true) (hx : instOK x = true)
    (ha : acceptsT w leaf x = true) : validTF w leaf x = true := by rw [c07_rec_equiv w leaf x h hx]; exact ha
theorem c07_rec_complete (w : Wrap) (leaf : S) (x : Json) (h : reprRec leaf = true) (hx : instOK x = true)
    (hv : validTF w leaf x = true) : acceptsT w leaf x = true := by rw [← c07_rec_equiv w leaf x h hx]; exact hv

/-- at the root `#` is the right reference: the old document is the fixed one. -/
theorem c07_rec_root_legacy (leaf : S) (x : Json) : validTL .root leaf x = validTF .root leaf x := rfl

example : reprRec (.str [.min 2]) = true
    ∧ instOK (o1 kVal (.arr (.cons (.str [109, 109]) (.cons (.arr (.cons (.arr .nil) .nil)) .nil)))) = true
    ∧ acceptsT .field (.str [.min 2]) (o1 kVal (.arr (.cons (.str [109, 109]) (.cons (.arr (.cons (.arr .nil) .nil)) .nil)))) = true := by
  decide +kernel

/-- `StrictObject{val: V}`, V = Union([String(), Slice(Lazy → V)]), before the fix: `{"val": ["a"]}` is accepted by Parse
    and rejected by the document (its items must be `{val: …}` objects); `{"val": [{"val": "a"}]}` validates and is
    rejected by Parse.  Same for `Slice(V)`: `[["a"]]` / `[[["a"]]]`-shaped mismatches. -/
theorem witness_lazy_ref_root_field :
    let leaf : S := .str []
    let a : Json := .str [97]
    (acceptsT .field leaf (o1 kVal (.arr (.cons a .nil))) = true ∧ validTL .field leaf (o1 kVal (.arr (.cons a .nil))) = false)
    ∧ (validTL .field leaf (o1 kVal (.arr (.cons (o1 kVal a) .nil))) = true
        ∧ acceptsT .field leaf (o1 kVal (.arr (.cons (o1 kVal a) .nil))) = false) := by decide +kernel

theorem witness_lazy_ref_root_slice :
    let leaf : S := .str []
    let a : Json := .str [97]
    -- [["a"]]: V accepts ["a"]; the old document wants the inner items to be arrays (T) again
    acceptsT .slice leaf (.arr (.cons (.arr (.cons a .nil)) .nil)) = true
    ∧ validTL .slice leaf (.arr (.cons (.arr (.cons a .nil)) .nil)) = false := by decide +kernel

end Gozod.C07
