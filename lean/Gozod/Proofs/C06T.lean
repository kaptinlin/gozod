/-
  C06 — the regenerated rule matrix `Gen.tagTable`: the verdicts the real schemas gave on the probes, one block per
  field type, one cell per rule and per ordered pair of rules (legend of the oracles: Proofs/C06.lean).

  The whole table is evaluated ONCE (`tagTable_ok`), block by block (`blockOK`): every single-rule cell equals the
  verdicts of the ∀-value model `Mean.Code.accepts` on the probes' values (the TIE: the model is the code at the
  boundary values), meets the side conditions of `c06_tag_meaning` (Proofs/C06M.lean), and equals the documented
  verdicts `Tags.Spec.accept`; every two-rule cell is, in both orders, the pointwise conjunction of its
  two single-rule cells.  Model and oracle are conjunctive on two-rule tags, so what is said of the single cells
  carries over to the pairs (`pair_row`); every statement about the table is a projection of the one evaluation.
-/
import Gozod.Model.TagMeaningProbe
import Gozod.Model.TagsKnown
import Gozod.Gen.TagTable
import Gozod.Proofs.C06M

namespace Gozod.C06
open Gozod.TagParser

section Matrix
open Gozod.Tags Gozod.Gen

theorem accept_append (rs rs' : List TRule) (p : Probe) :
    Spec.accept (rs ++ rs') p = (Spec.accept rs p && Spec.accept rs' p) := by
  cases p with
  | nil => simp only [Spec.accept, List.contains_append, Bool.not_or]
  | inner ok => cases ok <;> simp only [Spec.accept, List.all_append, Bool.true_and, Bool.false_and]
  | _ => simp only [Spec.accept, List.all_append]

theorem accept_pair (r₁ r₂ : TRule) (p : Probe) :
    Spec.accept [r₁, r₂] p = (Spec.accept [r₁] p && Spec.accept [r₂] p) :=
  accept_append [r₁] [r₂] p

theorem accept_comm (r₁ r₂ : TRule) (p : Probe) : Spec.accept [r₁, r₂] p = Spec.accept [r₂, r₁] p := by
  rw [accept_pair, accept_pair, Bool.and_comm]

def coversBlock (b : Block) : Bool :=
  decide (b.singles.map (·.1) = singleInstances b.fty.base) &&
  decide (b.pairs.map (fun p => (p.1, p.2.1)) = pairInstances b.fty.base.cls) &&
  b.singles.all (fun s => s.2.length == b.probes.length) &&
  b.pairs.all (fun p => p.2.2.1.length == b.probes.length && p.2.2.2.length == b.probes.length) &&
  (b.probes.contains .nil == b.fty.ptr)

def pairKnown (b : Block) (p : TRule × TRule × List Bool × List Bool) : Bool :=
  knownSingle p.1 b.fty || knownSingle p.2.1 b.fty || knownPair p.1 p.2.1 b.fty

/-! the known-finding region is empty: all seven repairs of the rule-application code are in the tree
    (`Tags.landed`). The `knownSingle` / `pairKnown` exclusions below stand in `singleOK` and in the `_partial`
    statements, so that these hold as they stand if a flag of `landed` is switched off. -/

theorem knownSingle_none (r : TRule) (t : FTy) : knownSingle r t = false := by
  unfold knownSingle knownSingleL
  split <;> simp only [landed, Bool.not_true, Bool.false_and, Bool.or_self]
  -- a numeric field, whether or not a value can violate the rule
  split
  · rfl
  · split <;> rfl

theorem knownPair_none (r₁ r₂ : TRule) (t : FTy) : knownPair r₁ r₂ t = false := by
  simp [knownPair, landed]

theorem knownOrder_none (r₁ r₂ : TRule) (t : FTy) : knownOrder r₁ r₂ t = false := by
  simp [knownOrder, landed]

end Matrix

section Tie
open Gozod.Tags Gozod.Tags.Mean Gozod.Gen

def blockIsModel (b : Block) : Bool :=
  (b.singles.all fun s => s.2 == modelRow b.fty [s.1] b.probes) &&
  (b.pairs.all fun p => p.2.2.1 == modelRow b.fty [p.1, p.2.1] b.probes && p.2.2.2 == modelRow b.fty [p.2.1, p.1] b.probes)

def blockSide (b : Block) : Bool :=
  let K := kindOf b.fty
  (b.singles.all fun s => Docd K.fam (toRule s.1) && boundExact K.fam (toRule s.1)) &&
  (b.pairs.all fun p => Docd K.fam (toRule p.1) && boundExact K.fam (toRule p.1) &&
                        Docd K.fam (toRule p.2.1) && boundExact K.fam (toRule p.2.1)) &&
  (b.probes.all fun p => typed K (valOf b.fty p))

def andRows (x y : List Bool) : List Bool := List.zipWith (· && ·) x y

theorem andRows_map {α} (f g : α → Bool) (l : List α) :
    andRows (l.map f) (l.map g) = l.map fun a => f a && g a := by
  simp only [andRows, List.zipWith_map, List.zipWith_self]

def singleOK (b : Block) (s : TRule × List Bool) : Bool :=
  s.2 == modelRow b.fty [s.1] b.probes &&
  Docd (kindOf b.fty).fam (toRule s.1) && boundExact (kindOf b.fty).fam (toRule s.1) &&
  (!documented s.1 b.fty.base.cls || knownSingle s.1 b.fty || s.2 == expected [s.1] b.probes)

def pairOK (b : Block) (p : TRule × TRule × List Bool × List Bool) : Bool :=
  documented p.1 b.fty.base.cls && documented p.2.1 b.fty.base.cls &&
  match b.singles.lookup p.1, b.singles.lookup p.2.1 with
  | some x, some y => p.2.2.1 == andRows x y && p.2.2.2 == andRows y x
  | _, _ => false

def blockOK (b : Block) : Bool :=
  coversBlock b && (b.probes.all fun p => typed (kindOf b.fty) (valOf b.fty p)) &&
  b.singles.all (singleOK b) && b.pairs.all (pairOK b)

theorem lookup_mem {α β} [BEq α] [LawfulBEq α] {l : List (α × β)} {k : α} {x : β} (hl : l.lookup k = some x) :
    (k, x) ∈ l := by
  obtain ⟨l₁, l₂, rfl, _⟩ := List.lookup_eq_some_iff.mp hl
  simp

theorem tagTable_ok : (decide (tagTable.map (·.fty) = allFtys) && tagTable.all blockOK) = true := by decide +kernel

theorem block_ok {b : Block} (hb : b ∈ tagTable) : blockOK b = true :=
  List.all_eq_true.mp (Bool.and_eq_true_iff.mp tagTable_ok).2 b hb

variable {b : Block} (h : blockOK b = true)
include h

theorem single_ok {s : TRule × List Bool} (hs : s ∈ b.singles) :
    s.2 = modelRow b.fty [s.1] b.probes ∧
    Docd (kindOf b.fty).fam (toRule s.1) = true ∧ boundExact (kindOf b.fty).fam (toRule s.1) = true ∧
    (documented s.1 b.fty.base.cls = true → knownSingle s.1 b.fty = false → s.2 = expected [s.1] b.probes) := by
  simp only [blockOK, Bool.and_eq_true, List.all_eq_true] at h
  have := h.1.2 s hs
  simp only [singleOK, Bool.and_eq_true, Bool.or_eq_true, beq_iff_eq, Bool.not_eq_true'] at this
  obtain ⟨⟨⟨h₁, h₂⟩, h₃⟩, h₄⟩ := this
  exact ⟨h₁, h₂, h₃, fun hd hk => by simpa [hd, hk] using h₄⟩

theorem pair_ok {p : TRule × TRule × List Bool × List Bool} (hp : p ∈ b.pairs) :
    documented p.1 b.fty.base.cls = true ∧ documented p.2.1 b.fty.base.cls = true ∧
    ∃ x y, (p.1, x) ∈ b.singles ∧ (p.2.1, y) ∈ b.singles ∧ p.2.2.1 = andRows x y ∧ p.2.2.2 = andRows y x := by
  simp only [blockOK, Bool.and_eq_true, List.all_eq_true] at h
  have := h.2 p hp
  simp only [pairOK, Bool.and_eq_true] at this
  obtain ⟨⟨h₁, h₂⟩, h₃⟩ := this
  refine ⟨h₁, h₂, ?_⟩
  split at h₃
  · next x y hx hy =>
    simp only [Bool.and_eq_true, beq_iff_eq] at h₃
    exact ⟨x, y, lookup_mem hx, lookup_mem hy, h₃.1, h₃.2⟩
  · cases h₃

/-- for any `row` that is conjunctive on two-rule tags (the rows of the model, of the oracle) -/
theorem pair_row {p : TRule × TRule × List Bool × List Bool} (hp : p ∈ b.pairs) (row : List TRule → List Bool)
    (hand : ∀ r₁ r₂, row [r₁, r₂] = andRows (row [r₁]) (row [r₂]))
    (hrow : ∀ s ∈ b.singles, s.1 = p.1 ∨ s.1 = p.2.1 → s.2 = row [s.1]) :
    p.2.2.1 = row [p.1, p.2.1] ∧ p.2.2.2 = row [p.2.1, p.1] := by
  obtain ⟨_, _, x, y, hx, hy, e₁, e₂⟩ := pair_ok h hp
  have hx : x = row [p.1] := hrow _ hx (.inl rfl)
  have hy : y = row [p.2.1] := hrow _ hy (.inr rfl)
  rw [e₁, e₂, hand, hand, hx, hy]
  exact ⟨rfl, rfl⟩

omit h

theorem modelRow_pair (t : FTy) (r₁ r₂ : TRule) (ps : List Probe) :
    modelRow t [r₁, r₂] ps = andRows (modelRow t [r₁] ps) (modelRow t [r₂] ps) := by
  simp only [modelRow, andRows_map]
  exact List.map_congr_left fun p _ => Code.accepts_append probeLang (kindOf t) [toRule r₁] [toRule r₂] _

theorem expected_pair (r₁ r₂ : TRule) (ps : List Probe) :
    expected [r₁, r₂] ps = andRows (expected [r₁] ps) (expected [r₂] ps) := by
  simp only [expected, andRows_map]
  exact List.map_congr_left fun p _ => accept_pair r₁ r₂ p

/-- The table is the model (the tie): on every cell of the regenerated matrix — single rules and both orders of every
    pair, on each of the 60 field types — the real `FromStruct` schema's verdict on every probe is `Mean.Code.accepts` on
    the probe's value. -/
theorem c06_table_is_model : ∀ b ∈ tagTable, blockIsModel b = true := by
  intro b hb
  have h := block_ok hb
  simp only [blockIsModel, Bool.and_eq_true, List.all_eq_true, beq_iff_eq]
  exact ⟨fun s hs => (single_ok h hs).1,
    fun p hp => pair_row h hp (modelRow b.fty · b.probes) (modelRow_pair _ · · _) fun s hs _ => (single_ok h hs).1⟩

theorem c06_table_side : ∀ b ∈ tagTable, blockSide b = true := by
  intro b hb
  have h := block_ok hb
  have hs : ∀ r x, (r, x) ∈ b.singles →
      Docd (kindOf b.fty).fam (toRule r) = true ∧ boundExact (kindOf b.fty).fam (toRule r) = true :=
    fun r x hm => ⟨(single_ok h hm).2.1, (single_ok h hm).2.2.1⟩
  simp only [blockSide, Bool.and_eq_true, List.all_eq_true]
  refine ⟨⟨fun s hm => hs s.1 s.2 hm, fun p hp => ?_⟩, ?_⟩
  · obtain ⟨_, _, x, y, hx, hy, _⟩ := pair_ok h hp
    exact ⟨⟨hs _ _ hx, (hs _ _ hy).1⟩, (hs _ _ hy).2⟩
  · simp only [blockOK, Bool.and_eq_true, List.all_eq_true] at h
    exact h.1.1.2

theorem rows_eq (t : FTy) (rs : List TRule) (ps : List Probe)
    (hd : ∀ r ∈ rs, Docd (kindOf t).fam (toRule r) = true ∧ boundExact (kindOf t).fam (toRule r) = true)
    (hp : ∀ p ∈ ps, typed (kindOf t) (valOf t p) = true) : modelRow t rs ps = specRow t rs ps :=
  List.map_congr_left fun p hpm => c06_tag_meaning _ _ _ _ (List.forall_mem_map.mpr fun r h => (hd r h).1)
    (List.forall_mem_map.mpr fun r h => (hd r h).2) (hp p hpm)

/-- Every cell of the table has the verdicts of `Mean.Spec` (`specRow`) — derived: from the tie (`c06_table_is_model`) and the
    ∀-value theorem (`c06_tag_meaning`), not decided against an oracle. -/
theorem c06_table_documented :
    ∀ b ∈ tagTable,
      (∀ s ∈ b.singles, s.2 = specRow b.fty [s.1] b.probes) ∧
      (∀ p ∈ b.pairs, p.2.2.1 = specRow b.fty [p.1, p.2.1] b.probes ∧ p.2.2.2 = specRow b.fty [p.2.1, p.1] b.probes) := by
  intro b hb
  have hm := c06_table_is_model b hb
  have hs := c06_table_side b hb
  simp only [blockIsModel, Bool.and_eq_true, List.all_eq_true, beq_iff_eq] at hm
  simp only [blockSide, Bool.and_eq_true, List.all_eq_true] at hs
  obtain ⟨⟨hs1, hs2⟩, hs3⟩ := hs
  refine ⟨fun s hsm => ?_, fun p hpm => ?_⟩
  · rw [hm.1 s hsm]
    exact rows_eq _ _ _ (by simpa using hs1 s hsm) hs3
  · obtain ⟨⟨⟨d₁, b₁⟩, d₂⟩, b₂⟩ := hs2 p hpm
    rw [(hm.2 p hpm).1, (hm.2 p hpm).2]
    exact ⟨rows_eq _ _ _ (by simpa using ⟨⟨d₁, b₁⟩, d₂, b₂⟩) hs3, rows_eq _ _ _ (by simpa using ⟨⟨d₂, b₂⟩, d₁, b₁⟩) hs3⟩

/-- `Mean.Spec` (∀ values) and `Tags.Spec` (probe vocabulary) agree on every documented cell: both are the observed verdicts -/
theorem c06_specs_agree :
    ∀ b ∈ tagTable, ∀ s ∈ b.singles, documented s.1 b.fty.base.cls = true → specRow b.fty [s.1] b.probes = expected [s.1] b.probes :=
  fun b hb s hs hd =>
    ((c06_table_documented b hb).1 s hs).symm.trans ((single_ok (block_ok hb) hs).2.2.2 hd (knownSingle_none _ _))

/-- the tag text of a rule instance, as `vlib/c06.py` writes it into the generated struct types -/
def tagText : TRule → Str
  | .required => Rules.nm "required"
  | .min n => Rules.nm "min=" ++ decimal n | .max n => Rules.nm "max=" ++ decimal n
  | .length n => Rules.nm "length=" ++ decimal n
  | .gt n => Rules.nm "gt=" ++ decimal n | .gte n => Rules.nm "gte=" ++ decimal n
  | .lt n => Rules.nm "lt=" ++ decimal n | .lte n => Rules.nm "lte=" ++ decimal n
  | .email => Rules.nm "email" | .url => Rules.nm "url" | .uuid => Rules.nm "uuid"
  | .regex => Rules.nm "regex=^aa*$"
  | .positive => Rules.nm "positive" | .negative => Rules.nm "negative"
  | .nonnegative => Rules.nm "nonnegative" | .nonpositive => Rules.nm "nonpositive"
  | .nonempty => Rules.nm "nonempty"

/-- `toRule` is what the tag parser (its transcription) yields for the tag text of every rule instance of the matrix,
    alone and as the first half of a two-rule tag before `required` -/
theorem c06_matrix_tags_parse :
    ∀ t ∈ allFtys, ∀ r ∈ singleInstances t.base,
      Rules.rulesOf (tagText r) = [toRule r] ∧
      Rules.rulesOf (tagText r ++ [cComma] ++ tagText .required) = [toRule r, toRule .required] := by
  have h : (allFtys.all fun t => (singleInstances t.base).all fun r =>
      decide (Rules.rulesOf (tagText r) = [toRule r]) &&
      decide (Rules.rulesOf (tagText r ++ [cComma] ++ tagText .required) = [toRule r, toRule .required])) = true := by
    decide +kernel
  intro t ht r hr
  have := List.all_eq_true.mp (List.all_eq_true.mp h t ht) r hr
  simpa using this

end Tie

section Matrix
open Gozod.Tags Gozod.Gen

/-- The regenerated table covers the whole matrix: every field type (30 bases and a pointer to each), for each
    exactly the documented rule instances of its class, every pair in both orders, and a nil probe exactly for
    pointer types. -/
theorem c06_table_covers_matrix :
    tagTable.map (·.fty) = allFtys ∧ ∀ b ∈ tagTable, coversBlock b = true := by
  refine ⟨of_decide_eq_true (Bool.and_eq_true_iff.mp tagTable_ok).1, fun b hb => ?_⟩
  have h := block_ok hb
  simp only [blockOK, Bool.and_eq_true] at h
  exact h.1.1.1

def c06_no_silent_noop_full : Prop :=
  ∀ b ∈ tagTable, ∀ s ∈ b.singles, documented s.1 b.fty.base.cls = true → s.2 = expected [s.1] b.probes

/-- No silent no-op (single rule), outside the known-finding cells. (No cell is excluded, `knownSingle_none`:
    `c06_no_silent_noop` is the same without the exclusion.) -/
theorem c06_no_silent_noop_partial :
    ∀ b ∈ tagTable, ∀ s ∈ b.singles, documented s.1 b.fty.base.cls = true → knownSingle s.1 b.fty = false →
      s.2 = expected [s.1] b.probes :=
  fun _ hb _ hs => (single_ok (block_ok hb) hs).2.2.2

def c06_pairs_full : Prop :=
  ∀ b ∈ tagTable, ∀ p ∈ b.pairs,
    p.2.2.1 = expected [p.1, p.2.1] b.probes ∧ p.2.2.2 = expected [p.2.1, p.1] b.probes

/-- Two rules, both orders, outside the known-finding cells: both tags behave as documented. (No pair is
    excluded: `c06_pairs` is the same without the exclusion.) -/
theorem c06_pairs_partial :
    ∀ b ∈ tagTable, ∀ p ∈ b.pairs, pairKnown b p = false →
      p.2.2.1 = expected [p.1, p.2.1] b.probes ∧ p.2.2.2 = expected [p.2.1, p.1] b.probes := by
  intro b hb p hp hk
  have h := block_ok hb
  simp only [pairKnown, Bool.or_eq_false_iff] at hk
  obtain ⟨⟨hk₁, hk₂⟩, _⟩ := hk
  obtain ⟨hd₁, hd₂, _⟩ := pair_ok h hp
  refine pair_row h hp (expected · b.probes) (expected_pair · · _) fun s hs e => ?_
  rcases e with e | e
  · exact (single_ok h hs).2.2.2 (e ▸ hd₁) (e ▸ hk₁)
  · exact (single_ok h hs).2.2.2 (e ▸ hd₂) (e ▸ hk₂)

def c06_order_independent_full : Prop := ∀ b ∈ tagTable, ∀ p ∈ b.pairs, p.2.2.1 = p.2.2.2

theorem c06_no_silent_noop : c06_no_silent_noop_full :=
  fun b hb s hs hd => c06_no_silent_noop_partial b hb s hs hd (knownSingle_none _ _)

theorem c06_pairs : c06_pairs_full := by
  intro b hb p hp
  exact c06_pairs_partial b hb p hp (by simp [pairKnown, knownSingle_none, knownPair_none])

/-- Order independence — full statement: both orders give documented verdicts, and those do not depend on the
    order (`accept_comm`). -/
theorem c06_order_independent_all : c06_order_independent_full := by
  intro b hb p hp
  obtain ⟨e₁, e₂⟩ := c06_pairs b hb p hp
  rw [e₁, e₂]
  exact List.map_congr_left fun q _ => accept_comm _ _ q

/-- Order independence with the exclusion `knownOrder` (two format rules on a string, while the repair
    `landed.strings` is missing). The exclusion is empty and the proof does not use it: this is
    `c06_order_independent_all`. -/
theorem c06_order_independent :
    ∀ b ∈ tagTable, ∀ p ∈ b.pairs, knownOrder p.1 p.2.1 b.fty = false → p.2.2.1 = p.2.2.2 :=
  fun b hb p hp _ => c06_order_independent_all b hb p hp

example : ∃ b ∈ tagTable, ∃ s ∈ b.singles, documented s.1 b.fty.base.cls = true ∧ knownSingle s.1 b.fty = false ∧
    s.1 = .min 3 ∧ b.fty = ⟨false, .int64⟩ := by decide +kernel
example : ∃ b ∈ tagTable, ∃ p ∈ b.pairs, pairKnown b p = false ∧ p.1 = .min 20 ∧ p.2.1 = .regex := by decide +kernel

end Matrix
end Gozod.C06
