/-
  C20 — a CIDR pattern is the address pattern, '/', and the pattern of the prefix length.

  The definitions accept `address '/' prefix length` cut at the last '/' (`cidrv4_split`, `cidrv6_split`).  The exported patterns
  are `seq <address pattern> (seq '/' <prefix pattern>)`, and a prefix pattern takes no '/', so a match cuts at the last '/' too
  (`accepts_slash`).  Hence a CIDR pattern is right wherever the address pattern is right on the address (`cidr_of_addr`).
-/
import Gozod.Proofs.C20Ipv4
import Gozod.Gen.Re_cidrv4
import Gozod.Gen.Re_cidrv6
namespace Gozod.C20
open Gozod Gozod.Re Gozod.Fmt

theorem accepts_slash (A P : Re) (hP : ∀ p, accepts P p = true → 47 ∉ p) (s : List Nat) :
    accepts (seq A (seq (cls [(47, 47)]) P)) s = match Netip.cutLastSlash s with
      | some (a, b) => accepts A a && accepts P b
      | none => false := by
  rw [Bool.eq_iff_iff, accepts_seq_byte]
  constructor
  · rintro ⟨a, b, rfl, ha, hb⟩
    rw [cutLast_append a (hP b hb)]
    exact Bool.and_eq_true_iff.2 ⟨ha, hb⟩
  · intro h
    split at h
    · next a b hc => exact ⟨a, b, cutLast_some hc, Bool.and_eq_true_iff.1 h⟩
    · cases h

/-- If the definition of a CIDR format is `address '/' prefix length` (`hS`) and the last factor of the pattern is the
    pattern of the prefix length (`hP`), then the pattern is right wherever its address part is right on the address. -/
theorem cidr_of_addr (A P : Re) (S Sa : Spec) (max : Nat)
    (hS : ∀ s, S.run s = match Netip.cutLastSlash s with
      | some (a, b) => Sa.run a && Netip.prefixBits max b
      | none => false)
    (hP : ∀ b, accepts P b = Netip.prefixBits max b) (s : List Nat)
    (hA : ∀ a b, Netip.cutLastSlash s = some (a, b) → Netip.prefixBits max b = true → accepts A a = Sa.run a) :
    accepts (seq A (seq (cls [(47, 47)]) P)) s = S.run s := by
  have hP' : ∀ p, accepts P p = true → 47 ∉ p := fun p hp h47 => by
    have := List.all_eq_true.1 (prefixBits_digits ((hP p).symm.trans hp)) 47 h47
    cases this
  rw [hS, accepts_slash A P hP']
  cases hc : Netip.cutLastSlash s with
  | none => rfl
  | some p =>
    show (accepts A p.1 && accepts P p.2) = (Sa.run p.1 && Netip.prefixBits max p.2)
    rw [hP]
    cases hb : Netip.prefixBits max p.2 with
    | false => rw [Bool.and_false, Bool.and_false]
    | true => rw [hA p.1 p.2 hc hb]

/-- the last factor of `regex.CIDRv4`: 0–32 without leading zero -/
theorem prefix32 (b : List Nat) : accepts Gen.cidrv4.s4 b = Netip.prefixBits 32 b :=
  decimal_field _ 32 (by decide) (by decide) (by decide) (by decide) (by decide +kernel) b

/-- the address part of `regex.CIDRv4` is `regex.IPv4`: the two generated terms unfold to one expression.  (Should the two Go
    patterns come apart, this is the line that fails.) -/
theorem cidrv4_addr_part :
    seqs [Gen.cidrv4.s3, .cls [(46, 46)], Gen.cidrv4.s3, .cls [(46, 46)], Gen.cidrv4.s3, .cls [(46, 46)], Gen.cidrv4.s3] = Gen.val_ipv4 := rfl

/-- C20 for the pattern `gozod.CIDRv4()` exports: it matches exactly the strings of the definition -/
theorem c20_cidrv4_pattern : ∀ s, accepts Gen.pat_cidrv4 s = Fmt.cidrv4.run s := fun s =>
  (accepts_seqs_append [Gen.cidrv4.s3, .cls [(46, 46)], Gen.cidrv4.s3, .cls [(46, 46)], Gen.cidrv4.s3, .cls [(46, 46)], Gen.cidrv4.s3]
      [.cls [(47, 47)], Gen.cidrv4.s4] (by simp) s).trans
    (cidrv4_addr_part ▸ cidr_of_addr Gen.val_ipv4 Gen.cidrv4.s4 cidrv4 ipv4 32 cidrv4_split prefix32 s fun a _ _ _ => c20_ipv4 a)

/-- the last factor of `regex.CIDRv6`: 0–128 without leading zero -/
theorem prefix128 (b : List Nat) : accepts Gen.cidrv6.s66 b = Netip.prefixBits 128 b :=
  decimal_field _ 128 (by decide) (by decide) (by decide) (by decide) (by decide +kernel) b

end Gozod.C20
