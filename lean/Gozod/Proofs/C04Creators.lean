/-
  C04 — every error the library builds through internal/issues/creators.go is well-formed.

  The tables `Gen/IssueCodes.lean` and `Gen/IssueCreators.lean` are REGENERATED from the source on every run by
  harness/cmd/c04gen (go/ast): every constant of type core.IssueCode; for every function of creators.go what each
  return statement yields (source of the code, whether a path is set, whether each issue handed to NewZodError is the
  result of FinalizeIssue); the shape of FinalizeIssue (nil path replaced, the guards of every `message = …`
  assignment); every return statement of the default message formatter.

  The theorems are over the WHOLE tables: an edit that adds a creator returning an unfinalized issue, a code outside the
  declared constants, a message assignment without its `!= ""` guard, or an empty default message changes a proof
  obligation here.  `finalize_wf` takes those table facts as hypotheses; that its three conclusions are the flags
  `Cont.mk` sets is the link to `c04_error_wf` — a reading, not a theorem.
-/
import Gozod.Gen.IssueCodes
import Gozod.Gen.IssueCreators
import Gozod.Model.Containers

namespace Gozod.C04.Creators
open Gozod.Gen Gozod.Gen.IssueCreators

def modelCodes : List (String × Cont.Code) :=
  [("InvalidType", .invalidType), ("InvalidValue", .invalidValue), ("InvalidFormat", .invalidFormat),
   ("InvalidUnion", .invalidUnion), ("InvalidKey", .invalidKey), ("InvalidElement", .invalidElement),
   ("TooBig", .tooBig), ("TooSmall", .tooSmall), ("NotMultipleOf", .notMultipleOf),
   ("UnrecognizedKeys", .unrecognizedKeys), ("Custom", .custom), ("InvalidSchema", .invalidSchema),
   ("InvalidDiscriminator", .invalidDiscriminator), ("IncompatibleTypes", .incompatibleTypes),
   ("MissingRequired", .missingRequired), ("TypeConversion", .typeConversion), ("NilPointer", .nilPointer)]

theorem codes_are_model_codes : IssueCodes.codes.map (·.1) = modelCodes.map (·.1) := by rfl

theorem model_codes_known : modelCodes.all (fun p => p.2.known) = true := by decide

theorem model_codes_complete (c : Cont.Code) : c.known = true → c ∈ modelCodes.map (·.2) := by
  cases c <;> simp [Cont.Code.known, modelCodes]

theorem codes_count : IssueCodes.codes.length = 17 := by rfl

def nCodes : Nat := IssueCodes.codes.length

/-- a code source that cannot produce an undeclared code: declared constants, the caller's own core.IssueCode
    argument, or the code of an issue that already exists. -/
def codeOk : CodeSrc → Bool
  | .consts ix => !ix.isEmpty && ix.all (· < nCodes)
  | .param => true
  | .inherit => true
  | .callee => false
  | .unknown => false

def creatorAt (i : Nat) : Option Creator := creators[i]?

/-- a `via` whose own arguments name the code (CreateIssue(core.X, …)) is judged on those; otherwise on every return of
    the callee. -/
def rawCodeOk : Nat → Raw → Bool
  | 0, _ => false
  | f + 1, r =>
    match r.kind with
    | .lit => codeOk r.code
    | .unknown => false
    | .via i =>
      match r.code with
      | .callee =>
        (match creatorAt i with
         | some c => !c.isError && !c.raws.isEmpty && c.raws.all (rawCodeOk f)
         | none => false)
      | c => codeOk c && (creatorAt i).isSome

def rawPathNonNil : Nat → Raw → Bool
  | 0, _ => false
  | f + 1, r =>
    match r.path with
    | .nonnil => true
    | .callee =>
      (match r.kind with
       | .via i =>
         (match creatorAt i with
          | some c => !c.isError && !c.raws.isEmpty && c.raws.all (rawPathNonNil f)
          | none => false)
       | _ => false)
    | _ => false

def fuel : Nat := creators.length

/-- a good return of an error-valued creator: nil; NewZodError over ≥ 1 issues, each FinalizeIssue of a raw issue
    with a good code; a slice filled with FinalizeIssue results behind a non-emptiness test; or the result of
    another error-valued creator whose returns are good. `f` bounds the chain of such creators (one longer than the table
    is a cycle: `false`); each raw issue on the way is judged with the full `fuel` of its own. -/
def errOk : Nat → ErrRet → Bool
  | 0, _ => false
  | f + 1, e =>
    e.nilRet ||
    (e.newZodError && ((!e.issues.isEmpty && e.issues.all (fun p => p.1 && !p.2.escapes && rawCodeOk fuel p.2)) || e.loopFinalized)) ||
    (match e.via with
     | some i =>
       (match creatorAt i with
        | some c => c.isError && !c.errs.isEmpty && c.errs.all (errOk f)
        | none => false)
     | none => false)

/-- raw-issue creators whose result is handed to caller-supplied option functions before it is returned: what they
    return is not determined by the table (reviewed: CreateMissingKeyIssue's options are built inside the library). -/
def escaping : List String := ["CreateMissingKeyIssue"]

theorem creators_error_wf :
    creators.all (fun c => !c.isError || (!c.errs.isEmpty && c.errs.all (errOk fuel))) = true := by decide +kernel

theorem creators_raw_code_known :
    creators.all (fun c => c.isError || (!c.raws.isEmpty && c.raws.all (rawCodeOk fuel))) = true := by decide +kernel

/-- the raw creators whose result may carry a caller-supplied (possibly nil) path or escapes to an option function —
    exactly these; FinalizeIssue repairs a nil path (`finalize_path_fix`). -/
theorem creators_raw_path_exceptions :
    (creators.filter (fun c => !c.isError && !(c.raws.all (fun r => rawPathNonNil fuel r && !r.escapes)))).map (·.name)
      = ["CreateMissingKeyIssue", "ConvertZodIssueToRawWithProperties", "ConvertZodIssueToRawWithPrependedPath",
         "convertZodIssueToRawWithPath"] := by decide +kernel

theorem escaping_listed :
    (creators.filter (fun c => c.raws.any (·.escapes))).map (·.name) = escaping := by decide +kernel

/-- 20 is a floor well below the counts in the table. -/
theorem creators_nontrivial :
    (creators.filter (·.isError)).length ≥ 20 ∧ (creators.filter (!·.isError)).length ≥ 20 := by decide +kernel

/-- the literal FinalizeIssue returns takes these fields from the repaired locals `path`, `message`. -/
theorem finalize_literal :
    finalizeLitPath = "path" ∧ finalizeLitMessage = "message" ∧ finalizeLitCode = "iss.Code" := by
  refine ⟨rfl, rfl, rfl⟩

theorem finalize_path_fix : finalizePathNilFix = true := by rfl

/-- every assignment to `message` either sits under `<rhs> != ""` or is the default-message fallback, and the
    fallback is there (it is the last assignment). -/
theorem finalize_message_assigns :
    finalizeMessageAssigns.all (fun p => p.2) = false ∧
    (finalizeMessageAssigns.filter (fun p => !p.2)).length = 1 ∧
    (finalizeMessageAssigns.getLast?.map (·.2)) = some false := by decide

theorem finalize_fallback_is_default :
    (finalizeMessageAssigns.getLast?.map (·.1)) = some "GenerateDefaultMessage(iss)" := by rfl

/-- A row of `Gen.IssueCreators.defaultMessageReturns` is (function, kind, text, literal length); non-empty: kind 0 a non-empty
    literal, 1 a format with ≥ 1 literal character, 2 a concatenation with a literal part, 3 a variable returned under
    `v != ""`, 4 a helper's result (its own returns are rows too); 5 unknown and 6 missing are not. -/
def retNonEmpty (r : String × Nat × String × Nat) : Bool :=
  match r.2.1 with
  | 0 | 1 | 2 => r.2.2.2 > 0
  | 3 | 4 => true
  | _ => false

/-- for every issue code, including codes outside the declared ones (the `default:` branch is one of the rows). -/
theorem default_message_nonempty : defaultMessageReturns.all retNonEmpty = true := by decide +kernel

theorem default_message_table_nontrivial : defaultMessageReturns.length ≥ 40 := by decide +kernel

structure RawIssue where
  code : Cont.Code
  pathNil : Bool
  message : String
  levelMsgs : List String      -- schema-level, context-level, config-level answers (may be "")
  defaultMsg : String

/-- what FinalizeIssue returns, given the facts above: the raw code, a non-nil path, the first non-empty
    message of the resolution chain, else the default message. `finalize` takes the repair of a nil path
    (`finalize_path_fix`) for granted: it never reads `pathNil`, and writes `[]` for every path, whose content it
    does not model. -/
def finalize (r : RawIssue) : Cont.Issue :=
  let msg := if r.message ≠ "" then r.message else
    match r.levelMsgs.find? (· ≠ "") with
    | some m => m
    | none => r.defaultMsg
  { code := r.code, path := [], hasMsg := msg ≠ "", hasPath := true }

/-- `hd` is `default_message_nonempty`, `hc` is `creators_raw_code_known` + `model_codes_known`. -/
theorem finalize_wf (r : RawIssue) (hc : r.code.known = true) (hd : r.defaultMsg ≠ "") :
    (finalize r).code.known = true ∧ (finalize r).hasMsg = true ∧ (finalize r).hasPath = true := by
  refine ⟨hc, ?_, rfl⟩
  simp only [finalize]
  by_cases h : r.message ≠ ""
  · simp [h]
  · simp only [h, ↓reduceIte]
    cases hf : r.levelMsgs.find? (· ≠ "") with
    | none => simpa using hd
    | some m =>
      have := List.find?_some hf
      simpa using this

example : (finalize { code := .tooBig, pathNil := true, message := "", levelMsgs := ["", ""], defaultMsg := "Too big" }).hasMsg = true := by
  decide

end Gozod.C04.Creators
