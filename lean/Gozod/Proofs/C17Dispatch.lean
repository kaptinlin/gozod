/-
  C17, tie by translation: the dispatch tables regenerated from `pkg/coerce/coerce.go` (`Gozod.Gen.CoerceDispatch`),
  interpreted by `Gozod.Model.Dispatch`, compute exactly the hand-written functions of `Gozod.Model.Coerce`, for
  every source kind and every value: an added, deleted or re-routed clause or an edited constant makes a theorem
  below fail at the clause concerned.  From `To_routes` on: the routing around it (`coerce.To[T]`, the schemas'
  `Parse`, `parsePrimitiveValue` of internal/engine/parser.go), the tie of `CoerceSchema.parseValue` (Proofs/C17Schema.lean).
-/
import Gozod.Gen.CoerceDispatch
import Gozod.Proofs.C17

namespace Gozod.C17D
open Gozod Gozod.Coerce Gozod.Dispatch
open Gozod.Gen.CoerceDispatch

def unsup : R Val := .error .unsupported

/- `fXxx`: the model's helper functions as the interpreter calls them, `Src → R Val` (any other source kind:
   `unsup`); `fns` maps the helper names the translator writes into `.call` to them, `raws` the statements it
   leaves as text. -/
def fFloatToInt64 : Src → R Val
  | .f32 x => Val.int <$> floatToInt64 x
  | .f64 x => Val.int <$> floatToInt64 x
  | _ => unsup
def fStringToInt64 : Src → R Val
  | .str i => Val.int <$> stringToInt64 i
  | _ => unsup
def fStringToBool : Src → R Val
  | .str i => (match boolTable i.norm with
    | some b => .ok (.bool b)
    | none => .error .format)
  | _ => unsup
def fStringToFloat64 : Src → R Val
  | .str i => Val.flt <$> stringToFloat64 i
  | _ => unsup
def fStringToFloat32 : Src → R Val
  | .str i => Val.flt <$> stringToFloat i.blank i.pFloat32
  | _ => unsup
def fStringToBigInt : Src → R Val
  | .str i => Val.int <$> stringToBig i
  | _ => unsup
def fBigToF64 : Src → R Val
  | .big v => Val.flt <$> finOrOverflow (bigToF64 v)
  | _ => unsup
def fBigToF32 : Src → R Val
  | .big v => Val.flt <$> finOrOverflow (bigToF32 v)
  | _ => unsup
def fMagnitude : Src → R Val
  | .cplx _ _ mag => .ok (.flt mag)
  | _ => unsup

def fns : String → Option (Src → R Val)
  | "floatToInt64" => some fFloatToInt64
  | "stringToInt64" => some fStringToInt64
  | "stringToBool" => some fStringToBool
  | "stringToFloat64" => some fStringToFloat64
  | "stringToFloat/64" => some fStringToFloat64
  | "stringToBigInt" => some fStringToBigInt
  | "bigIntToFloat64" => some fBigToF64
  | _ => none

/-- The statements the translator leaves as text, and what the hand model says they do. Any
    other text has no meaning here, and the theorems below fail on it. -/
def raws : String → Option (Src → R Val)
  | "c := complex128(x); return math.Sqrt(real(c)*real(c) + imag(c)*imag(c)), nil" => some fMagnitude
  | "return math.Sqrt(real(x)*real(x) + imag(x)*imag(x)), nil" => some fMagnitude
  | "f, err := stringToFloat(x, 32); return float32(f), err" => some fStringToFloat32
  | "f, _ := new(big.Float).SetInt(&x).Float32(); if math.IsInf(float64(f), 0) { return 0, NewOverflowError(x.String(), \"float32\") }; return f, nil" => some fBigToF32
  | "f, _ := x.Float64(); if math.IsInf(f, 0) { return 0, NewOverflowError(x.String(), \"float64\") }; return f, nil" => some fBigToF64
  | _ => none

-- `by rfl`, not `rfl`: the term form has the equation checked a second time, for the `defeq` attribute.
theorem fns1 : fns "floatToInt64" = some fFloatToInt64 := by rfl
theorem fns2 : fns "stringToInt64" = some fStringToInt64 := by rfl
theorem fns3 : fns "stringToBool" = some fStringToBool := by rfl
theorem fns4 : fns "stringToFloat64" = some fStringToFloat64 := by rfl
theorem fns5 : fns "stringToFloat/64" = some fStringToFloat64 := by rfl
theorem fns6 : fns "stringToBigInt" = some fStringToBigInt := by rfl
theorem fns7 : fns "bigIntToFloat64" = some fBigToF64 := by rfl

/- `raws` is a chain of `if x = "…"` tests.  Deciding that a long text equals itself is slow (both sides are
   re-encoded as UTF-8 and compared to the end), so each text is taken through the chain by hand: the tests before
   its own are decided false by the kernel, its own holds by `rfl`. -/
theorem raws1 : raws "c := complex128(x); return math.Sqrt(real(c)*real(c) + imag(c)*imag(c)), nil" = some fMagnitude := by
  unfold raws raws.match_1
  rw [dif_pos rfl]
theorem raws2 : raws "return math.Sqrt(real(x)*real(x) + imag(x)*imag(x)), nil" = some fMagnitude := by
  unfold raws raws.match_1
  rw [dif_neg (by decide +kernel), dif_pos rfl]
theorem raws3 : raws "f, err := stringToFloat(x, 32); return float32(f), err" = some fStringToFloat32 := by
  unfold raws raws.match_1
  rw [dif_neg (by decide +kernel), dif_neg (by decide +kernel), dif_pos rfl]
theorem raws4 : raws "f, _ := new(big.Float).SetInt(&x).Float32(); if math.IsInf(float64(f), 0) { return 0, NewOverflowError(x.String(), \"float32\") }; return f, nil" = some fBigToF32 := by
  unfold raws raws.match_1
  rw [dif_neg (by decide +kernel), dif_neg (by decide +kernel), dif_neg (by decide +kernel), dif_pos rfl]
theorem raws5 : raws "f, _ := x.Float64(); if math.IsInf(f, 0) { return 0, NewOverflowError(x.String(), \"float64\") }; return f, nil" = some fBigToF64 := by
  unfold raws raws.match_1
  rw [dif_neg (by decide +kernel), dif_neg (by decide +kernel), dif_neg (by decide +kernel), dif_neg (by decide +kernel),
    dif_pos rfl]

def env (f32 f64 : F → List Nat) : Env := ⟨fns, raws, f32, f64⟩

theorem rel_self_const {s : Src} {x : F} (hx : num s = some x) (r : Rel) (c : Int) :
    Cond.eval s (.rel r .self (.c c 0)) = some (r.holds (F.cmp x (.fin c 0))) := by
  simp only [Cond.eval, Term.eval, hx, bind, Option.bind, pure]

theorem rel_int_const (r : Rel) (t : IntTy) (v c : Int) :
    Cond.eval (.int t v) (.rel r .self (.c c 0)) = some (r.holds (some (compare v c))) := by
  rw [rel_self_const rfl]; simp only [F.cmp, Int.pow_zero, Int.mul_one]

theorem lt_int_const (t : IntTy) (v c : Int) :
    Cond.eval (.int t v) (.rel .lt .self (.c c 0)) = some (decide (v < c)) :=
  (rel_int_const ..).trans (congrArg some (holds_compare ..))

theorem gt_int_const (t : IntTy) (v c : Int) :
    Cond.eval (.int t v) (.rel .gt .self (.c c 0)) = some (decide (v > c)) :=
  (rel_int_const ..).trans (congrArg some (holds_compare ..))

theorem runGuards_cons {e : Env} {s : Src} {g : Guard} {c : Bool} (gs : List Guard) (r : Res)
    (hc : g.cond.eval s = some c) :
    runGuards e s (g :: gs) r = if c then g.out.eval e s else runGuards e s gs r := by
  simp only [runGuards, hc, bind, Option.bind]

theorem Cond.eval_or {s : Src} {a b : Cond} {p q : Bool} (ha : a.eval s = some p) (hb : b.eval s = some q) :
    (Cond.or a b).eval s = some (p || q) := by
  cases p <;> simp [Cond.eval, ha, hb]

/-- `if math.IsNaN(x) { return …format error… }` in front of a result. -/
abbrev nanGuard : Guard := ⟨.isNaN, .fail .format⟩

theorem nanGuard_run {e : Env} {s : Src} {x : F} {r : Res} {α : Type} (f : α → Val) (y : α)
    (hx : num s = some x) (hr : r.eval e s = some (.ok (f y))) :
    runGuards e s [nanGuard] r =
      some (f <$> if x.isNaN then (.error .format : R α) else .ok y) := by
  rw [runGuards_cons (c := x.isNaN) _ _ (by simp only [Cond.eval, hx, Option.map])]
  cases x.isNaN
  · exact hr
  · rfl

/-- `if x > math.MaxInt64 { return …overflow… }` in front of an integer scrutinee returned as it is. -/
def gtMaxInt64 : Guard := ⟨.rel .gt .self (.c 9223372036854775807 0), .fail .overflow⟩

def int64Guards : IntTy → List Guard
  | .uint | .u64 => [gtMaxInt64]
  | _ => []

theorem int64Guards_run (e : Env) (t : IntTy) (v : Int) :
    runGuards e (.int t v) (int64Guards t) .self = some (Val.int <$> intToInt64 t v) := by
  have guarded : runGuards e (.int t v) [gtMaxInt64] .self =
      some (Val.int <$> if v > 9223372036854775807 then (.error .overflow : R Int) else .ok v) := by
    rw [runGuards_cons _ _ (gt_int_const ..)]
    by_cases h : v > 9223372036854775807
    · rw [if_pos h, if_pos (decide_eq_true h)]; rfl
    · rw [if_neg h, if_neg (by simpa using h)]; rfl
  cases t with
  | uint | u64 => exact guarded
  | _ => rfl

theorem call_run (f32 f64 : F → List Nat) (s : Src) {name : String} {f : Src → R Val} (h : fns name = some f) :
    runGuards (env f32 f64) s [] (.call name) = some (f s) := by
  simp only [runGuards, Res.eval, env, h, Option.map]

theorem two_pow_pos (k : Nat) : (0 : Int) < 2 ^ k := Int.pow_pos (by decide)

theorem lt_of_scaled {a t c : Int} {k : Nat} (h : t * 2 ^ k = a) : a < c * 2 ^ k ↔ t < c := by
  subst h; exact Int.mul_lt_mul_right (two_pow_pos k)

theorem le_of_scaled {a t c : Int} {k : Nat} (h : t * 2 ^ k = a) : c * 2 ^ k ≤ a ↔ c ≤ t := by
  subst h; exact Int.mul_le_mul_right (two_pow_pos k)

theorem floatToInt64_table (f32 f64 : F → List Nat) (s : Src) (x : F) (hs : s = .f32 x ∨ s = .f64 x) :
    runGuards (env f32 f64) s floatToInt64.guards floatToInt64.res = some (Val.int <$> Coerce.floatToInt64 x) := by
  have hn : num s = some x := by rcases hs with rfl | rfl <;> rfl
  have hr : Res.eval (env f32 f64) s .toI64 = some (.ok (.int (cvtI64 x))) := by rcases hs with rfl | rfl <;> rfl
  -- the first guard is `math.Trunc(x) != x`, the second `x < -1<<63 || x >= 1<<63`
  have whole : Cond.eval s (.rel .ne .trunc .self) = some (Rel.ne.holds (F.cmp (fTrunc x) x)) := by
    simp only [Cond.eval, Term.eval, hn, Option.map, bind, Option.bind, pure]
  rw [show Gen.CoerceDispatch.floatToInt64.guards = [⟨_, _⟩, ⟨_, _⟩] from rfl, runGuards_cons _ _ whole,
    runGuards_cons _ _ (Cond.eval_or (rel_self_const hn ..) (rel_self_const hn ..))]
  cases x with
  | nan => rfl
  | pinf => rfl
  | ninf => rfl
  | fin a k =>
    simp only [fTrunc, F.cmp, holds_compare, Int.pow_zero, Int.mul_one, Coerce.floatToInt64, isWhole]
    by_cases hw : F.truncInt a k * 2 ^ k = a
    · -- whole: `a = t·2^k`, so comparing `a` with `±2^63·2^k` is comparing `t` with `±2^63`
      have h63 : (2 : Int) ^ 63 = 9223372036854775808 := by decide
      simp only [ne_eq, hw, not_true_eq_false, decide_false, Bool.false_eq_true, ↓reduceIte, beq_self_eq_true, h63,
        lt_of_scaled hw, ge_iff_le, le_of_scaled hw, Bool.or_eq_true, decide_eq_true_eq]
      split
      · rfl
      · exact hr
    · simp only [ne_eq, hw, not_false_eq_true, decide_true, ↓reduceIte, beq_iff_eq]
      rfl

/-! ## the type switches

A table is read in two steps.  Which clause a Go type meets is a finite fact about the regenerated
table, settled by one evaluation per table (`T_clause`): it compares the table with a description
of the switch by source kind (`int64Switch`, …: guards and result, as the hand model has them).
What those guards and that result compute on a source of the kind is then a statement about the
interpreter alone, proved kind by kind from the guard lemmas above. -/

deriving instance DecidableEq for Term, Cond, Res, Guard

def clause (t : Table) (ty : String) : List Guard × Res × String :=
  match find ty t.branches with
  | some b => (b.guards, b.res, b.after)
  | none => (t.dflt.guards, t.dflt.res, t.dflt.after)

def andThen (after : String) (next : Val → Option (R Val)) (r : R Val) : Option (R Val) :=
  if after = "" then some r else
    match r with
    | .ok v => next v
    | .error err => some (.error err)

theorem Table.run_eq {t : Table} {ty : String} {s : Src} {g : List Guard} {r : Res} {a : String}
    (e : Env) (next : Val → Option (R Val)) (hty : ty ∈ goTypes s) (hc : clause t ty = (g, r, a)) :
    t.run e ty s next = (runGuards e s g r).bind (andThen a next) := by
  have run (b : Branch) (hb : (b.guards, b.res, b.after) = (g, r, a)) :
      b.run e s next = (runGuards e s g r).bind (andThen a next) := by
    cases hb; rfl
  unfold clause at hc
  cases s with
  | nilptr => cases hty
  | _ => unfold Table.run; cases hf : find ty t.branches <;> rw [hf] at hc <;> exact run _ hc

theorem Table.run_plain {t : Table} {ty : String} {s : Src} {g : List Guard} {r : Res}
    (e : Env) (next : Val → Option (R Val)) (hty : ty ∈ goTypes s) (hc : clause t ty = (g, r, "")) :
    t.run e ty s next = runGuards e s g r := by
  rw [Table.run_eq e next hty hc]
  cases runGuards e s g r <;> rfl

theorem Table.run_raw {t : Table} {ty text : String} {s : Src} {f : Src → R Val} (f32 f64 : F → List Nat)
    (next : Val → Option (R Val)) (hty : ty ∈ goTypes s) (hc : clause t ty = ([], .raw text, ""))
    (hr : raws text = some f) : t.run (env f32 f64) ty s next = some (f s) := by
  rw [Table.run_plain _ _ hty hc]
  simp only [runGuards, Res.eval, env, hr, Option.map]

/-- The source of the same kind with default contents: all a type switch can tell about a source. -/
def kindOf : Src → Src
  | .int t _ => .int t 0
  | .f32 _ => .f32 .nan
  | .f64 _ => .f64 .nan
  | .bool _ => .bool false
  | .str _ => .str default
  | .big _ => .big 0
  | .cplx _ _ _ => .cplx .nan .nan .nan
  | s => s

def intTys : List IntTy := [.i8, .i16, .i32, .i64, .int, .u8, .u16, .u32, .u64, .uint]

theorem mem_intTys (t : IntTy) : t ∈ intTys := by cases t <;> decide

def kinds : List Src :=
  intTys.map (Src.int · 0) ++ [.f32 .nan, .f64 .nan, .bool false, .str default, .big 0, .cplx .nan .nan .nan, .other]

theorem kindOf_mem {s : Src} {ty : String} (hty : ty ∈ goTypes s) : kindOf s ∈ kinds ∧ ty ∈ goTypes (kindOf s) := by
  refine ⟨?_, by cases s <;> exact hty⟩
  cases s with
  | int t v => exact List.mem_append_left _ (List.mem_map_of_mem (mem_intTys t))
  | nilptr => cases hty
  | _ => exact List.mem_append_right _ (by simp [kindOf])

/-- A statement about a source and one of its Go types that does not look into the source need
    only be checked on `kinds`. -/
theorem of_kinds {P : Src → String → Prop} {s : Src} {ty : String} (hty : ty ∈ goTypes s)
    (h : ∀ k ∈ kinds, ∀ ty ∈ goTypes k, P k ty) (hP : ∀ s ty, P (kindOf s) ty → P s ty) : P s ty :=
  hP s ty (h _ (kindOf_mem hty).1 ty (kindOf_mem hty).2)

/-- The default clause of the switches: `return …, NewUnsupportedError(…)`. -/
abbrev unsupported : List Guard × Res := ([], .fail .unsupported)

def int64Switch : Src → List Guard × Res
  | .int t _ => (int64Guards t, .self)
  | .f32 _ | .f64 _ => ([], .call "floatToInt64")
  | .str _ => ([], .call "stringToInt64")
  | .bool _ => ([], .ifTrue 1 0)
  | _ => unsupported

theorem ToInt64_clause {s : Src} {ty : String} (hty : ty ∈ goTypes s) :
    clause ToInt64 ty = ((int64Switch s).1, (int64Switch s).2, "") :=
  of_kinds (P := fun s ty => clause ToInt64 ty = ((int64Switch s).1, (int64Switch s).2, ""))
    hty (by decide +kernel) fun s _ => by cases s <;> exact id

theorem ToInt64_table (f32 f64 : F → List Nat) (s : Src) (ty : String) (hty : ty ∈ goTypes s) :
    ToInt64.run (env f32 f64) ty s noNext = some (Val.int <$> Coerce.toInt64 s) := by
  rw [Table.run_plain _ _ hty (ToInt64_clause hty)]
  cases s with
  | int t v => exact int64Guards_run _ t v
  | f32 x => exact call_run f32 f64 _ fns1
  | f64 x => exact call_run f32 f64 _ fns1
  | str i => exact call_run f32 f64 _ fns2
  | nilptr => cases hty
  | _ => rfl

/-- None for the complex types, which have a text of their own each. -/
def float64Switch : Src → Option (List Guard × Res)
  | .f64 _ | .f32 _ => some ([nanGuard], .self)
  | .int _ _ => some ([], .toF 53)
  | .big _ => some ([], .call "bigIntToFloat64")
  | .str _ => some ([], .call "stringToFloat64")
  | .bool _ => some ([], .ifTrueF 1 0)
  | .cplx _ _ _ => none
  | _ => some unsupported

theorem ToFloat64_clause {s : Src} {ty : String} {c : List Guard × Res} (hty : ty ∈ goTypes s)
    (hc : c ∈ float64Switch s) : clause ToFloat64 ty = (c.1, c.2, "") :=
  of_kinds (P := fun s ty => ∀ c ∈ float64Switch s, clause ToFloat64 ty = (c.1, c.2, ""))
    hty (by decide +kernel) (fun s _ => by cases s <;> exact id) c hc

theorem ToFloat64_table (f32 f64 : F → List Nat) (s : Src) (ty : String) (hty : ty ∈ goTypes s) :
    ToFloat64.run (env f32 f64) ty s noNext = some (Val.flt <$> Coerce.toFloat64 s) := by
  cases s with
  | f32 x => rw [Table.run_plain _ _ hty (ToFloat64_clause hty rfl)]; exact nanGuard_run Val.flt _ rfl rfl
  | f64 x => rw [Table.run_plain _ _ hty (ToFloat64_clause hty rfl)]; exact nanGuard_run Val.flt _ rfl rfl
  | str i => rw [Table.run_plain _ _ hty (ToFloat64_clause hty rfl)]; exact call_run f32 f64 _ fns4
  | big v =>
    rw [Table.run_plain _ _ hty (ToFloat64_clause hty rfl), C17.toFloat64_big, ← fBigToF64]
    exact call_run f32 f64 _ fns7
  | cplx re im mag =>
    rcases List.mem_cons.mp hty with rfl | hty'
    · exact Table.run_raw f32 f64 _ hty rfl raws1
    · obtain rfl := List.mem_singleton.mp hty'
      exact Table.run_raw f32 f64 _ hty rfl raws2
  | nilptr => cases hty
  | _ => rw [Table.run_plain _ _ hty (ToFloat64_clause hty rfl)]; rfl

def boolSwitch : Src → List Guard × Res
  | .bool _ => ([], .self)
  | .str _ => ([], .call "stringToBool")
  | .int _ _ => ([], .ne0)
  | .f32 _ | .f64 _ => ([nanGuard], .ne0)
  | _ => unsupported

theorem ToBool_clause {s : Src} {ty : String} (hty : ty ∈ goTypes s) :
    clause Gen.CoerceDispatch.ToBool ty = ((boolSwitch s).1, (boolSwitch s).2, "") :=
  of_kinds (P := fun s ty => clause Gen.CoerceDispatch.ToBool ty = ((boolSwitch s).1, (boolSwitch s).2, ""))
    hty (by decide +kernel) fun s _ => by cases s <;> exact id

theorem ToBool_table (f32 f64 : F → List Nat) (s : Src) (ty : String) (hty : ty ∈ goTypes s) :
    Gen.CoerceDispatch.ToBool.run (env f32 f64) ty s noNext = some (Val.bool <$> Coerce.toBool s) := by
  rw [Table.run_plain _ _ hty (ToBool_clause hty)]
  cases s with
  | f32 x => exact nanGuard_run Val.bool _ rfl rfl
  | f64 x => exact nanGuard_run Val.bool _ rfl rfl
  | str i =>
    refine (call_run f32 f64 _ fns3).trans ?_
    simp only [fStringToBool, Coerce.toBool]
    cases boolTable i.norm <;> rfl
  | nilptr => cases hty
  | _ => rfl

/-- How `ToString` formats an integer: `int` by `strconv.Itoa`, the other types by `FormatInt` /
    `FormatUint` in base 10. -/
def intFmt : IntTy → Res
  | .int => .fmt "strconv.Itoa" []
  | t => .fmt (if t.signed then "strconv.FormatInt" else "strconv.FormatUint") [10]

def stringSwitch : Src → Option (List Guard × Res)
  | .str _ => some ([], .self)
  | .bool _ => some ([], .fmt "strconv.FormatBool" [])
  | .int t _ => some ([], intFmt t)
  | .f32 _ => some ([], .fmt "strconv.FormatFloat" [103, -1, 32])
  | .f64 _ => some ([], .fmt "strconv.FormatFloat" [103, -1, 64])
  | .big _ => some ([], .fmt "x.String" [])
  | .cplx _ _ _ => none
  | _ => some unsupported

theorem ToString_clause {s : Src} {ty : String} {c : List Guard × Res} (hty : ty ∈ goTypes s)
    (hc : c ∈ stringSwitch s) : clause Gen.CoerceDispatch.ToString ty = (c.1, c.2, "") :=
  of_kinds (P := fun s ty => ∀ c ∈ stringSwitch s, clause Gen.CoerceDispatch.ToString ty = (c.1, c.2, ""))
    hty (by decide +kernel) (fun s _ => by cases s <;> exact id) c hc

/-- Complex sources are excluded: the code renders them with `%g`, the model does not model
    complex → string (declared outside the property's sources). -/
theorem ToString_table (f32 f64 : F → List Nat) (s : Src) (ty : String) (hty : ty ∈ goTypes s)
    (hc : ∀ re im mag, s ≠ .cplx re im mag) :
    Gen.CoerceDispatch.ToString.run (env f32 f64) ty s noNext = some (Val.str <$> Coerce.toStr f32 f64 s) := by
  cases s with
  | int t v => rw [Table.run_plain _ _ hty (ToString_clause hty rfl)]; cases t <;> rfl
  | cplx re im mag => exact absurd rfl (hc re im mag)
  | nilptr => cases hty
  | _ => rw [Table.run_plain _ _ hty (ToString_clause hty rfl)]; rfl

/-- `if float64(int64(x)) != x { return …not whole… }`, then `int64(x)` (`p` = 24 for a float32 `x`). -/
def backGuard (p : Nat) : Guard := ⟨.rel .ne (.back p) .self, .fail .notWhole⟩

theorem backGuard_run (e : Env) (p : Nat) {s : Src} {x : F} (hs : s = .f32 x ∨ s = .f64 x) :
    runGuards e s [backGuard p] .toI64 = some (Val.int <$> floatToBig (backInt p) x) := by
  have hc : (backGuard p).cond.eval s = some (Rel.ne.holds (F.cmp (.fin (backInt p (cvtI64 x)) 0) x)) := by
    rcases hs with rfl | rfl <;> rfl
  rw [runGuards_cons _ _ hc, floatToBig]
  rcases hs with rfl | rfl <;> cases F.cmp (.fin (backInt p (cvtI64 x)) 0) x with
    | none => rfl
    | some o => cases o <;> rfl

/-- `ToBigInt`, by source kind (a `big.Int` value has no clause: only `*big.Int` has). -/
def bigIntSwitch : Src → List Guard × Res
  | .int _ _ => ([], .self)
  | .f32 _ => ([backGuard 24], .toI64)
  | .f64 _ => ([backGuard 53], .toI64)
  | .str _ => ([], .call "stringToBigInt")
  | .bool _ => ([], .ifTrue 1 0)
  | _ => unsupported

theorem ToBigInt_clause {s : Src} {ty : String} (hty : ty ∈ goTypes s) :
    clause Gen.CoerceDispatch.ToBigInt ty = ((bigIntSwitch s).1, (bigIntSwitch s).2, "") :=
  of_kinds (P := fun s ty => clause Gen.CoerceDispatch.ToBigInt ty = ((bigIntSwitch s).1, (bigIntSwitch s).2, ""))
    hty (by decide +kernel) fun s _ => by cases s <;> exact id

theorem ToBigInt_table (f32 f64 : F → List Nat) (s : Src) (ty : String) (hty : ty ∈ goTypes s) :
    Gen.CoerceDispatch.ToBigInt.run (env f32 f64) ty s noNext = some (Val.int <$> Coerce.toBigInt s) := by
  rw [Table.run_plain _ _ hty (ToBigInt_clause hty)]
  cases s with
  | f32 x => exact backGuard_run _ 24 (.inl rfl)
  | f64 x => exact backGuard_run _ 53 (.inr rfl)
  | str i => exact call_run f32 f64 _ fns6
  | nilptr => cases hty
  | _ => rfl

/-- The bounds clause of a target type, run on the int64 intermediate (a type without a
    clause — `int64` — is unchecked). -/
def boundsRun (t : IntTy) (v : Int) : Option (R Int) :=
  match findBounds (IntTy.goName t) checkIntegerTypeBounds with
  | some b => b.run v
  | none => some (.ok v)

/-- `if v < 0 { return …negative… }`. -/
def negGuard : Guard := ⟨.rel .lt .self (.c 0 0), .fail .negative⟩

/-- The guards of `checkIntegerTypeBounds` as `checkBounds` has them; on amd64 no `uint64` upper test, an
    int64 cannot exceed it. -/
def boundsGuards : IntTy → List Guard
  | .i64 => []
  | .u64 => [negGuard]
  | t =>
    if t.signed then [⟨.or (.rel .lt .self (.c t.lo 0)) (.rel .gt .self (.c t.hi 0)), .fail .overflow⟩]
    else [negGuard, ⟨.rel .gt .self (.c t.hi 0), .fail .overflow⟩]

theorem bounds_clauses : ∀ t ∈ intTys,
    ((findBounds (IntTy.goName t) checkIntegerTypeBounds).map (·.guards)).getD [] = boundsGuards t := by
  decide +kernel

theorem Bounds.run_cons {ty : String} {g : Guard} {c : Bool} {err : CErr} (gs : List Guard) (v : Int)
    (hc : g.cond.eval (.int .i64 v) = some c) (ho : g.out = .fail err) :
    Bounds.run ⟨ty, g :: gs⟩ v = if c then some (.error err) else Bounds.run ⟨ty, gs⟩ v := by
  unfold Bounds.run
  rw [runGuards_cons _ _ hc, ho]
  cases c <;> rfl

theorem signedBounds_run (ty : String) (lo hi v : Int) :
    Bounds.run ⟨ty, [⟨.or (.rel .lt .self (.c lo 0)) (.rel .gt .self (.c hi 0)), .fail .overflow⟩]⟩ v =
      some (if v < lo ∨ v > hi then .error .overflow else .ok v) := by
  rw [Bounds.run_cons _ _ (Cond.eval_or (lt_int_const ..) (gt_int_const ..)) rfl]
  by_cases h : v < lo ∨ v > hi
  · rw [if_pos h, if_pos (by simpa using h)]
  · rw [if_neg h, if_neg (by simpa using h)]; rfl

theorem unsignedBounds_run (ty : String) (hi v : Int) :
    Bounds.run ⟨ty, [negGuard, ⟨.rel .gt .self (.c hi 0), .fail .overflow⟩]⟩ v =
      some (if v < 0 then .error .negative else if v > hi then .error .overflow else .ok v) := by
  rw [Bounds.run_cons _ _ (lt_int_const ..) rfl, Bounds.run_cons _ _ (gt_int_const ..) rfl]
  simp only [decide_eq_true_eq]
  split
  · rfl
  · split <;> rfl

/-- The range constants. The guards regenerated from `checkIntegerTypeBounds` (with
    `math.MinInt8` … `^uint(0)` evaluated by go/constant) are the model's `checkBounds`, for every
    target type and every int64 value.  `hv` is needed for `uint64` only: Go tests the sign alone there, the model's
    `checkBounds` also `v > 2^64 − 1`, which no int64 meets; `c17_integer_sound_table` discharges it. -/
theorem bounds_table (t : IntTy) (v : Int) (hv : v ≤ 2 ^ 64 - 1) :
    boundsRun t v = some (checkBounds t v) := by
  have run : boundsRun t v = Bounds.run ⟨"", boundsGuards t⟩ v := by
    rw [← bounds_clauses t (mem_intTys t), boundsRun]
    cases findBounds (IntTy.goName t) checkIntegerTypeBounds <;> rfl
  rw [run]
  cases t with
  | i64 => rfl
  | i8 | i16 | i32 | int => exact signedBounds_run ..
  | u8 | u16 | u32 | uint => exact unsignedBounds_run ..
  | u64 =>
    have hhi : ¬ v > IntTy.u64.hi := Int.not_lt.mpr hv
    rw [boundsGuards, Bounds.run_cons _ _ (lt_int_const ..) rfl, checkBounds, if_neg hhi]
    simp only [decide_eq_true_eq]
    split <;> rfl

def boundsNext (t : IntTy) : Val → Option (R Val)
  | .int n => (boundsRun t n).map (fun r => Val.int <$> r)
  | _ => none

theorem after_bounds (t : IntTy) (r : R Int) (hr : ∀ n, r = .ok n → n ≤ 2 ^ 64 - 1) :
    (match (Val.int <$> r : R Val) with
      | .ok v => boundsNext t v
      | .error e => some (.error e)) = some (Val.int <$> (r >>= checkBounds t)) := by
  cases r with
  | error e => rfl
  | ok n =>
    simp only [Functor.map, Except.map, boundsNext, bounds_table t n (hr n rfl), Option.map, bind, Except.bind]

/-- `ToInteger` has the clauses of `ToInt64`; those for numbers and text go on to `checkIntegerTypeBounds`. -/
def integerAfter : Src → String
  | .int _ _ | .f32 _ | .f64 _ | .str _ => "checkIntegerTypeBounds"
  | _ => ""

theorem ToInteger_clause {s : Src} {ty : String} (hty : ty ∈ goTypes s) :
    clause ToInteger ty = ((int64Switch s).1, (int64Switch s).2, integerAfter s) :=
  of_kinds (P := fun s ty => clause ToInteger ty = ((int64Switch s).1, (int64Switch s).2, integerAfter s))
    hty (by decide +kernel) fun s _ => by cases s <;> exact id

theorem ToInteger_table (f32 f64 : F → List Nat) (t : IntTy) (s : Src) (ty : String) (hty : ty ∈ goTypes s)
    (hn : ∀ n, Coerce.toInt64 s = .ok n → n ≤ 2 ^ 64 - 1) :
    ToInteger.run (env f32 f64) ty s (boundsNext t) = some (Val.int <$> Coerce.toInteger t s) := by
  have h64 := ToInt64_table f32 f64 s ty hty
  rw [Table.run_plain _ _ hty (ToInt64_clause hty)] at h64
  rw [Table.run_eq _ _ hty (ToInteger_clause hty), h64]
  cases s with
  | int t' v => exact after_bounds t _ hn
  | f32 x => exact after_bounds t _ hn
  | f64 x => exact after_bounds t _ hn
  | str i => exact after_bounds t _ hn
  | _ => rfl

/-- What follows `toFloat32`'s switch: `fval, err := ToFloat64(d)`, then the guards over `fval` and the narrowing. -/
def f32Tail (e : Env) (ty : String) (s : Src) : Option (R Val) :=
  match Gen.CoerceDispatch.ToFloat64.run e ty s noNext with
  | some (.ok (.flt f)) => runGuards e (.f64 f) toFloat32_tail.guards toFloat32_tail.res
  | some (.error err) => some (.error err)
  | _ => none

theorem f32_tail (f32 f64 : F → List Nat) (f : F) :
    runGuards (env f32 f64) (.f64 f) toFloat32_tail.guards toFloat32_tail.res =
      some (Val.flt <$> (if absGtMaxF32 f then (.error .overflow : R F) else .ok (roundF32 f))) := by
  -- the regenerated constant is `math.MaxFloat32` = `maxF32`
  have hc : Cond.eval (.f64 f) (.rel .gt .abs (.c 340282346638528859811704183484516925440 0)) =
      some (absGtMaxF32 f) := by
    cases f with
    | fin a k => exact congrArg some ((holds_compare ..).trans (by simp only [Int.pow_zero, Int.mul_one]; rfl))
    | _ => rfl
  rw [show toFloat32_tail.guards = [⟨_, _⟩] from rfl, runGuards_cons _ _ hc]
  cases absGtMaxF32 f <;> rfl

/-- `toFloat32`'s own clauses: none for text and big integers, which have a raw text each (`raws3`, `raws4`). -/
def float32Switch : Src → Option (List Guard × Res × String)
  | .int _ _ => some ([], .toF 24, "")
  | .str _ | .big _ => none
  | _ => some ([], .fall, "ToFloat64+narrow")

theorem toFloat32_clause {s : Src} {ty : String} {c : List Guard × Res × String} (hty : ty ∈ goTypes s)
    (hc : c ∈ float32Switch s) : clause Gen.CoerceDispatch.toFloat32 ty = c :=
  of_kinds (P := fun s ty => ∀ c ∈ float32Switch s, clause Gen.CoerceDispatch.toFloat32 ty = c)
    hty (by decide +kernel) (fun s _ => by cases s <;> exact id) c hc

theorem toFloat32_table (f32 f64 : F → List Nat) (s : Src) (ty : String) (hty : ty ∈ goTypes s)
    (hs : ∀ x, s ≠ .f32 x) :
    Gen.CoerceDispatch.toFloat32.run (env f32 f64) ty s (fun _ => f32Tail (env f32 f64) ty s) =
      some (Val.flt <$> Coerce.toFloat32 s) := by
  cases s with
  | int t v => rw [Table.run_plain _ _ hty (toFloat32_clause hty rfl)]; rfl
  | f32 x => exact absurd rfl (hs x)
  | str i =>
    obtain rfl := List.mem_singleton.mp hty
    exact Table.run_raw f32 f64 _ hty rfl raws3
  | big v =>
    obtain rfl := List.mem_singleton.mp hty
    rw [Table.run_raw f32 f64 _ hty rfl raws4, fBigToF32, C17.toFloat32_big]
  | nilptr => cases hty
  | _ =>
    -- no clause of its own: `ToFloat64` (its table), the `MaxFloat32` guard, the narrowing
    rw [Table.run_eq _ _ hty (toFloat32_clause hty rfl)]
    show f32Tail (env f32 f64) ty _ = some (Val.flt <$> (Coerce.toFloat64 _ >>= C17.narrow32))
    rw [f32Tail, ToFloat64_table f32 f64 _ ty hty]
    cases Coerce.toFloat64 _ with
    | error e => rfl
    | ok f => exact f32_tail f32 f64 f

/- `fns` gives the helper NAMES their model functions; the four theorems below say that the regenerated helper BODIES
   compute them. -/
theorem stringToInt64_table (f32 f64 : F → List Nat) (i : StrInfo) :
    runGuards (env f32 f64) (.str i) Gen.CoerceDispatch.stringToInt64.guards Gen.CoerceDispatch.stringToInt64.res =
      some (Val.int <$> Coerce.stringToInt64 i) := by
  cases hb : i.blank <;> cases hp : i.pInt <;>
    simp [Gen.CoerceDispatch.stringToInt64, runGuards, Cond.eval, Res.eval, libCall, Coerce.stringToInt64, Functor.map,
      Except.map, hb, hp]

theorem stringToFloat_table (f32 f64 : F → List Nat) (i : StrInfo) :
    runGuards (env f32 f64) (.str i) stringToFloat_64.guards stringToFloat_64.res =
      some (Val.flt <$> Coerce.stringToFloat i.blank i.pFloat) ∧
    runGuards (env f32 f64) (.str i) stringToFloat_32.guards stringToFloat_32.res =
      some (Val.flt <$> Coerce.stringToFloat i.blank i.pFloat32) := by
  constructor <;> cases hb : i.blank <;>
    simp [stringToFloat_64, stringToFloat_32, runGuards, Cond.eval, Res.eval, libCall, Functor.map, Except.map,
      Coerce.stringToFloat, hb]

theorem stringToFloat64_table (f32 f64 : F → List Nat) (i : StrInfo) :
    runGuards (env f32 f64) (.str i) Gen.CoerceDispatch.stringToFloat64.guards Gen.CoerceDispatch.stringToFloat64.res =
      some (Val.flt <$> Coerce.stringToFloat64 i) := by
  simp [Gen.CoerceDispatch.stringToFloat64, runGuards, Res.eval, env, fns5, fStringToFloat64]

theorem bigIntToFloat64_table (f32 f64 : F → List Nat) (v : Int) :
    runGuards (env f32 f64) (.big v) Gen.CoerceDispatch.bigIntToFloat64.guards Gen.CoerceDispatch.bigIntToFloat64.res =
      some (Val.flt <$> finOrOverflow (bigToF64 v)) := by
  simp [Gen.CoerceDispatch.bigIntToFloat64, runGuards, Cond.eval, Res.eval, env, raws5, fBigToF64]

/-- The calls the three string helpers make on the text, in order, with their arguments (base 10 and 64 bits for
    `ParseInt`; base 10, then base 16 on `trimmed[2:]` behind the prefix test, for `SetString`). -/
theorem string_calls :
    stringToInt64_calls = ["strings.TrimSpace(s)", "strconv.ParseInt(trimmed, 10, 64)"] ∧
    stringToFloat_calls = ["strings.TrimSpace(s)", "strconv.ParseFloat(trimmed, bitSize)", "math.IsNaN(f)"] ∧
    stringToBigInt_calls = ["strings.TrimSpace(s)", "big.NewInt(0)", "n.SetString(trimmed, 10)",
      "strings.HasPrefix(trimmed, \"0x\")", "strings.HasPrefix(trimmed, \"0X\")", "n.SetString(trimmed[2:], 16)"] :=
  ⟨rfl, rfl, rfl⟩

def Tgt.goName : Tgt → String
  | .int t => IntTy.goName t
  | .f32 => "float32" | .f64 => "float64" | .bool => "bool" | .str => "string" | .big => "*big.Int"

def Tgt.helper : Tgt → String
  | .int .i64 => "ToInt64"
  | .int t => "ToInteger[" ++ IntTy.goName t ++ "]"
  | .f32 => "ToFloat[float32]" | .f64 => "ToFloat64" | .bool => "ToBool" | .str => "ToString" | .big => "ToBigInt"

theorem To_routes (t : Tgt) : findRoute (Tgt.goName t) Gen.CoerceDispatch.To = some (Tgt.helper t) := by
  have all : ∀ t ∈ intTys.map Tgt.int ++ [.f32, .f64, .bool, .str, .big],
      findRoute (Tgt.goName t) Gen.CoerceDispatch.To = some (Tgt.helper t) := by decide +kernel
  cases t with
  | int ty => exact all _ (List.mem_append_left _ (List.mem_map_of_mem (mem_intTys ty)))
  | _ => exact all _ (List.mem_append_right _ (by decide))

/-- The integer schemas coerce through `ToInteger[T]` of their own element type (`ToInteger[int64]` is `ToInt64`:
    `c17_integer_i64_eq`), the float schemas through `ToFloat[float32]` / `ToFloat[float64]`. -/
theorem schema_routes :
    (∀ ty : IntTy, findRoute (IntTy.goName ty) integerCoerce = some ("coerce.ToInteger[" ++ IntTy.goName ty ++ "]")) ∧
    findRoute "float32" floatCoerce = some "coerce.ToFloat[float32]" ∧
    findRoute "default" floatCoerce = some "coerce.ToFloat[float64]" := by
  have ints : ∀ ty ∈ intTys,
      findRoute (IntTy.goName ty) integerCoerce = some ("coerce.ToInteger[" ++ IntTy.goName ty ++ "]") := by
    decide +kernel
  exact ⟨fun ty => ints ty (mem_intTys ty), by decide +kernel⟩

/-- The coercion branch of `parsePrimitiveValue`: under `internals.Coerce`, `coerce.To[T]` on the INPUT UNCHANGED
    (`.param 0`), and on `err == nil` the coerced `v` goes to `validateWithChecks` — literally the call the `input.(T)`
    branch makes.  That is `CoerceSchema.parseValue`'s `| .ok v => Prim.checked … false v`. -/
theorem parsePrimitiveValue_coerce_table :
    parsePrimitiveValue_coerce = { guard := "internals.Coerce", helper := "coerce.To[T]", args := [.param 0], bound := "v", success := "err == nil", validate := "validateWithChecks", validateArgs := ["v", "internals.Checks", "validator", "ctx"] } ∧
    parsePrimitiveValue_steps.head? = some ("v, ok := input.(T); ok",
      "return " ++ parsePrimitiveValue_coerce.validate ++ "(" ++ ", ".intercalate parsePrimitiveValue_coerce.validateArgs ++ ")") :=
  ⟨rfl, by decide +kernel⟩

/-- The order of `parsePrimitiveValue`'s tests is the order of `CoerceSchema.parseValue`'s branches: coercion is
    attempted only after every exact type match failed, and nothing but the invalid-type issue follows it. -/
theorem parsePrimitiveValue_order :
    parsePrimitiveValue_steps.map Prod.fst =
      ["v, ok := input.(T); ok", "p, ok := input.(*T); ok", "input == nil", "", "nilPtr", "v, ok := deref.(T); ok",
       "internals.Coerce", "", "", ""] ∧
    parsePrimitiveValue_steps.lookup "p, ok := input.(*T); ok" =
      some "if p == nil { return handleNilPointer[T](internals, expectedType, ctx) }; return validatePointer(*p, p, internals.Checks, validator, ctx)" ∧
    parsePrimitiveValue_steps.lookup "v, ok := deref.(T); ok" = some "return validateWithChecks(v, internals.Checks, validator, ctx)" ∧
    parsePrimitiveValue_steps.lookup "nilPtr" = some "return handleNilPointer[T](internals, expectedType, ctx)" ∧
    (parsePrimitiveValue_steps.drop 7).map Prod.snd =
      ["raw := issues.CreateInvalidTypeIssue(expectedType, input)", "raw.Inst = internals",
       "return nil, issues.NewZodError([]core.ZodIssue{issues.FinalizeIssue(raw, ctx, nil)})"] :=
  ⟨rfl, rfl, rfl, rfl, rfl⟩

def Tgt.recv : Tgt → String
  | .int _ => "ZodIntegerTyped" | .f32 | .f64 => "ZodFloatTyped" | .bool => "ZodBool" | .str => "ZodString" | .big => "ZodBigInt"

def findParse (recv : String) : List ParseRoute → Option ParseRoute
  | [] => none
  | r :: rs => if r.recv = recv then some r else findParse recv rs

/-- The `Parse` method of the schema type serving target `t` calls `engine.ParsePrimitive` on its input unchanged
    with the validator `engine.ApplyChecks[T]`, `T` the target's Go type (the generic `T` of the integer / float
    schemas ranges over the element types).  Bool, String and BigInt schemas have no `Coerce`-method switch. -/
theorem schema_parse_routes (t : Tgt) :
    ∃ r, findParse (Tgt.recv t) primitiveParse = some r ∧ r.entry = "engine.ParsePrimitive" ∧ r.input = .param 0 ∧
      r.validator = "engine.ApplyChecks[" ++ r.base ++ "]" ∧ (r.base = "T" ∨ r.base = Tgt.goName t) ∧
      (r.pre = "" ∨ t = .big) ∧
      findRoute (Tgt.goName t) Gen.CoerceDispatch.To = some (Tgt.helper t) := by
  cases t with
  | int ty => exact ⟨_, rfl, rfl, rfl, rfl, Or.inl rfl, Or.inl rfl, To_routes _⟩
  | f32 => exact ⟨_, rfl, rfl, rfl, rfl, Or.inl rfl, Or.inl rfl, To_routes _⟩
  | f64 => exact ⟨_, rfl, rfl, rfl, rfl, Or.inl rfl, Or.inl rfl, To_routes _⟩
  | bool => exact ⟨_, rfl, rfl, rfl, rfl, Or.inr rfl, Or.inl rfl, To_routes _⟩
  | str => exact ⟨_, rfl, rfl, rfl, rfl, Or.inr rfl, Or.inl rfl, To_routes _⟩
  | big => exact ⟨_, rfl, rfl, rfl, rfl, Or.inr rfl, Or.inr rfl, To_routes _⟩

/-- What `ZodBigInt.Parse` does before the engine call: only the nil-input guard (C03's business). -/
theorem bigint_parse_pre :
    (findParse "ZodBigInt" primitiveParse).map (·.pre) =
      some "if isNilBigIntInput(input) { r, sub, done, err := z.parseNilInput(ctx...) if done { return r, err } input = sub }" :=
  rfl

/-- The truthy table is the one in the source: `stringToBool` trims, lowers, and its switch
    holds exactly the words of `boolTable`. -/
theorem bool_words (w : String) : boolTable w = boolWords.lookup w := by
  unfold boolTable
  -- eleven words, then the fall-through arm `h_12`, which carries `w ≠ "true"`, …, `w ≠ ""`
  split
  case h_12 h1 h2 h3 h4 h5 h6 h7 h8 h9 h10 h11 =>
    simp only [boolWords, List.lookup]
    rw [beq_eq_false_iff_ne.mpr h1, beq_eq_false_iff_ne.mpr h2, beq_eq_false_iff_ne.mpr h3, beq_eq_false_iff_ne.mpr h4,
      beq_eq_false_iff_ne.mpr h5, beq_eq_false_iff_ne.mpr h6, beq_eq_false_iff_ne.mpr h7, beq_eq_false_iff_ne.mpr h8,
      beq_eq_false_iff_ne.mpr h9, beq_eq_false_iff_ne.mpr h10, beq_eq_false_iff_ne.mpr h11]
  all_goals decide

theorem bool_pre : boolPre = ["s = strings.TrimSpace(s)", "switch strings.ToLower(s)"] := rfl

/-! The text of each function outside its type switch, the whole of `ToFloat[T]` and of the three string helpers, as
the hand model was transcribed from. -/

theorem frames :
    Gen.CoerceDispatch.ToBool_frame =
      "d, ok := reflectx.Deref(v); if !ok { return false, NewNilPointerError(\"bool\") }; «switch x := d.(type)»" ∧
    Gen.CoerceDispatch.ToString_frame =
      "d, ok := reflectx.Deref(v); if !ok { return \"\", NewNilPointerError(\"string\") }; «switch x := d.(type)»" ∧
    Gen.CoerceDispatch.ToInt64_frame =
      "d, ok := reflectx.Deref(v); if !ok { return 0, NewNilPointerError(\"int64\") }; «switch x := d.(type)»" ∧
    Gen.CoerceDispatch.ToFloat64_frame =
      "d, ok := reflectx.Deref(v); if !ok { return 0, NewNilPointerError(\"float64\") }; «switch x := d.(type)»" ∧
    Gen.CoerceDispatch.ToBigInt_frame =
      "d, ok := reflectx.Deref(v); if !ok { return nil, NewNilPointerError(\"*big.Int\") }; «switch x := d.(type)»" ∧
    Gen.CoerceDispatch.ToInteger_frame =
      "var zero T; d, ok := reflectx.Deref(v); if !ok { return zero, NewNilPointerError(\"integer type\") }; var val int64; var err error; «switch x := d.(type)»; if err := checkIntegerTypeBounds(val, zero); err != nil { return zero, err }; return T(val), nil" ∧
    Gen.CoerceDispatch.toFloat32_frame =
      "«switch x := d.(type)»; fval, err := ToFloat64(d); if err != nil { return 0, err }; if math.Abs(fval) > math.MaxFloat32 { return 0, NewOverflowError(fval, \"float32\") }; return float32(fval), nil" ∧
    Gen.CoerceDispatch.stringToInt64_text =
      "trimmed := strings.TrimSpace(s); if trimmed == \"\" { return 0, nil }; i, err := strconv.ParseInt(trimmed, 10, 64); if err != nil { return 0, NewFormatError(s, \"int64\") }; return i, nil" ∧
    Gen.CoerceDispatch.stringToFloat_text =
      "trimmed := strings.TrimSpace(s); if trimmed == \"\" { return 0, nil }; f, err := strconv.ParseFloat(trimmed, bitSize); if err != nil || math.IsNaN(f) { return 0, NewFormatError(s, fmt.Sprintf(\"float%d\", bitSize)) }; return f, nil" ∧
    Gen.CoerceDispatch.stringToBigInt_text =
      "trimmed := strings.TrimSpace(s); if trimmed == \"\" { return big.NewInt(0), nil }; n := new(big.Int); if _, ok := n.SetString(trimmed, 10); ok { return n, nil }; if strings.HasPrefix(trimmed, \"0x\") || strings.HasPrefix(trimmed, \"0X\") { if _, ok := n.SetString(trimmed[2:], 16); ok { return n, nil } }; return nil, NewFormatError(s, \"big integer\")" ∧
    Gen.CoerceDispatch.ToFloat_text =
      "var zero T; d, ok := reflectx.Deref(v); if !ok { return zero, NewNilPointerError(fmt.Sprintf(\"%T\", zero)) }; if result, ok := d.(T); ok { if math.IsNaN(float64(result)) { return zero, NewFormatError(\"NaN\", fmt.Sprintf(\"%T\", zero)) } return result, nil }; if _, ok := any(zero).(float32); ok { f, err := toFloat32(d) if err != nil { return zero, err } return T(f), nil }; fval, err := ToFloat64(d); if err != nil { return zero, err }; return T(fval), nil" := by
  refine ⟨rfl, rfl, rfl, rfl, rfl, rfl, rfl, rfl, rfl, rfl, rfl⟩

/-- Every function starts by dereferencing and answers a nil pointer with the nil-pointer error
    (`toFloat32` is entered after `ToFloat[T]` has done so). -/
theorem deref_first :
    Gen.CoerceDispatch.ToBool.deref = true ∧ Gen.CoerceDispatch.ToString.deref = true ∧ ToInt64.deref = true ∧
    ToFloat64.deref = true ∧ ToBigInt.deref = true ∧ ToInteger.deref = true ∧ Gen.CoerceDispatch.toFloat32.deref = false := by
  decide

theorem nil_table (e : Env) (t : Table) (ty : String) (next : Val → Option (R Val)) (h : t.deref = true) :
    t.run e ty .nilptr next = some (.error .nilPtr) := by
  simp [Table.run, h]

def modelled : List String :=
  ["int", "int8", "int16", "int32", "int64", "uint", "uint8", "uint16", "uint32", "uint64", "float32", "float64",
   "bool", "string", "big.Int", "complex64", "complex128"]

/-- Go types that occur in the switches and are declared outside the property's sources: `[]byte` and `time.Time`
    (→ string only), and `*big.Int` (reached only by a `big.Int` input: `reflectx.Deref` strips one pointer level). -/
def outside : List String := ["[]byte", "time.Time", "*big.Int"]

def allTables : List Table :=
  [Gen.CoerceDispatch.ToBool, Gen.CoerceDispatch.ToString, ToInt64, ToFloat64, ToBigInt, ToInteger, Gen.CoerceDispatch.toFloat32]

/-- No clause of any switch names a type the model does not know about. A new source type in
    `pkg/coerce` (say `json.Number`) makes this fail, naming the table. -/
theorem case_types_known :
    ∀ t ∈ allTables, ∀ b ∈ t.branches, ∀ ty ∈ b.types, ty ∈ modelled ∨ ty ∈ outside := by
  decide +kernel

def Res.known : Res → Bool
  | .unknown _ => false
  | _ => true

theorem results_known : ∀ t ∈ allTables, ∀ b ∈ t.branches, Res.known b.res = true := by decide +kernel

theorem ok_of_map_int {r : R Int} {n : Int} (h : some (Val.int <$> r) = some (.ok (.int n))) : r = .ok n := by
  cases r with
  | error e => cases h
  | ok m => cases h; rfl

/-- C17 (int64), over the regenerated table: whatever the `ToInt64` switch that is in the
    source returns for a source is the integer that source denotes, in the int64 range. -/
theorem c17_int64_sound_table (sem : C17.StrSem) (f32 f64 : F → List Nat) (s : Src) (ty : String) (n : Int)
    (hty : ty ∈ goTypes s) (hwf : C17.wf s)
    (h : ToInt64.run (env f32 f64) ty s noNext = some (.ok (.int n))) :
    C17.denotesInt sem s n ∧ IntTy.i64.inRange n :=
  C17.c17_int64_sound sem s n hwf (ok_of_map_int ((ToInt64_table f32 f64 s ty hty).symm.trans h))

/-- C17 (every integer target), over the regenerated `ToInteger` switch and `checkIntegerTypeBounds` constants. -/
theorem c17_integer_sound_table (sem : C17.StrSem) (f32 f64 : F → List Nat) (t : IntTy) (s : Src) (ty : String) (n : Int)
    (hty : ty ∈ goTypes s) (hwf : C17.wf s)
    (h : ToInteger.run (env f32 f64) ty s (boundsNext t) = some (.ok (.int n))) :
    C17.denotesInt sem s n ∧ t.inRange n := by
  have hn : ∀ n, Coerce.toInt64 s = .ok n → n ≤ 2 ^ 64 - 1 := by
    intro m hm
    have := (C17.i64_range m).mp (C17.c17_int64_sound sem s m hwf hm).2
    omega
  exact C17.c17_integer_sound sem t s n hwf (ok_of_map_int ((ToInteger_table f32 f64 t s ty hty hn).symm.trans h))

example : ToInt64.run (env (fun _ => []) (fun _ => [])) "float64" (.f64 (.fin 12 2)) noNext = some (.ok (.int 3)) ∧
    ToInt64.run (env (fun _ => []) (fun _ => [])) "float64" (.f64 (.fin (2 ^ 63) 0)) noNext = some (.error .overflow) ∧
    ToInteger.run (env (fun _ => []) (fun _ => [])) "int64" (.int .i64 300) (boundsNext .u8) = some (.error .overflow) ∧
    ToInteger.run (env (fun _ => []) (fun _ => [])) "int64" (.int .i64 255) (boundsNext .u8) = some (.ok (.int 255)) := by
  decide

end Gozod.C17D
