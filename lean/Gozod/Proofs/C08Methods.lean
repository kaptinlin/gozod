/-
  C08 over the WHOLE regenerated method table (`Gen/MethodOps.lean`, written by harness/opsgen from the library's
  working tree on every run).

  One evaluation shows that EVERY row of the table is covered, or only fills a sync.Once cache (`table_all_covered`):
  a method that stops cloning, writes its receiver, returns it after a registry write (legacy class metaSelf), or is
  built in a way the translator cannot follow makes it fail, and the failing rows aim the history search.  What a covered
  row means is Proofs/C08Rows.lean.
-/
import Gozod.Proofs.C08Rows
import Gozod.Gen.MethodOps

namespace Gozod.C08
open Gozod.Store Gozod.StoreC08

/-- in particular NO row is of the legacy class `metaSelf` (since /repo 6ba76b8); with `c08_table_hist_all` this is the property
    over the whole method surface -/
theorem table_all_covered : Gozod.Gen.methodOps.all (fun r => r.cls == .covered || r.cls == .memo) = true := by
  -- the table is a left-nested `++` of its blocks: block by block every row is visited once
  delta Gozod.Gen.methodOps
  simp only [List.all_append]
  decide +kernel

theorem table_classified : Gozod.Gen.methodOps.all (fun r => r.cls != .bad) = true :=
  List.all_eq_true.2 fun r hr => by
    have : ∀ c : RowClass, (c == .covered || c == .memo) = true → (c != .bad) = true := by
      intro c; cases c <;> decide
    exact this _ (List.all_eq_true.1 table_all_covered r hr)

/-- non-vacuity: the hypotheses of `c08_table_step` are inhabited -/
theorem tcall_inhabited : ∃ r ∈ Gozod.Gen.methodOps, r.cls = .covered ∧ r.results ≠ [] := by
  have h : (Gozod.Gen.methodOps.any (fun r => r.cls == .covered && !r.results.isEmpty)) = true := by decide +kernel
  obtain ⟨r, hr, hc⟩ := List.any_eq_true.mp h
  simp only [Bool.and_eq_true, beq_iff_eq, Bool.not_eq_true', List.isEmpty_eq_false_iff] at hc
  exact ⟨r, hr, hc.1, hc.2⟩

/-- non-vacuity; 1000 is a floor below the number of chaining methods of /repo HEAD, so that a translator that loses
    most of the library is noticed -/
theorem table_nonvacuous :
    (Gozod.Gen.methodOps.any (fun r => r.cls == .covered)) = true ∧ 1000 ≤ Gozod.Gen.methodOps.length := by
  refine ⟨?_, ?_⟩
  · obtain ⟨r, hr, hc, _⟩ := tcall_inhabited
    exact List.any_eq_true.2 ⟨r, hr, beq_iff_eq.2 hc⟩
  · delta Gozod.Gen.methodOps
    simp only [List.length_append]
    decide +kernel

/-- for EVERY covered (or memo) row of the regenerated table, every one of its possible results and all
    run-time parameters, the call leaves every live schema's observation as it was, and a chaining result is new. -/
theorem c08_table_step (cfg : Cfg) (hcfg : cfg.cloneBagAlways = true) (σ : Store) (live : List Schema)
    (recv : Schema) (c : TCall) (hi : Inv σ live) (hr : recv ∈ live) (hc : c.ok Gozod.Gen.methodOps) :
    Inv (applyXOp cfg σ recv c.xop).1 (live ++ [(applyXOp cfg σ recv c.xop).2]) ∧ XStepOK cfg σ live recv c.xop :=
  c08x_step cfg hcfg σ live recv c.xop hi hr hc.denotes

/-- along every history whose calls are covered rows of the table — any receivers, sibling
    fan-outs, lengths, parameters, any growth rule of `append` — whatever was live after any prefix is unchanged by the rest. -/
theorem c08_table_hist_all (cfg : Cfg) (hcfg : cfg.cloneBagAlways = true) (a b : List (Nat × TCall))
    (σ : Store) (live : List Schema) (hi : Inv σ live)
    (ha : ∀ q ∈ a, q.2.ok Gozod.Gen.methodOps) (hb : ∀ q ∈ b, q.2.ok Gozod.Gen.methodOps) :
    ∀ s ∈ (runXHist cfg σ live (a.map (fun q => (q.1, q.2.xop)))).2,
      obs (runXHist cfg σ live ((a ++ b).map (fun q => (q.1, q.2.xop)))).1.heap s
        = obs (runXHist cfg σ live (a.map (fun q => (q.1, q.2.xop)))).1.heap s := by
  have ok : ∀ l : List (Nat × TCall), (∀ q ∈ l, q.2.ok Gozod.Gen.methodOps) → xopsOK (l.map fun q => (q.1, q.2.xop)) :=
    fun l hl p hp => by
      obtain ⟨q, hq, rfl⟩ := List.mem_map.1 hp
      exact (hl q hq).denotes
  rw [List.map_append]
  exact c08x_hist_all cfg hcfg _ _ σ live hi (ok a ha) (ok b hb)

end Gozod.C08
