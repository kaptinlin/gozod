/-
  C11 — `format` documents: the dedicated schema `getFormatSchema` picks for `{"type":"string","format":F}` (`FId.parses`;
  not through `fromJS`, whose `.fmt` documents carry their strings: the TEST `getFormatSchema_table` is the only bridge) accepts
  exactly the strings of the format's DEFINITION, and the pattern ToJSONSchema writes back matches the same strings —
  stated against C20's spec automata (Model/FormatSpec*.lean, written from the RFCs) by importing C20's theorems.
  Where the code falsifies the statement: `_partial` + witness.
-/
import Gozod.Model.FromJsonFormat
import Gozod.Proofs.C20
import Gozod.Proofs.C20Parsers
import Gozod.Proofs.C20Rfc3339
import Gozod.Proofs.C20IsoTime
import Gozod.Proofs.C20Netip6
import Gozod.Proofs.C20V6Dot
namespace Gozod.C11
open Gozod Gozod.Jsc Gozod.Re Gozod.Fmt Gozod.C20

/-! the rows of C20's regenerated table the model reads (an edit of the table changes these obligations) -/

theorem entry_ipv4 : FId.ipv4.entry = some ⟨Gen.kind_ipv4, [Gen.val_ipv4], [Gen.pat_ipv4]⟩ := by rfl
theorem entry_uuid : FId.uuid.entry = some ⟨Gen.kind_uuid, [Gen.val_uuid], [Gen.pat_uuid]⟩ := by rfl
theorem entry_date : FId.date.entry = some ⟨Gen.kind_isodate, [], [Gen.pat_isodate]⟩ := by rfl
theorem entry_dateTime : FId.dateTime.entry = some ⟨Gen.kind_isodatetime, [Gen.val_isodatetime], [Gen.pat_isodatetime]⟩ := by rfl
theorem entry_time : FId.time.entry = some ⟨Gen.kind_isotime, [Gen.val_isotime], [Gen.pat_isotime]⟩ := by rfl
theorem entry_ipv6 : FId.ipv6.entry = some ⟨Gen.kind_ipv6, [], [Gen.pat_ipv6]⟩ := by rfl

theorem parses_ipv4 (s : List Nat) : FId.ipv4.parses s = some (Fmt.ipv4.run s) := by
  simp [FId.parses, entry_ipv4, FId.parser, c20_ipv4 s]

theorem parses_uuid (s : List Nat) : FId.uuid.parses s = some ((Fmt.uuid none).run s) := by
  simp [FId.parses, entry_uuid, FId.parser, c20_uuid s]

theorem parses_date (s : List Nat) : FId.date.parses s = some (Fmt.isoDate.run s) := by
  simp [FId.parses, entry_date, FId.parser, c20_isodate s]

theorem parses_dateTime (s : List Nat) : FId.dateTime.parses s = some ((Fmt.isoDateTime false).run s) := by
  simp [FId.parses, entry_dateTime, FId.parser, c20_isodatetime s]

theorem parses_time (s : List Nat) : FId.time.parses s = some ((Fmt.isoTimeOpt .any).run s) := by
  simp [FId.parses, entry_time, FId.parser, c20_isotime s]

theorem parses_ipv6 (s : List Nat) : FId.ipv6.parses s = some (Fmt.ipv6.run s) := by
  simp [FId.parses, entry_ipv6, FId.parser, c20_ipv6_netip s]

/-- the DEFINITION of the JSON Schema format (Draft 2020-12 §7.3), where C20 has a spec automaton for it: ipv4 (RFC 2673
    dotted quad), ipv6 (RFC 4291 §2.2), date (RFC 3339 full-date), date-time (RFC 3339 date-time, upper-case `T`/`Z`, no
    leap second), uuid (RFC 4122 §3: the 8-4-4-4-12 hexadecimal layout — `Fmt.guid`).  `time` (RFC 3339 full-time, WITH
    an offset), `email`, `uri`: no automaton — decided by the run against the independent validator. -/
def _root_.Gozod.Jsc.FId.spec : FId → Option Spec
  | .ipv4 => some Fmt.ipv4
  | .ipv6 => some Fmt.ipv6
  | .date => some Fmt.isoDate
  | .dateTime => some (Fmt.isoDateTime false)
  | .uuid => some Fmt.guid
  | .time => none | .email => none | .url => none

def c11_format_full : Prop := ∀ (f : FId) (S : Spec), f.spec = some S → ∀ s, f.parses s = some (S.run s)

/-- the formats whose dedicated schema IS the JSON Schema format. -/
def fmtGood : FId → Bool
  | .ipv4 => true | .ipv6 => true | .date => true | .dateTime => true | _ => false

theorem c11_format_equiv_partial (f : FId) (h : fmtGood f = true) (s : List Nat) :
    ∃ S, f.spec = some S ∧ f.parses s = some (S.run s) := by
  cases f <;> simp [fmtGood] at h
  · exact ⟨_, rfl, parses_dateTime s⟩
  · exact ⟨_, rfl, parses_date s⟩
  · exact ⟨_, rfl, parses_ipv4 s⟩
  · exact ⟨_, rfl, parses_ipv6 s⟩

example : fmtGood .dateTime = true ∧ FId.dateTime.parses (b! "2024-02-29T12:30:00+08:00") = some true := by
  refine ⟨rfl, ?_⟩; rw [parses_dateTime]; decide +kernel

/-- `{format: uuid}` becomes UUID(), which also demands a version nibble 1–8 and an RFC 4122 variant (or the nil UUID):
    narrower than the format (finding parse:format-uuid). -/
theorem witness_format_uuid_narrower :
    FId.uuid.parses (b! "ffffffff-ffff-ffff-ffff-ffffffffffff") = some false
    ∧ Fmt.guid.run (b! "ffffffff-ffff-ffff-ffff-ffffffffffff") = true
    ∧ FId.uuid.parses (b! "123e4567-e89b-92d3-a456-426614174000") = some false
    ∧ Fmt.guid.run (b! "123e4567-e89b-92d3-a456-426614174000") = true := by
  simp only [parses_uuid]; decide +kernel

theorem c11_format_full_false : ¬ c11_format_full := fun h => by
  have := h .uuid Fmt.guid rfl (b! "ffffffff-ffff-ffff-ffff-ffffffffffff")
  rw [witness_format_uuid_narrower.1, witness_format_uuid_narrower.2.1] at this
  exact absurd this (by decide)

/-- `{format: time}` becomes IsoTime(): hh:mm[:ss[.fff]] WITHOUT an offset, whereas the format (RFC 3339 full-time)
    REQUIRES one: "12:30:00Z" is rejected, "12:30:00" and "12:30" are accepted (finding parse:format-time). -/
theorem witness_format_time_no_offset :
    FId.time.parses (b! "12:30:00Z") = some false ∧ FId.time.parses (b! "12:30:00+08:00") = some false
    ∧ FId.time.parses (b! "12:30:00") = some true ∧ FId.time.parses (b! "12:30") = some true := by
  simp only [parses_time]; decide +kernel

/-! Round trip: `{type:string, format:<bag name>, pattern:<exported pattern>}` -/

theorem patOK_ipv4 (s : List Nat) : FId.ipv4.patOK s = some (Fmt.ipv4.run s) := by
  simp [FId.patOK, entry_ipv4, c20_ipv4_pattern s]

theorem patOK_uuid (s : List Nat) : FId.uuid.patOK s = some ((Fmt.uuid none).run s) := by
  simp [FId.patOK, entry_uuid, c20_uuid_pattern s]

theorem patOK_date (s : List Nat) : FId.date.patOK s = some (Fmt.isoDate.run s) := by
  simp [FId.patOK, entry_date, c20_isodate_pattern s]

theorem patOK_time (s : List Nat) : FId.time.patOK s = some ((Fmt.isoTimeOpt .any).run s) := by
  simp [FId.patOK, entry_time, c20_isotime_pattern s]

/-- the exported date-time pattern is RFC 3339 with OPTIONAL seconds (C20's finding). -/
theorem patOK_dateTime (s : List Nat) : FId.dateTime.patOK s = some ((Fmt.isoDateTime true).run s) := by
  simp [FId.patOK, entry_dateTime, c20_isodatetime_pattern_optsec_full s]

theorem patOK_ipv6_partial (s : List Nat) (h : avoids [46, 37] s = true) : FId.ipv6.patOK s = some (Fmt.ipv6.run s) := by
  simp [FId.patOK, entry_ipv6, c20_ipv6_pattern_partial s h]

/-- the round trip at full strength: the document ToJSONSchema writes validates exactly the strings of the format
    (`S.run s` is also the validator's verdict on the original format keyword). -/
def c11_format_roundtrip_full : Prop :=
  ∀ (f : FId) (S : Spec), f.spec = some S → ∀ s, rtFmtValid f (S.run s) s = some (S.run s)

theorem c11_format_roundtrip_ipv4 (s : List Nat) : rtFmtValid .ipv4 (Fmt.ipv4.run s) s = some (Fmt.ipv4.run s) := by
  simp [rtFmtValid, patOK_ipv4, FId.nameKept, FId.emitName, FId.jsonName]

/-- ipv6 on the strings without a '.' and without a zone (`c20_ipv6_pattern_partial`; `c20_ipv6_pattern_nozone` excludes less). -/
theorem c11_format_roundtrip_ipv6_partial (s : List Nat) (h : avoids [46, 37] s = true) :
    rtFmtValid .ipv6 (Fmt.ipv6.run s) s = some (Fmt.ipv6.run s) := by
  simp [rtFmtValid, patOK_ipv6_partial s h, FId.nameKept, FId.emitName, FId.jsonName]

example : avoids [46, 37] (b! "2001:db8::8a2e:370:7334") = true ∧ Fmt.ipv6.run (b! "2001:db8::8a2e:370:7334") = true := by
  decide +kernel

/-- IsoDate() / IsoDateTime() / IsoTime() come back with the INTERNAL check name as `format` ("iso_date", "iso_datetime",
    "iso_time"): no JSON Schema format, so under format assertion the round-trip document validates nothing — although
    the pattern next to it is the definition (finding roundtrip:format-name-internal; to_test.go pins the names). -/
theorem witness_format_name_internal (v : Bool) (s : List Nat) :
    rtFmtValid .date v s = some false ∧ rtFmtValid .dateTime v s = some false ∧ rtFmtValid .time v s = some false
    ∧ FId.date.patOK s = some (Fmt.isoDate.run s) := by
  refine ⟨?_, ?_, ?_, patOK_date s⟩ <;>
    simp [rtFmtValid, patOK_date, patOK_dateTime, patOK_time, FId.nameKept, FId.emitName, FId.jsonName]

/-- six groups followed by a dotted quad: a valid IPv6 address the exported pattern refuses (C20's `c20_ipv6_witnesses`). -/
theorem witness_format_ipv6_roundtrip :
    Fmt.ipv6.run (b! "1:2:3:4:5:6:1.2.3.4") = true ∧ rtFmtValid .ipv6 true (b! "1:2:3:4:5:6:1.2.3.4") = some false := by
  refine ⟨c20_ipv6_witnesses.2.2.2.2.2, ?_⟩
  simp [rtFmtValid, FId.patOK, entry_ipv6, c20_ipv6_witnesses.2.2.2.2.1]

theorem c11_format_roundtrip_full_false : ¬ c11_format_roundtrip_full := fun h => by
  have := h .date Fmt.isoDate rfl (b! "2024-02-29")
  rw [(witness_format_name_internal _ _).1] at this
  exact absurd this (by decide +kernel)

/-- a TEST of the transcription `getFormatSchema`. -/
theorem getFormatSchema_table :
    ["email", "uuid", "uri", "url", "date-time", "date", "time", "ipv4", "ipv6", "hostname", "duration"].map getFormatSchema
      = [some .email, some .uuid, some .url, some .url, some .dateTime, some .date, some .time, some .ipv4, some .ipv6, none, none] := by
  decide +kernel

end Gozod.C11
