/-
  C20 — IsoTime(IsoTimeOptions{Precision}): the time of day of a fixed precision is a format of fixed length, for every precision at once.

  The pattern is `hour R`, `R` a sequence of classes (`classesOf`, Proofs/C20Fixed.lean).  The automaton counts the position, so
  from byte 2 on its run is a positional predicate: its test `t * 10 + d ≤ 59` on mm and ss is the class [0-5] of the first digit,
  and the precision only says where the string may end.  The hour, `t * 10 + d ≤ 23`, is `[01]\d|2[0-3]`: a finite fact about two
  digits.  Precision nil (`\d+` fraction: no fixed length) has a certificate.
  Byte `i` is read at position `i + 11`, the end is 16, 19 or 21: the states are the date-time automaton's (ten date bytes and 'T'
  before), so a date-time tail runs this automaton as it is (`tail_seq`, Proofs/C20DateTimeOpt.lean).
-/
import Gozod.Proofs.C20Bisim
import Gozod.Proofs.C20Fixed
import Gozod.Proofs.C20Digits
import Gozod.Gen.Cert_isotime
import Gozod.Gen.Re_tmo_n
import Gozod.Gen.Re_tmo_m
import Gozod.Gen.Re_tmo_0
import Gozod.Gen.Re_tmo_1
import Gozod.Gen.Re_tmo_2
import Gozod.Gen.Re_tmo_3
import Gozod.Gen.Re_tmo_9
namespace Gozod.C20
open Gozod Gozod.Re Gozod.Fmt

theorem timeStepO_time_byte {p : Prec} {q q1 : DateSt} {c : Nat} (h : timeStepO ⟨p, 0, false⟩ q c = some q1) :
    c = 46 ∨ c = 58 ∨ isDigit c = true := by
  refine Classical.byContradiction fun hn => ?_
  simp only [not_or] at hn
  obtain ⟨h46, h58, hd⟩ := hn
  simp [timeStepO, h46, h58, hd] at h

def timeA (p : Prec) : Aut DateSt := (isoTimeOpt p).aut

theorem timeA_step (p : Prec) (q : DateSt) (c : Nat) : (timeA p).step q c = timeStepO ⟨p, 0, false⟩ q c := by
  show (if (46 :: 58 :: digits).elem c then timeStepO ⟨p, 0, false⟩ q c else none) = _
  split
  · rfl
  · next h =>
    cases ht : timeStepO ⟨p, 0, false⟩ q c with
    | none => rfl
    | some q1 =>
      refine absurd ?_ h
      simp only [elem_cons_iff, digits_elem]
      exact timeStepO_time_byte ht

theorem timeA_acc (p : Prec) {q : DateSt} (hq : q.pos ≤ 21) : (timeA p).acc q = timeDone ⟨p, 0, false⟩ q := by
  show (decide (q.pos = 27) || (timeDone ⟨p, 0, false⟩ q && ((0 : Nat) != 1))) = _
  rw [decide_eq_false (by omega)]; simp

/-- `.any` has no fixed length -/
def timeLen : Prec → Nat
  | .minute => 5
  | .digits 0 => 8
  | .digits (n + 1) => 10 + n
  | .any => 0

def timeCls (i : Nat) : List (Nat × Nat) :=
  if i = 2 ∨ i = 5 then [(58, 58)] else if i = 3 ∨ i = 6 then [(48, 53)] else if i = 8 then [(46, 46)] else [(48, 57)]

theorem timeCls_ge {i : Nat} (h : 9 ≤ i) : timeCls i = [(48, 57)] := by
  rw [timeCls, if_neg (by omega), if_neg (by omega), if_neg (by omega)]

theorem timeLen_facts {p : Prec} (h : 2 ≤ timeLen p) : (timeLen p = 5 ∨ timeLen p = 8 ∨ 10 ≤ timeLen p) ∧
    (p.secondsAllowed = true ↔ 5 < timeLen p) ∧ (p.fractionAllowed = true ↔ 8 < timeLen p) ∧ p.exact = timeLen p - 9 ∧
    ∀ q : DateSt, timeDone ⟨p, 0, false⟩ q = true ↔ (q.pos = 16 ∧ timeLen p = 5) ∨ (q.pos = 19 ∧ timeLen p = 8) ∨
      (q.pos = 21 ∧ q.d + 9 = timeLen p ∧ 10 ≤ timeLen p) := by
  rcases p with _ | _ | _ | n <;> simp [timeLen, Prec.secondsAllowed, Prec.fractionAllowed, Prec.exact, timeDone] at h ⊢
  exact ⟨by omega, by omega, by omega, fun q => by omega⟩

/-- `g`, `g'`: what is still asked of the stored first digit before and after the byte (see `time_runFrom`) -/
theorem time_step (p : Prec) {q q1 : DateSt} {c i : Nat} {P : Prop} [Decidable P] {g g' : Bool} (s : List Nat)
    (hstep : timeStepO ⟨p, 0, false⟩ q c = if P then (if i < timeLen p then some q1 else none) else none)
    (ih : i < timeLen p → (timeA p).run q1 s = (g' && matchPos timeCls (timeLen p) (i + 1) s))
    (e : P ∧ g' = true ↔ g = true ∧ inRanges c (timeCls i) = true) :
    (timeA p).run q (c :: s) = (g && matchPos timeCls (timeLen p) i (c :: s)) := by
  rw [Aut.run_cons, timeA_step, hstep, matchPos]
  by_cases hl : i < timeLen p
  · by_cases hP : P
    · have e' : g' = (g && inRanges c (timeCls i)) := by rw [Bool.eq_iff_iff, Bool.and_eq_true, ← e]; simp [hP]
      simp [hP, hl, ih hl, e', Bool.and_assoc]
    · have e' : (g && inRanges c (timeCls i)) = false := by rw [Bool.eq_false_iff, Ne, Bool.and_eq_true, ← e]; simp [hP]
      simp [hP, hl, ← Bool.and_assoc, e']
  · simp [hl]

theorem pos_cases {i : Nat} (h : 2 ≤ i) : i = 2 ∨ i = 3 ∨ i = 4 ∨ i = 5 ∨ i = 6 ∨ i = 7 ∨ i = 8 ∨ i = 9 ∨ 10 ≤ i := by omega

theorem cls_tens (c : Nat) : inRanges c [(48, 53)] = true ↔ isDigit c = true ∧ c - 48 ≤ 5 := by
  simp only [inRanges_one, isDigit_iff, Bool.and_eq_true, decide_eq_true_eq]; omega
theorem cls_ones (c t : Nat) : isDigit c = true ∧ t * 10 + (c - 48) ≤ 59 ↔ t ≤ 5 ∧ inRanges c [(48, 57)] = true := by
  simp only [inRanges_one, isDigit_iff, Bool.and_eq_true, decide_eq_true_eq]; omega

/-- the automaton after `i ≥ 2` bytes is at position `min (i + 11) 21` and has counted `i - 9` fraction digits; what it
    accepts from there is what the classes of the remaining positions accept, except that after the first digit of mm or ss
    (`i = 4`, `i = 7`) it has not yet refused a digit above 5 -/
theorem time_runFrom (p : Prec) (s : List Nat) : ∀ (i : Nat) (q : DateSt), 2 ≤ i → i ≤ timeLen p → q.pos = min (i + 11) 21 →
    q.d = i - 9 → (timeA p).run q s = (decide (i = 4 ∨ i = 7 → q.t ≤ 5) && matchPos timeCls (timeLen p) i s) := by
  induction s with
  | nil =>
    intro i q h2 hL hpos hd
    obtain ⟨hL', -, -, -, hdone⟩ := timeLen_facts (Nat.le_trans h2 hL)
    show (timeA p).acc q = _
    rw [timeA_acc p (by omega), matchPos, Bool.eq_iff_iff, hdone]
    simp only [Bool.and_eq_true, decide_eq_true_eq, beq_iff_eq, hpos, hd]
    constructor
    · rintro (⟨h, hl⟩ | ⟨h, hl⟩ | ⟨h, hl, -⟩) <;> exact ⟨by omega, by omega⟩
    · rintro ⟨-, rfl⟩
      rcases hL' with h | h | h
      · exact .inl ⟨by omega, h⟩
      · exact .inr (.inl ⟨by omega, h⟩)
      · exact .inr (.inr ⟨by omega, by omega, h⟩)
  | cons c s ih =>
    rintro i ⟨_, y, m, _, t⟩ h2 hL rfl rfl
    obtain ⟨hL', hsec, hfrac, hex, -⟩ := timeLen_facts (Nat.le_trans h2 hL)
    -- `omega` is shown only the facts it needs: the `↔`s about the precision make it split cases
    have hl : i ≠ 5 → i ≠ 8 → i < 10 → i < timeLen p := by clear hsec hfrac hex; omega
    have hex0 : 9 ≤ i → p.exact ≠ 0 := by clear hsec hfrac hl; omega
    obtain rfl | rfl | rfl | rfl | rfl | rfl | rfl | rfl | h10 := pos_cases h2
    · exact time_step p s (P := c = 58) (by simp [timeStepO, hl])
        (fun h => ih 3 ⟨14, y, m, 0, t⟩ (by omega) h rfl rfl) (by simp [timeCls, inRanges_byte])
    · exact time_step p s (P := isDigit c = true) (by simp [timeStepO, hl])
        (fun h => ih 4 ⟨15, y, m, 0, c - 48⟩ (by omega) h rfl rfl) (by simp [timeCls, cls_tens])
    · exact time_step p s (P := isDigit c = true ∧ t * 10 + (c - 48) ≤ 59) (by simp [timeStepO, hl])
        (fun h => ih 5 ⟨16, y, m, 0, 0⟩ (by omega) h rfl rfl) (by simp [timeCls, cls_ones])
    · exact time_step p s (P := c = 58) (by simp [timeStepO, hsec])
        (fun h => ih 6 ⟨17, y, m, 0, t⟩ (by omega) h rfl rfl) (by simp [timeCls, inRanges_byte])
    · exact time_step p s (P := isDigit c = true) (by simp [timeStepO, hl])
        (fun h => ih 7 ⟨18, y, m, 0, c - 48⟩ (by omega) h rfl rfl) (by simp [timeCls, cls_tens])
    · exact time_step p s (P := isDigit c = true ∧ t * 10 + (c - 48) ≤ 59) (by simp [timeStepO, hl])
        (fun h => ih 8 ⟨19, y, m, 0, 0⟩ (by omega) h rfl rfl) (by simp [timeCls, cls_ones])
    · exact time_step p s (P := c = 46) (by simp [timeStepO, hfrac])
        (fun h => ih 9 ⟨20, y, m, 0, t⟩ (by omega) h rfl rfl) (by simp [timeCls, inRanges_byte])
    · exact time_step p s (P := isDigit c = true) (by simp [timeStepO, hl, hex0])
        (fun h => ih 10 ⟨21, y, m, 1, t⟩ (by omega) h rfl rfl) (by simp [timeCls, inRanges_digits])
    · rw [show min (i + 11) 21 = 21 by omega]
      exact time_step p s (P := isDigit c = true) (by simp [timeStepO, hex0 (by omega), show i - 9 < p.exact ↔ i < timeLen p by omega])
        (fun h => ih (i + 1) ⟨21, y, m, i - 9 + 1, t⟩ (by omega) h (by simp; omega) (by simp; omega))
        (by simp [timeCls_ge (Nat.le_of_succ_le h10), inRanges_digits, show ¬i = 3 ∧ ¬i = 6 by omega, show ¬i = 4 ∧ ¬i = 7 by omega, and_comm])

def hourRe : Re := altsOf [seqs [.cls [(48, 49)], .cls [(48, 57)]], seqs [.cls [(50, 50)], .cls [(48, 51)]]]

theorem hour_eval (x y : Nat) : accepts hourRe [x, y] = (isDigit x && isDigit y && decide (two x y ≤ 23)) :=
  two_digits hourRe (fun n => decide (n ≤ 23)) (by decide) (by decide +kernel) x y

theorem time_of_classes (p : Prec) (hp : p ≠ .any) {R : Re}
    (hR : classesOf R = some ((List.range' 2 (timeLen p - 2)).map timeCls)) : ∀ s, accepts (seq hourRe R) s = (isoTimeOpt p).run s := fun s => by
  have h5 : 5 ≤ timeLen p := by rcases p with _ | _ | _ | n <;> simp [timeLen] at hp ⊢ <;> omega
  obtain ⟨-, -, -, -, hdone⟩ := timeLen_facts (p := p) (by omega)
  have nil : ∀ q : DateSt, q.pos < 16 → (timeA p).run q [] = false := fun q hq => by
    show (timeA p).acc q = _
    rw [timeA_acc p (by omega), Bool.eq_false_iff, Ne, hdone]; omega
  have s11 : ∀ x r, (timeA p).run ⟨11, 0, 0, 0, 0⟩ (x :: r) = (isDigit x && (timeA p).run ⟨12, 0, 0, 0, x - 48⟩ r) := fun x r => by
    rw [Aut.run_cons, timeA_step]; by_cases h : isDigit x = true <;> simp [timeStepO, h]
  have s12 : ∀ t y r, (timeA p).run ⟨12, 0, 0, 0, t⟩ (y :: r)
      = ((isDigit y && decide (t * 10 + (y - 48) ≤ 23)) && (timeA p).run ⟨13, 0, 0, 0, 0⟩ r) := fun t y r => by
    rw [Aut.run_cons, timeA_step]; by_cases h : isDigit y = true <;> by_cases h2 : t * 10 + (y - 48) ≤ 23 <;> simp [timeStepO, h, h2]
  rw [Spec.run_aut]
  show accepts (seq hourRe R) s = (timeA p).run ⟨11, 0, 0, 0, 0⟩ s
  rcases s with _ | ⟨x, _ | ⟨y, s⟩⟩
  · rw [nil _ (by decide)]; rfl
  · rw [s11, nil _ (by simp)]
    show accepts (seq (alt (seq (cls _) (cls _)) (seq (cls _) (cls _))) R) [x] = _
    rw [accepts_seq_alt, accepts_seq_assoc, accepts_seq_assoc, accepts_cls_seq, accepts_cls_seq]
    simp [accepts_nil, nullable]
  · rw [s11, s12, time_runFrom p s 2 _ (by omega) (by omega) rfl rfl, accepts_seq_fixed _ 2 rfl, accepts_classes timeCls R 2 _ hR,
      show 2 + (timeLen p - 2) = timeLen p by omega]
    simp only [List.take, List.drop, hour_eval, two, Bool.and_assoc, Bool.true_and,
      (by decide : decide ((2 : Nat) = 4 ∨ (2 : Nat) = 7 → (0 : Nat) ≤ 5) = true)]

-- `regex.Time` without a precision builds the expression of `regex.DefaultTime`: `val_tmo_n` unfolds to `val_isotime`
theorem c20_tmo_n : ∀ s, accepts Gen.val_tmo_n s = (Fmt.isoTimeOpt .any).run s := bisim_sound_full _ _ Gen.cert_isotime_ok
theorem c20_tmo_m : ∀ s, accepts Gen.val_tmo_m s = (Fmt.isoTimeOpt .minute).run s := time_of_classes .minute nofun rfl
theorem c20_tmo_0 : ∀ s, accepts Gen.val_tmo_0 s = (Fmt.isoTimeOpt (.digits 0)).run s := time_of_classes (.digits 0) nofun rfl
theorem c20_tmo_1 : ∀ s, accepts Gen.val_tmo_1 s = (Fmt.isoTimeOpt (.digits 1)).run s := time_of_classes (.digits 1) nofun rfl
theorem c20_tmo_2 : ∀ s, accepts Gen.val_tmo_2 s = (Fmt.isoTimeOpt (.digits 2)).run s := time_of_classes (.digits 2) nofun rfl
theorem c20_tmo_3 : ∀ s, accepts Gen.val_tmo_3 s = (Fmt.isoTimeOpt (.digits 3)).run s := time_of_classes (.digits 3) nofun rfl
theorem c20_tmo_9 : ∀ s, accepts Gen.val_tmo_9 s = (Fmt.isoTimeOpt (.digits 9)).run s := time_of_classes (.digits 9) nofun rfl

end Gozod.C20
