/-
  C10 — Transform and Pipe around checked schemas: a Transform runs once, after everything in its source and only on
  success; a Pipe hands the first schema's result to the second and succeeds exactly when both do.

  The model has four recursions that differ in the base case only: `parsePipeline` (string bases), `parsePipelineK`
  (bases that say whether they are containers), `parsePipelineT` (… with the type dispatch of each stage) and
  `parsePipelineG` (… with the pointer pass of every schema type; the one the universal driver runs). Every statement
  below unfolds its recursion by one level; `parsePipelineK_eq_erase` and `parsePipelineT_eq_K` say how K and T
  specialise to the plain recursion.
-/
import Gozod.Proofs.C10G
namespace Gozod.C10

variable {P O T V : Type}

theorem baseOut_ok_iff (r : Run V) (tag : Nat) (x : V) :
    (if r.issues = [] then Except.ok r.val else Except.error (tag, r.issues) : Except (Nat × List Nat) V) = .ok x ↔
      r.issues = [] ∧ r.val = x := by
  split
  next h => simp only [Except.ok.injEq, h, true_and]
  next h => simp only [reduceCtorEq, h, false_and]

/-- A Transform runs once, after everything in its source, and only on success. -/
theorem c10_transform_once (env : Env P O T V) (src : Pipeline P O T) (i : Nat) (t : T) (v : V) (pin : Bool) :
    (∀ x, (parsePipeline env src v pin).out = .ok x →
        (parsePipeline env (.transform src i t) v pin).out = .ok (env.trans t x) ∧
        (parsePipeline env (.transform src i t) v pin).log = (parsePipeline env src v pin).log ++ [.tr i x]) ∧
    (∀ e, (parsePipeline env src v pin).out = .error e →
        (parsePipeline env (.transform src i t) v pin).out = .error e ∧
        (parsePipeline env (.transform src i t) v pin).log = (parsePipeline env src v pin).log) := by
  constructor
  · intro x hx; simp [parsePipeline, hx]
  · intro e he; simp [parsePipeline, he]

/-- A Pipe hands the first schema's result to the second and succeeds exactly when both do. -/
theorem c10_pipe (env : Env P O T V) (a b : Pipeline P O T) (v : V) (pin : Bool) :
    (parsePipeline env (.pipe a b) v pin).out =
      (match (parsePipeline env a v pin).out with
       | .ok x => (parsePipeline env b x (parsePipeline env a v pin).isPtr).out
       | .error e => .error e) := by
  simp only [parsePipeline]
  cases (parsePipeline env a v pin).out <;> rfl

theorem c10_pipe_ok_iff (env : Env P O T V) (a b : Pipeline P O T) (v : V) (pin : Bool) (y : V) :
    (parsePipeline env (.pipe a b) v pin).out = .ok y ↔
      ∃ x, (parsePipeline env a v pin).out = .ok x ∧
           (parsePipeline env b x (parsePipeline env a v pin).isPtr).out = .ok y := by
  rw [c10_pipe]
  cases h : (parsePipeline env a v pin).out with
  | ok x => simp
  | error e => simp

theorem c10_base_ok_iff (env : Env P O T V) (tag : Nat) (ps pin : Bool) (cs : List (Check P O)) (v : V) :
    (∃ x, (parsePipeline env (.base tag ps cs) v pin).out = .ok x) ↔
      ∀ k, k < cs.length → failsAt env cs k v = false := by
  simp only [parsePipeline, baseOut_ok_iff, exists_and_left, exists_eq', and_true]
  exact c10_runOn_ok_iff ..

theorem c10_base_ok_value (env : Env P O T V) (tag : Nat) (ps pin : Bool) (cs : List (Check P O)) (v x : V)
    (h : (parsePipeline env (.base tag ps cs) v pin).out = .ok x) : x = seenAt env cs cs.length v := by
  simp only [parsePipeline, ← runChecksG_string] at h
  obtain ⟨hi, rfl⟩ := (baseOut_ok_iff _ _ _).mp h
  exact runChecksG_ok_val _ _ _ _ _ _ hi

theorem parsePipelineK_eq_erase (env : Env P O T V) (vac : P → Bool) (p : PipelineK P O T)
    (h : p.noContainer = true) :
    ∀ (v : V) (pin : Bool), parsePipelineK env vac p v pin = parsePipeline env p.erase v pin := by
  induction p with
  | base tag ps c cs =>
    simp only [PipelineK.noContainer, Bool.not_eq_true'] at h
    simp only [parsePipelineK, parsePipeline, PipelineK.erase, h, Bool.false_eq_true, if_false, implies_true]
  | transform s i t ih => simp only [parsePipelineK, parsePipeline, PipelineK.erase, ih h]; exact fun _ _ => rfl
  | pipe a b iha ihb =>
    simp only [PipelineK.noContainer, Bool.and_eq_true] at h
    simp only [parsePipelineK, parsePipeline, PipelineK.erase, iha h.1, ihb h.2]; exact fun _ _ => rfl

/-- `parsePipelineK_eq_erase` read component by component. -/
theorem parsePipelineK_erase (env : Env P O T V) (vac : P → Bool) (p : PipelineK P O T)
    (h : p.noContainer = true) : ∀ (v : V) (pin : Bool),
      (parsePipelineK env vac p v pin).out = (parsePipeline env p.erase v pin).out ∧
      (parsePipelineK env vac p v pin).isPtr = (parsePipeline env p.erase v pin).isPtr ∧
      (parsePipelineK env vac p v pin).log = (parsePipeline env p.erase v pin).log :=
  fun v pin => parsePipelineK_eq_erase env vac p h v pin ▸ ⟨rfl, rfl, rfl⟩

theorem parsePipelineT_eq_K (env : Env P O T V) (vac : P → Bool) (ty : Nat → V → Bool)
    (hty : ∀ tag v, ty tag v = true) (p : PipelineK P O T) :
    ∀ (v : V) (pin : Bool), parsePipelineT env vac ty p v pin = parsePipelineK env vac p v pin := by
  induction p with
  | base tag ps c cs => simp only [parsePipelineT, parsePipelineK, hty, if_true, implies_true]
  | transform s i t ih => simp only [parsePipelineT, parsePipelineK, ih, implies_true]
  | pipe a b iha ihb => simp only [parsePipelineT, parsePipelineK, iha, ihb, implies_true]

/-- `parsePipelineT_eq_K` read component by component. -/
theorem parsePipelineT_typed (env : Env P O T V) (vac : P → Bool) (ty : Nat → V → Bool)
    (hty : ∀ tag v, ty tag v = true) (p : PipelineK P O T) : ∀ (v : V) (pin : Bool),
      (parsePipelineT env vac ty p v pin).out = (parsePipelineK env vac p v pin).out ∧
      (parsePipelineT env vac ty p v pin).isPtr = (parsePipelineK env vac p v pin).isPtr ∧
      (parsePipelineT env vac ty p v pin).log = (parsePipelineK env vac p v pin).log :=
  fun v pin => parsePipelineT_eq_K env vac ty hty p v pin ▸ ⟨rfl, rfl, rfl⟩

/-- `c10_pipe_ok_iff` with the second schema's type dispatch: a result the target does not take as a value of its type
    (nil, another kind) fails the pipe. -/
theorem c10_pipeT_ok_iff (env : Env P O T V) (vac : P → Bool) (ty : Nat → V → Bool)
    (a b : PipelineK P O T) (v : V) (pin : Bool) (y : V) :
    (parsePipelineT env vac ty (.pipe a b) v pin).out = .ok y ↔
      ∃ x, (parsePipelineT env vac ty a v pin).out = .ok x ∧
           (parsePipelineT env vac ty b x (parsePipelineT env vac ty a v pin).isPtr).out = .ok y := by
  simp only [parsePipelineT]
  cases h : (parsePipelineT env vac ty a v pin).out with
  | error e => simp
  | ok x => simp

/-- A base schema never accepts a value that is not of its type, and runs none of its checks on it. (`parsePipelineT` files the
    error under `(typeErrTag, [0])`; `parsePipelineG`, the recursion the driver runs, names the stage: `c10_baseG_type_error`.) -/
theorem c10_base_type_error (env : Env P O T V) (vac : P → Bool) (ty : Nat → V → Bool)
    (tag : Nat) (ps c : Bool) (cs : List (Check P O)) (v : V) (pin : Bool) (h : ty tag v = false) :
    (parsePipelineT env vac ty (.base tag ps c cs) v pin).out = .error (typeErrTag, [0]) ∧
    (parsePipelineT env vac ty (.base tag ps c cs) v pin).log = [] := by
  simp [parsePipelineT, h]

theorem c10_baseG_ok_iff (env : Env P O T V) (cls : Nat → BaseClass P) (ty : Nat → V → Bool)
    (tag : Nat) (ps k : Bool) (cs : List (Check P O)) (v : V) (pin : Bool) :
    (∃ x, (parsePipelineG env cls ty (.base tag ps k cs) v pin).out = .ok x) ↔
      ty tag v = true ∧ ∀ j, j < cs.length → failsAt env cs j v = false := by
  simp only [parsePipelineG]
  split
  next ht =>
    simp only [baseOut_ok_iff, exists_and_left, exists_eq', and_true, ht, true_and]
    exact c10_generic_ok_iff ..
  next ht => simp only [reduceCtorEq, exists_false, ht, false_and]

theorem c10_baseG_ok_value (env : Env P O T V) (cls : Nat → BaseClass P) (ty : Nat → V → Bool)
    (tag : Nat) (ps k : Bool) (cs : List (Check P O)) (v x : V) (pin : Bool)
    (h : (parsePipelineG env cls ty (.base tag ps k cs) v pin).out = .ok x) : x = seenAt env cs cs.length v := by
  simp only [parsePipelineG] at h
  split at h
  · obtain ⟨hi, rfl⟩ := (baseOut_ok_iff _ _ _).mp h
    exact runChecksG_ok_val _ _ _ _ _ _ hi
  · cases h

/-- A stage handed a value of another type fails, the error names THAT stage, and none of its callbacks run. -/
theorem c10_baseG_type_error (env : Env P O T V) (cls : Nat → BaseClass P) (ty : Nat → V → Bool)
    (tag : Nat) (ps k : Bool) (cs : List (Check P O)) (v : V) (pin : Bool) (h : ty tag v = false) :
    (parsePipelineG env cls ty (.base tag ps k cs) v pin).out = .error (tag, [typeErrPos]) ∧
    (parsePipelineG env cls ty (.base tag ps k cs) v pin).log = [] := by
  simp [parsePipelineG, h]

/-- `c10_pipe_ok_iff` with the type dispatch and the pointer pass of every stage. -/
theorem c10_pipeG_ok_iff (env : Env P O T V) (cls : Nat → BaseClass P) (ty : Nat → V → Bool)
    (a b : PipelineK P O T) (v : V) (pin : Bool) (y : V) :
    (parsePipelineG env cls ty (.pipe a b) v pin).out = .ok y ↔
      ∃ x, (parsePipelineG env cls ty a v pin).out = .ok x ∧
           (parsePipelineG env cls ty b x (parsePipelineG env cls ty a v pin).isPtr).out = .ok y := by
  simp only [parsePipelineG]
  cases h : (parsePipelineG env cls ty a v pin).out with
  | ok x => simp
  | error e => simp

/-- When the first stage of a Pipe fails, the error is its own and the target runs nothing. -/
theorem c10_pipeG_first_fails (env : Env P O T V) (cls : Nat → BaseClass P) (ty : Nat → V → Bool)
    (a b : PipelineK P O T) (v : V) (pin : Bool) (e : Nat × List Nat)
    (h : (parsePipelineG env cls ty a v pin).out = .error e) :
    (parsePipelineG env cls ty (.pipe a b) v pin).out = .error e ∧
    (parsePipelineG env cls ty (.pipe a b) v pin).log = (parsePipelineG env cls ty a v pin).log := by
  simp [parsePipelineG, h]

theorem c10_transformG_once (env : Env P O T V) (cls : Nat → BaseClass P) (ty : Nat → V → Bool)
    (src : PipelineK P O T) (i : Nat) (t : T) (v : V) (pin : Bool) :
    (∀ x, (parsePipelineG env cls ty src v pin).out = .ok x →
        (parsePipelineG env cls ty (.transform src i t) v pin).out = .ok (env.trans t x) ∧
        (parsePipelineG env cls ty (.transform src i t) v pin).log = (parsePipelineG env cls ty src v pin).log ++ [.tr i x]) ∧
    (∀ e, (parsePipelineG env cls ty src v pin).out = .error e →
        (parsePipelineG env cls ty (.transform src i t) v pin).out = .error e ∧
        (parsePipelineG env cls ty (.transform src i t) v pin).log = (parsePipelineG env cls ty src v pin).log) := by
  constructor
  · intro x hx; simp [parsePipelineG, hx]
  · intro e he; simp [parsePipelineG, he]

end Gozod.C10
