/-
  C01 / C10 — the Unicode model of the string overwrites (`Gozod.StrU`: `strings.TrimSpace`, `ToLower`,
  `ToUpper` on arbitrary bytes) against the ASCII model (`Gozod.Str`), and the laws behind "unchanged apart from
  declared overwrites such as Trim": on ASCII input the two models compute the same overwrite, the same run of the
  check engine and the same `ParsePrimitive` (the overwrites keep the value ASCII); Trim / ToLower / ToUpper are
  idempotent in the ASCII model, hence in Go's on ASCII input (`strU_idem_of`).
-/
import Gozod.Model.Prim
import Gozod.Model.StrU
import Gozod.Proofs.Basics
import Gozod.Proofs.C10G
namespace Gozod.C01

theorem isSpaceRune_ascii : ∀ c, c < 128 → StrU.isSpaceRune c = Str.isSpace c := by decide +kernel

/-- `s` is one ASCII byte or ends in a byte ≥ 0x80 — true of the encoding of every white-space rune (`spaceSeqs_ok`),
    and what makes the suffix search of `TrimSpace` on an ASCII tail a comparison of single bytes. -/
def okSeq (s : Bytes) : Bool :=
  match s.reverse with
  | [r] => r < 128
  | l :: _ => l ≥ 128
  | [] => false

theorem spaceSeqs_ok : ∀ s ∈ StrU.spaceSeqs, okSeq s = true := by decide +kernel

theorem spaceSeqs_contains_ascii : ∀ c, c < 128 → StrU.spaceSeqs.contains [c] = Str.isSpace c := by decide +kernel

theorem spaceSeqs_no_suffix_nil : StrU.spaceSeqs.find? (fun s => s.isSuffixOf ([] : Bytes)) = none := by decide +kernel

theorem isSuffixOf_snoc_ascii (s : Bytes) (hs : okSeq s = true) (init : Bytes) (c : Nat) (hc : c < 128) :
    s.isSuffixOf (init ++ [c]) = (s == [c]) := by
  unfold List.isSuffixOf
  rw [List.reverse_append, List.reverse_singleton, List.singleton_append]
  unfold okSeq at hs
  have hrev : s = s.reverse.reverse := (List.reverse_reverse s).symm
  generalize hr : s.reverse = sr at hs
  rw [hrev, hr]
  cases sr with
  | nil => simp at hs
  | cons l rest =>
    cases rest with
    | nil =>
      simp [List.isPrefixOf]
    | cons l2 rest2 =>
      simp only [decide_eq_true_eq] at hs
      have hne : l ≠ c := by omega
      have h1 : (l :: l2 :: rest2).isPrefixOf (c :: init.reverse) = false := by
        simp [List.isPrefixOf, hne]
      rw [h1]
      symm
      apply beq_false_of_ne
      intro h
      have := congrArg List.length h
      simp at this

theorem find_eq_singleton (L : List Bytes) (c : Nat) :
    L.find? (fun s => s == [c]) = if L.contains [c] then some [c] else none := by
  induction L with
  | nil => rfl
  | cons s L ih =>
    by_cases h : s = [c]
    · subst h; simp
    · have h1 : (s == [c]) = false := beq_false_of_ne h
      have h2 : ([c] == s) = false := beq_false_of_ne (fun e => h e.symm)
      simp only [List.find?, h1, ih, List.contains_cons, h2, Bool.false_or]

theorem find_suffix_ascii (init : Bytes) (c : Nat) (hc : c < 128) :
    StrU.spaceSeqs.find? (fun s => s.isSuffixOf (init ++ [c])) = if Str.isSpace c then some [c] else none := by
  have h1 : StrU.spaceSeqs.find? (fun s => s.isSuffixOf (init ++ [c])) = StrU.spaceSeqs.find? (fun s => s == [c]) := by
    exact find_congr _ _ _ (fun s hs => isSuffixOf_snoc_ascii s (spaceSeqs_ok s hs) init c hc)
  rw [h1, find_eq_singleton, spaceSeqs_contains_ascii c hc]

theorem isASCII_iff (b : Bytes) : StrU.isASCII b = true ↔ ∀ x ∈ b, x < 128 := by
  simp only [StrU.isASCII, List.all_eq_true, decide_eq_true_eq]

theorem isASCII_of_subset {a b : Bytes} (hs : a ⊆ b) (h : StrU.isASCII b = true) : StrU.isASCII a = true :=
  (isASCII_iff a).mpr fun x hx => (isASCII_iff b).mp h x (hs hx)

theorem trim_subset (b : Bytes) : Str.trim b ⊆ b := (trimBy_sublist Str.isSpace b).subset

theorem trimLeft_ascii : ∀ (fuel : Nat) (b : Bytes), StrU.isASCII b = true → b.length ≤ fuel →
    StrU.trimLeft fuel b = b.dropWhile Str.isSpace := by
  intro fuel
  induction fuel with
  | zero =>
    intro b _ hl
    have : b = [] := List.eq_nil_of_length_eq_zero (Nat.le_zero.mp hl)
    subst this; rfl
  | succ n ih =>
    intro b ha hl
    cases b with
    | nil => rfl
    | cons c cs =>
      have hc := (isASCII_iff _).mp ha c List.mem_cons_self
      have hcs := isASCII_of_subset (List.subset_cons_self c cs) ha
      have hd : StrU.decode (c :: cs) = (c, 1) := by simp [StrU.decode, hc]
      simp only [StrU.trimLeft, hd, isSpaceRune_ascii c hc, List.drop_succ_cons, List.drop_zero]
      by_cases hs : Str.isSpace c = true
      · simp only [hs, List.dropWhile_cons_of_pos]
        simp only [Bool.true_and, Nat.lt_add_one, decide_true, ↓reduceIte]
        exact ih cs hcs (by simpa using hl)
      · simp [hs]

theorem trimRight_ascii : ∀ (fuel : Nat) (b : Bytes), StrU.isASCII b = true → b.length ≤ fuel →
    StrU.trimRight fuel b = (b.reverse.dropWhile Str.isSpace).reverse := by
  intro fuel
  induction fuel with
  | zero =>
    intro b _ hl
    have : b = [] := List.eq_nil_of_length_eq_zero (Nat.le_zero.mp hl)
    subst this; rfl
  | succ n ih =>
    intro b ha hl
    rcases List.eq_nil_or_concat b with hb | ⟨init, c, hb⟩
    · subst hb
      simp only [StrU.trimRight, spaceSeqs_no_suffix_nil]; rfl
    · rw [List.concat_eq_append] at hb
      subst hb
      have hi := isASCII_of_subset (List.subset_append_left init [c]) ha
      have hc := (isASCII_iff _).mp ha c (List.mem_append_right _ List.mem_cons_self)
      simp only [StrU.trimRight, find_suffix_ascii init c hc]
      rw [List.reverse_append, List.reverse_singleton, List.singleton_append]
      by_cases hs : Str.isSpace c = true
      · simp only [hs, ↓reduceIte, List.dropWhile_cons_of_pos]
        have : (init ++ [c]).take ((init ++ [c]).length - [c].length) = init := by simp
        rw [this]
        exact ih init hi (by simp at hl; omega)
      · simp [hs]

theorem trim_ascii (b : Bytes) (h : StrU.isASCII b = true) : StrU.trim b = Str.trim b := by
  unfold StrU.trim Str.trim
  rw [trimLeft_ascii b.length b h (Nat.le_refl _)]
  have hl : (b.dropWhile Str.isSpace).length ≤ b.length := (List.dropWhile_sublist _).length_le
  exact trimRight_ascii b.length _ (isASCII_of_subset (List.dropWhile_sublist _).subset h) hl

theorem strU_apply_ascii (o : Str.SOw) (b : Bytes) (h : StrU.isASCII b = true) : StrU.apply o b = Str.apply o b := by
  cases o with
  | trim => exact trim_ascii b h
  | lower => simp [StrU.apply, Str.apply, StrU.lower, h]
  | upper => simp [StrU.apply, Str.apply, StrU.upper, h]
  | custom k => rfl

theorem apply_ascii_closed (o : Str.SOw) (b : Bytes) (h : StrU.isASCII b = true) : StrU.isASCII (Str.apply o b) = true := by
  cases o with
  | trim => exact isASCII_of_subset (trim_subset b) h
  | lower =>
    rw [isASCII_iff] at h ⊢
    intro x hx
    obtain ⟨y, hy, rfl⟩ := List.mem_map.mp hx
    have := h y hy; unfold Str.lowerByte; split <;> omega
  | upper =>
    rw [isASCII_iff] at h ⊢
    intro x hx
    obtain ⟨y, hy, rfl⟩ := List.mem_map.mp hx
    have := h y hy; unfold Str.upperByte; split <;> omega
  | custom k =>
    have happ : ∀ c, c < 128 → StrU.isASCII (b ++ [c]) = true := fun c hc => by
      rw [isASCII_iff] at h ⊢
      intro x hx
      rcases List.mem_append.mp hx with hx | hx
      · exact h x hx
      · cases List.mem_singleton.mp hx; exact hc
    -- the four custom overwrites: append '!' (33), drop the first byte, reverse, append ' ' (32)
    simp only [Str.apply, Str.customOw]
    split
    · exact happ 33 (by decide)
    · exact isASCII_of_subset (List.drop_subset 1 b) h
    · exact isASCII_of_subset (List.reverse_subset.mpr (List.Subset.refl b)) h
    · exact happ 32 (by decide)

/-- On ASCII input `validatePointer` runs alike in both environments: same predicates, and the overwrites agree on ASCII
    values and keep them ASCII. -/
theorem strU_runOn_ascii (ps pin : Bool) (cs : List (Check Str.SPred Str.SOw)) (v : Bytes) (hv : StrU.isASCII v = true) :
    runChecksOn StrU.env ps pin cs v = runChecksOn Str.env ps pin cs v :=
  C10.runChecksOn_env_congr (env₁ := StrU.env) (env₂ := Str.env) (fun v => StrU.isASCII v = true) rfl
    (fun o v h => ⟨strU_apply_ascii o v h, apply_ascii_closed o v h⟩) ps pin cs v hv

theorem strU_run_ascii (cs : List (Check Str.SPred Str.SOw)) (v : Bytes) (hv : StrU.isASCII v = true) :
    runChecks StrU.env cs v = runChecks Str.env cs v := by
  have := strU_runOn_ascii false false cs v hv
  rwa [C10.runChecksOn_of_no_pass _ _ _ rfl, C10.runChecksOn_of_no_pass _ _ _ rfl] at this

theorem strU_parse_ascii (i : Prim.Internals Str.SPred Str.SOw Bytes) (x : Prim.Input Bytes)
    (hx : match x with | .val v | .ptr v => StrU.isASCII v = true | .foreign => True | _ => False) :
    Prim.parse StrU.env i x = Prim.parse Str.env i x := by
  cases x with
  | nil => exact absurd hx id
  | nilPtr => exact absurd hx id
  | foreign => rfl
  | val v | ptr v => simp only [Prim.parse, Prim.checked, strU_runOn_ascii _ _ _ v hx]

example : StrU.isASCII [32, 65, 98, 32] = true ∧ StrU.trim [32, 65, 98, 32] = [65, 98] := by decide +kernel
-- outside the hypothesis the two models differ (U+0085 NEXT LINE is white space for Go, not for the ASCII model):
example : StrU.trim [0xC2, 0x85, 65] = [65] ∧ Str.trim [0xC2, 0x85, 65] = [0xC2, 0x85, 65] := by decide +kernel

theorem trim_no_space_ends (b : Bytes) :
    (∀ c, (Str.trim b).head? = some c → Str.isSpace c = false) ∧
    (∀ c, (Str.trim b).getLast? = some c → Str.isSpace c = false) :=
  ⟨fun _ => head?_trimBy Str.isSpace, fun _ => getLast?_trimBy Str.isSpace⟩

/-- A trimmed value has no white space to drop at either end. -/
theorem trim_idem (b : Bytes) : Str.trim (Str.trim b) = Str.trim b := trimBy_idem Str.isSpace b

theorem lowerByte_idem (c : Nat) : Str.lowerByte (Str.lowerByte c) = Str.lowerByte c := by
  unfold Str.lowerByte; split <;> (try split) <;> omega

theorem upperByte_idem (c : Nat) : Str.upperByte (Str.upperByte c) = Str.upperByte c := by
  unfold Str.upperByte; split <;> (try split) <;> omega

theorem lower_idem (b : Bytes) : Str.apply .lower (Str.apply .lower b) = Str.apply .lower b := by
  simp [Str.apply, lowerByte_idem]

theorem upper_idem (b : Bytes) : Str.apply .upper (Str.apply .upper b) = Str.apply .upper b := by
  simp [Str.apply, upperByte_idem]

theorem lower_then_lowercase (b : Bytes) : Str.holds .lowercase (Str.apply .lower b) = true := by
  simp only [Str.holds, Str.apply, List.all_map, List.all_eq_true, Function.comp]
  intro x _; unfold Str.lowerByte; split <;> simp <;> omega

theorem upper_then_uppercase (b : Bytes) : Str.holds .uppercase (Str.apply .upper b) = true := by
  simp only [Str.holds, Str.apply, List.all_map, List.all_eq_true, Function.comp]
  intro x _; unfold Str.upperByte; split <;> simp <;> omega

/-- A law of an overwrite of the ASCII model holds of Go's Unicode-aware function on ASCII input. -/
theorem strU_idem_of (o : Str.SOw) (hid : ∀ b, Str.apply o (Str.apply o b) = Str.apply o b) (b : Bytes)
    (h : StrU.isASCII b = true) : StrU.apply o (StrU.apply o b) = StrU.apply o b := by
  rw [strU_apply_ascii o b h, strU_apply_ascii o _ (apply_ascii_closed o b h)]
  exact hid b

theorem strU_trim_idem (b : Bytes) (h : StrU.isASCII b = true) : StrU.trim (StrU.trim b) = StrU.trim b :=
  strU_idem_of .trim trim_idem b h

theorem strU_lower_idem (b : Bytes) (h : StrU.isASCII b = true) : StrU.lower (StrU.lower b) = StrU.lower b :=
  strU_idem_of .lower lower_idem b h

theorem strU_upper_idem (b : Bytes) (h : StrU.isASCII b = true) : StrU.upper (StrU.upper b) = StrU.upper b :=
  strU_idem_of .upper upper_idem b h

example : seenAt Str.env [.overwrite .trim, .pred (.minLen 1) false none, .overwrite .upper] 3 [32, 97, 32] = [65] := by decide

end Gozod.C01
