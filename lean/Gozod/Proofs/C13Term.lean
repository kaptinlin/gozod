/-
  C13 — "gozodgen terminates", over the model of the analyzer's type conversion (`Model/GenTerm.lean`).

  The live analyzer (/repo HEAD, `typesToReflectTypeOn` with the stack of named types): for every environment
  of named types some fuel suffices for `convS` (the statement-by-statement transcription, where termination is not
  built in), and the result is `convV`'s.  The measure: unfolding a named type removes it from `rem` (first component
  drops), every other recursive call is on a proper subterm with the same `rem` (second component drops).
  The driver's `tconv` op renders `convV`'s result and the run compares it with the reflect.Type the real analyzer built
  for the same type graph (hook `GOZODGEN_VERIF_TYPES`).

  Witnesses about `convF`, the analyzer before 65a0069 (nothing executes it): it diverges on
  `type A []A`; on a ranked (acyclic) environment the stack check of the live conversion never fires, so the two
  conversions are the same function of fuel and type.
-/
import Gozod.Model.GenTerm
namespace Gozod.C13
open Gozod.GenTerm

theorem convV_measure_named (rem : List Nat) (n : Nat) (h : n ∈ rem) (u : GT) :
    Prod.Lex (· < ·) (· < ·) (convMeasure (rem.erase n) u) (convMeasure rem (.named n)) := by
  apply Prod.Lex.left
  rw [List.length_erase_of_mem h]
  exact Nat.sub_lt (List.length_pos_of_mem h) (by decide)

theorem convV_measure_child (rem : List Nat) (e k v : GT) :
    Prod.Lex (· < ·) (· < ·) (convMeasure rem e) (convMeasure rem (.pointer e)) ∧
    Prod.Lex (· < ·) (· < ·) (convMeasure rem e) (convMeasure rem (.slice e)) ∧
    Prod.Lex (· < ·) (· < ·) (convMeasure rem e) (convMeasure rem (.array e)) ∧
    Prod.Lex (· < ·) (· < ·) (convMeasure rem k) (convMeasure rem (.map k v)) ∧
    Prod.Lex (· < ·) (· < ·) (convMeasure rem v) (convMeasure rem (.map k v)) := by
  refine ⟨?_, ?_, ?_, ?_, ?_⟩ <;> (apply Prod.Lex.right; simp [GT.size]; try omega)

theorem convS_mono (env : Env) : ∀ (f : Nat) (st : List Nat) (t : GT) (r : RT), convS env f st t = some r → convS env (f + 1) st t = some r
  | 0, st, t, r, h => by simp [convS] at h
  | f + 1, st, t, r, h => by
    cases t with
    | pointer e | slice e | array e =>
      simp only [convS, Option.map_eq_some_iff] at h ⊢
      obtain ⟨a, ha, rfl⟩ := h
      exact ⟨a, convS_mono env f st e a ha, rfl⟩
    | map k v =>
      simp only [convS] at h
      split at h
      · next a b hk hv => cases h; simp [convS, convS_mono env f st k a hk, convS_mono env f st v b hv]
      · cases h
    | named n =>
      simp only [convS] at h ⊢
      by_cases hc : st.contains n = true
      · rw [if_pos hc] at h ⊢; exact h
      · rw [if_neg hc] at h ⊢
        cases hn : env[n]? with
        | none => simpa [hn] using h
        | some u => simp only [hn] at h ⊢; exact convS_mono env f (st ++ [n]) u r h
    | _ => simpa [convS] using h

theorem convS_mono_le (env : Env) (st : List Nat) (t : GT) (r : RT) : ∀ (f g : Nat), f ≤ g → convS env f st t = some r → convS env g st t = some r := by
  intro f g hle
  induction hle with
  | refl => exact id
  | step _ ih => intro h; exact convS_mono env _ st t r (ih h)

/-- how the stack of the Go function and the `rem` of `convV` correspond: `rem` lists, without repetition, exactly the
    named types of the environment that are not on the stack -/
def Inv (env : Env) (rem st : List Nat) : Prop := rem.Nodup ∧ ∀ n, n < env.length → (n ∈ rem ↔ n ∉ st)

theorem inv_step (env : Env) (rem st : List Nat) (n : Nat) (hI : Inv env rem st) : Inv env (rem.erase n) (st ++ [n]) := by
  refine ⟨hI.1.erase n, ?_⟩
  intro m hm
  rw [hI.1.mem_erase_iff]
  constructor
  · rintro ⟨hne, hmem⟩
    intro hin
    rcases List.mem_append.mp hin with h | h
    · exact ((hI.2 m hm).mp hmem) h
    · exact hne (by simpa using h)
  · intro hnot
    have h1 : m ∉ st := fun h => hnot (List.mem_append.mpr (Or.inl h))
    have h2 : m ≠ n := fun h => hnot (List.mem_append.mpr (Or.inr (by simp [h])))
    exact ⟨h2, (hI.2 m hm).mpr h1⟩

/-- by the recursion `convV` itself is defined by -/
theorem convS_complete (env : Env) (rem : List Nat) (t : GT) (st : List Nat) (hI : Inv env rem st) :
    ∃ f, convS env f st t = some (convV env rem t) := by
  match t with
  | .basic | .time | .struct | .iface | .other => exact ⟨1, by simp [convS, convV]⟩
  | .pointer e | .slice e | .array e =>
    obtain ⟨f, hf⟩ := convS_complete env rem e st hI
    exact ⟨f + 1, by simp [convS, convV, hf]⟩
  | .map k v =>
    obtain ⟨fk, hfk⟩ := convS_complete env rem k st hI
    obtain ⟨fv, hfv⟩ := convS_complete env rem v st hI
    have h1 := convS_mono_le env st k _ fk (max fk fv) (Nat.le_max_left _ _) hfk
    have h2 := convS_mono_le env st v _ fv (max fk fv) (Nat.le_max_right _ _) hfv
    exact ⟨max fk fv + 1, by simp [convS, convV, h1, h2]⟩
  | .named n =>
    -- `n ∈ rem` says the name is not on the stack (`Inv`), unless it is no name of the environment at all
    cases hn : env[n]? with
    | none => exact ⟨1, by by_cases h : n ∈ rem <;> by_cases hc : n ∈ st <;> simp [convS, convV, h, hn, hc]⟩
    | some u =>
      have hrem := hI.2 n (List.getElem?_eq_some_iff.mp hn).1
      by_cases h : n ∈ rem
      · obtain ⟨f, hf⟩ := convS_complete env (rem.erase n) u (st ++ [n]) (inv_step env rem st n hI)
        exact ⟨f + 1, by simp [convS, convV, h, hn, hrem.mp h, hf]⟩
      · exact ⟨1, by simp [convS, convV, h, Classical.not_not.mp (mt hrem.mpr h)]⟩
termination_by (rem.length, t.size)
decreasing_by
  · exact (convV_measure_child rem _ .basic .basic).1
  · exact (convV_measure_child rem _ .basic .basic).2.1
  · exact (convV_measure_child rem _ .basic .basic).2.2.1
  · exact (convV_measure_child rem .basic k v).2.2.2.1
  · exact (convV_measure_child rem .basic k v).2.2.2.2
  · exact convV_measure_named rem n h u

theorem inv_init (env : Env) : Inv env (List.range env.length) [] :=
  ⟨List.nodup_range, fun n hn => by simp [hn]⟩

/-- Termination of the live analyzer, the full statement: for every environment of named types (self-referential and
    mutually recursive ones included) and every field type, the conversion as written in /repo HEAD returns
    (a named type met again on the way down has become `any`). -/
theorem c13_term (env : Env) (t : GT) : ∃ f, convS env f [] t = some (convV env (List.range env.length) t) :=
  convS_complete env _ t [] (inv_init env)

theorem c13_term_all (env : Env) : ∀ ts : List GT, ∃ f, ∀ t ∈ ts, convS env f [] t = some (convV env (List.range env.length) t)
  | [] => ⟨0, fun _ h => by cases h⟩
  | t :: ts => by
    obtain ⟨f1, h1⟩ := c13_term env t
    obtain ⟨f2, h2⟩ := c13_term_all env ts
    refine ⟨max f1 f2, fun t' ht' => ?_⟩
    rcases List.mem_cons.mp ht' with rfl | hm
    · exact convS_mono_le env [] _ _ f1 _ (Nat.le_max_left _ _) h1
    · exact convS_mono_le env [] t' _ f2 _ (Nat.le_max_right _ _) (h2 t' hm)

/-- one fuel value serves every field of a program -/
theorem c13_term_prog (p : Prog) : ∃ f, p.fields.map (convS p.env f []) = (analyzeV p).map some := by
  obtain ⟨f, hf⟩ := c13_term_all p.env p.fields
  refine ⟨f, ?_⟩
  unfold analyzeV
  rw [List.map_map]
  exact List.map_congr_left (fun t ht => by simp [hf t ht])

/-- the self-referential types the legacy analyzer diverged on, under the live one: `type A []A` is `[]any`, `type M map[int]M` … -/
example : convV [.slice (.named 0)] [0] (.named 0) = .slice .any := by simp [convV]
example : convS [.slice (.named 0)] 3 [] (.named 0) = some (.slice .any) := by decide
example : convS [.slice (.named 1), .slice (.named 0)] 5 [] (.named 0) = some (.slice (.slice .any)) := by decide
example : convS [.map .basic (.named 0)] 3 [] (.pointer (.named 0)) = none ∧ convS [.map .basic (.named 0)] 4 [] (.pointer (.named 0)) = some (.ptr (.map .basic .any)) := by decide

/-- About the code before 65a0069: the conversion of every type in every environment terminates (false: `c13_term_full_false`). -/
def c13_term_full : Prop := ∀ (env : Env) (t : GT), ∃ f, (convF env f t).isSome

/-- `type A []A` -/
theorem c13_term_diverges : ∀ f, convF [.slice (.named 0)] f (.named 0) = none ∧ convF [.slice (.named 0)] f (.slice (.named 0)) = none
  | 0 => by simp [convF]
  | f + 1 => by
    obtain ⟨h1, h2⟩ := c13_term_diverges f
    constructor
    · simp [convF, h2]
    · simp [convF, h1]

theorem c13_term_full_false : ¬ c13_term_full := by
  intro h
  obtain ⟨f, hf⟩ := h [.slice (.named 0)] (.named 0)
  rw [(c13_term_diverges f).1] at hf
  cases hf

def refsBelow (rank : Nat → Nat) (bound : Nat) : GT → Prop
  | .pointer e | .slice e | .array e => refsBelow rank bound e
  | .map k v => refsBelow rank bound k ∧ refsBelow rank bound v
  | .named n => rank n < bound
  | _ => True

def Ranked (env : Env) (rank : Nat → Nat) : Prop := ∀ n u, env[n]? = some u → refsBelow rank (rank n) u

theorem refsBelow_mono (rank : Nat → Nat) : ∀ (t : GT) (a b : Nat), a ≤ b → refsBelow rank a t → refsBelow rank b t := by
  intro t
  induction t with
  | pointer e ih | slice e ih | array e ih => exact ih
  | map k v ihk ihv => intro a b hab h; exact ⟨ihk a b hab h.1, ihv a b hab h.2⟩
  | named n => intro a b hab h; exact Nat.lt_of_lt_of_le h hab
  | _ => intro _ _ _ _; trivial

/-- every name on the stack ranks above every name the type mentions, so the stack check never fires — the live
    conversion IS the legacy one, fuel for fuel -/
theorem convS_eq_convF (env : Env) (rank : Nat → Nat) (hr : Ranked env rank) :
    ∀ (f : Nat) (st : List Nat) (t : GT), (∀ m ∈ st, refsBelow rank (rank m) t) → convS env f st t = convF env f t
  | 0, _, _, _ => rfl
  | f + 1, st, t, hst => by
    cases t with
    | pointer e | slice e | array e => simp only [convS, convF, convS_eq_convF env rank hr f st e hst]
    | map k v =>
      simp only [convS, convF, convS_eq_convF env rank hr f st k fun m hm => (hst m hm).1,
        convS_eq_convF env rank hr f st v fun m hm => (hst m hm).2]
    | named n =>
      have hn : st.contains n = false := by simpa using fun hm => Nat.lt_irrefl _ (hst n hm)
      simp only [convS, convF, hn, Bool.false_eq_true, if_false]
      cases hu : env[n]? with
      | none => rfl
      | some u =>
        exact convS_eq_convF env rank hr f (st ++ [n]) u fun m hm =>
          (List.mem_append.mp hm).elim (fun h => refsBelow_mono rank u _ _ (Nat.le_of_lt (hst m h)) (hr n u hu))
            (fun h => by rw [List.mem_singleton.mp h]; exact hr n u hu)
    | _ => rfl

/-- 65a0069 changed nothing where the old analyzer terminated normally (ranked = acyclic environments, the circular
    struct graphs of the testdata included). -/
theorem c13_fix_agrees_acyclic (env : Env) (rank : Nat → Nat) (hr : Ranked env rank) (t : GT) :
    ∃ f, convF env f t = some (convV env (List.range env.length) t) := by
  obtain ⟨f, hf⟩ := c13_term env t
  exact ⟨f, convS_eq_convF env rank hr f [] t (fun _ h => nomatch h) ▸ hf⟩

theorem c13_term_acyclic (env : Env) (rank : Nat → Nat) (hr : Ranked env rank) (t : GT) :
    ∃ f, (convF env f t).isSome := by
  obtain ⟨f, hf⟩ := c13_fix_agrees_acyclic env rank hr t
  exact ⟨f, hf ▸ rfl⟩

/-- Circular struct graphs terminate: if every named type of the package is a struct type — whatever its fields
    refer to — every field type is converted, because `Named → Underlying() = *types.Struct` ends in the default case. -/
theorem c13_term_struct_graphs (env : Env) (hs : ∀ u ∈ env, u = .struct) (t : GT) : ∃ f, (convF env f t).isSome := by
  apply c13_term_acyclic env (fun _ => 0)
  intro n u hn
  have := hs u (List.mem_of_getElem? hn)
  subst this
  trivial

-- Node { Next *Node; Children []*Node }, Department ⇄ Employee: three struct types, fields pointing at each other
example : ∃ f, (convF [.struct, .struct, .struct] f (.slice (.pointer (.named 2)))).isSome :=
  c13_term_struct_graphs _ (by simp) _
example : analyzeF ⟨[.struct, .struct, .struct], [.basic, .pointer (.named 0), .slice (.pointer (.named 0)), .pointer (.named 2), .map .basic (.named 1)]⟩ 4 = true := by decide

end Gozod.C13
