/-
  C02 — discriminated union over its OPTION LIST.

  `Cont.buildDiscMap` transcribes `buildDiscriminatorMap` (types/discriminated_union.go): the index is built from
  the discriminator values each option declares; `Cont.parseDUDecl` is `Parse` of the union so constructed
  (construction error → invalid_schema; index lookup; THEN the fallback loop over every option).
  The law `Spec.acceptsDU` is written without an index: an option is selected iff it declares the value.
  `c02_du_law` is the full law: no hypothesis on environment, option list or input.
  The two nested loops of `buildDiscriminatorMap` are one loop over the declaration list `entries os` (`insAll`).
-/
import Gozod.Model.ContainersSpec
import Gozod.Proofs.C02Loops

namespace Gozod.C02
open Gozod.Cont

def entries (os : List DUOpt) : List (Nat × Mid) := os.flatMap (fun o => o.vals.map (fun v => (v, o.m)))

theorem keys_map (m : Mid) (vs : List Nat) : (vs.map (fun v => (v, m))).map (·.1) = vs := by
  simp [List.map_map, Function.comp_def]

theorem keys_entries (os : List DUOpt) : (entries os).map (·.1) = Spec.declaredVals os := by
  simp [entries, Spec.declaredVals, List.map_flatMap, Function.comp_def]

theorem any_key (dm : List (Nat × Mid)) (v : Nat) :
    dm.any (fun e => e.1 == v) = true ↔ v ∈ dm.map (·.1) := by
  simp

def insAll : List (Nat × Mid) → List (Nat × Mid) → Option (List (Nat × Mid))
  | [], dm => some dm
  | e :: es, dm => if dm.any (fun x => x.1 == e.1) then none else insAll es (dm ++ [e])

theorem discInsert_eq (m : Mid) (vs : List Nat) : ∀ dm, discInsert m vs dm = insAll (vs.map fun v => (v, m)) dm := by
  induction vs with
  | nil => intro dm; rfl
  | cons v vs ih => intro dm; simp only [discInsert, List.map_cons, insAll, ih]

theorem insAll_append (a b : List (Nat × Mid)) : ∀ dm, insAll (a ++ b) dm = (insAll a dm).bind (insAll b) := by
  induction a with
  | nil => intro dm; rfl
  | cons e a ih => intro dm; simp only [List.cons_append, insAll, ih]; split <;> rfl

theorem discBuildFrom_eq (os : List DUOpt) : ∀ dm, discBuildFrom os dm = insAll (entries os) dm := by
  induction os with
  | nil => intro dm; rfl
  | cons o os ih =>
    intro dm
    have hent : entries (o :: os) = o.vals.map (fun v => (v, o.m)) ++ entries os := by simp [entries]
    rw [hent, insAll_append, discBuildFrom, discInsert_eq]
    cases insAll (o.vals.map fun v => (v, o.m)) dm <;> simp [ih]

theorem insAll_some (es : List (Nat × Mid)) : ∀ dm dm', insAll es dm = some dm' ↔
    (dm' = dm ++ es ∧ (es.map (·.1)).Nodup ∧ ∀ v ∈ es.map (·.1), v ∉ dm.map (·.1)) := by
  induction es with
  | nil => intro dm dm'; simp [insAll, eq_comm]
  | cons e es ih =>
    intro dm dm'
    unfold insAll
    by_cases h : dm.any (fun x => x.1 == e.1) = true
    · have hm := (any_key dm e.1).1 h
      simp only [h, ↓reduceIte, reduceCtorEq, false_iff]
      exact fun ⟨_, _, h3⟩ => h3 e.1 (List.mem_cons_self ..) hm
    · have hm : e.1 ∉ dm.map (·.1) := fun c => h ((any_key dm e.1).2 c)
      simp only [h, Bool.false_eq_true, ↓reduceIte, ih, List.map_append, List.map_cons, List.map_nil,
        List.append_assoc, List.singleton_append, List.mem_append, not_or, List.nodup_cons,
        List.mem_cons, forall_eq_or_imp]
      constructor
      · rintro ⟨h1, h2, h3⟩
        exact ⟨h1, ⟨fun c => (h3 _ c).2.1 rfl, h2⟩, hm, fun v hv => (h3 v hv).1⟩
      · rintro ⟨h1, ⟨hv, h2⟩, _, h4⟩
        exact ⟨h1, h2, fun v hv' => ⟨h4 v hv', fun c => hv (c ▸ hv'), List.not_mem_nil⟩⟩

theorem discInsert_some (m : Mid) (vs : List Nat) (dm dm' : List (Nat × Mid)) :
    discInsert m vs dm = some dm' ↔
      (dm' = dm ++ vs.map (fun v => (v, m)) ∧ vs.Nodup ∧ ∀ v ∈ vs, v ∉ dm.map (·.1)) := by
  rw [discInsert_eq, insAll_some, keys_map]

theorem discBuildFrom_some (os : List DUOpt) (dm dm' : List (Nat × Mid)) :
    discBuildFrom os dm = some dm' ↔
      (dm' = dm ++ entries os ∧ (Spec.declaredVals os).Nodup ∧ ∀ v ∈ Spec.declaredVals os, v ∉ dm.map (·.1)) := by
  rw [discBuildFrom_eq, insAll_some, keys_entries]

theorem find_map (m : Mid) (vs : List Nat) (id : Nat) :
    (vs.map (fun v => (v, m))).find? (fun e => e.1 == id) = if id ∈ vs then some (id, m) else none := by
  induction vs with
  | nil => rfl
  | cons v vs ih =>
    by_cases hv : v = id
    · simp [hv]
    · simp [hv, Ne.symm hv, ih]

theorem declaring_cons (o : DUOpt) (os : List DUOpt) (id : Nat) :
    Spec.declaring (o :: os) id = if id ∈ o.vals then o.m :: Spec.declaring os id else Spec.declaring os id := by
  by_cases h : id ∈ o.vals <;> simp [Spec.declaring, h]

theorem nodupB_iff (l : List Nat) : Spec.nodupB l = true ↔ l.Nodup := by
  induction l with
  | nil => simp [Spec.nodupB]
  | cons x xs ih => simp [Spec.nodupB, ih, List.nodup_cons]

theorem wellFormedDU_iff (os : List DUOpt) :
    Spec.wellFormedDU os = true ↔ (Spec.declaredVals os).Nodup ∧ Spec.declaredVals os ≠ [] := by
  simp [Spec.wellFormedDU, nodupB_iff]

theorem buildDiscMap_eq (os : List DUOpt) :
    buildDiscMap os = if Spec.wellFormedDU os then some (entries os) else none := by
  unfold buildDiscMap
  rw [discBuildFrom_eq]
  cases h : insAll (entries os) [] with
  | none =>
    rw [if_neg]
    rw [wellFormedDU_iff]
    rintro ⟨hn, -⟩
    have := (insAll_some (entries os) [] (entries os)).2 ⟨by simp, keys_entries os ▸ hn, by simp⟩
    rw [h] at this; cases this
  | some d =>
    obtain ⟨rfl, hn, -⟩ := (insAll_some _ _ _).1 h
    rw [keys_entries] at hn
    rw [List.nil_append]
    -- an index without entries is the second construction error (`len(dm) == 0`)
    cases he : entries os with
    | nil =>
      have : Spec.declaredVals os = [] := by rw [← keys_entries, he]; rfl
      rw [if_neg]; simp [wellFormedDU_iff, this]
    | cons e es =>
      have : Spec.declaredVals os ≠ [] := by rw [← keys_entries, he]; simp
      rw [if_pos ((wellFormedDU_iff os).2 ⟨hn, this⟩)]

theorem buildDiscMap_some (os : List DUOpt) (dm : List (Nat × Mid)) :
    buildDiscMap os = some dm ↔
      (dm = entries os ∧ (Spec.declaredVals os).Nodup ∧ Spec.declaredVals os ≠ []) := by
  rw [buildDiscMap_eq, ← wellFormedDU_iff]
  cases Spec.wellFormedDU os <;> simp [eq_comm]

theorem buildDiscMap_none (os : List DUOpt) : buildDiscMap os = none ↔ Spec.wellFormedDU os = false := by
  rw [buildDiscMap_eq]; cases Spec.wellFormedDU os <;> simp

theorem lookup_entries (os : List DUOpt) (id : Nat) :
    ((entries os).find? (fun e => e.1 == id)).map (·.2) = (Spec.declaring os id).head? := by
  induction os with
  | nil => rfl
  | cons o os ih =>
    have hent : entries (o :: os) = o.vals.map (fun v => (v, o.m)) ++ entries os := by simp [entries]
    rw [hent, List.find?_append]
    rw [find_map, declaring_cons]
    split
    · rfl
    · rw [Option.none_or]; exact ih

theorem lookupDisc_entries (os : List DUOpt) (ty : Ty) (id : Nat) :
    lookupDisc (.atom ty id) (entries os) = (Spec.declaring os id).head? := lookup_entries os id

theorem firstAcc_map (env : Env) (os : List DUOpt) (v : V) :
    firstAcc env (os.map (·.m)) v = os.any (fun o => acc env o.m v) := by
  simp [firstAcc, List.any_map, Function.comp_def]

/-- The full law: every member environment, every option list (indexed, catch-all, without the discriminator field,
    ill-formed) and every input. -/
theorem c02_du_law (env : Env) (m : Mods) (disc : Nat) (os : List DUOpt) (v : V) :
    (parseDUDecl env m disc os v).isOk = Spec.acceptsDU env m disc os v := by
  unfold parseDUDecl Spec.acceptsDU
  rw [buildDiscMap_eq]
  cases Spec.wellFormedDU os with
  | false => rfl
  | true =>
    simp only [↓reduceIte, Bool.true_and, parseDU_isOk]
    congr 1
    split
    · next es =>
      dsimp only
      cases lookupKey disc (es.getD []) with
      | none => rfl
      | some dv =>
        dsimp only
        cases dv with
        | atom ty id =>
          simp only [Spec.decidedBy, lookupDisc_entries, firstAcc_map]
          cases Spec.declaring os id <;> rfl
        | _ => simp only [Spec.decidedBy, lookupDisc, firstAcc_map]
    · next h => split <;> first | rfl | exact absurd rfl (h _)

/-- the bridge to `C02.c02_du` (index given); used by nothing. -/
theorem parseDUDecl_run (cfg : Cfg) (env : Env) (m : Mods) (disc : Nat) (os : List DUOpt) (dm : List (Nat × Mid))
    (v : V) (h : buildDiscMap os = some dm) :
    parseDUDecl env m disc os v = run cfg env (.du m disc dm (os.map (·.m))) v := by
  simp [parseDUDecl, h, run]

/-- also nil on a nilable union: the construction error is answered before anything else. -/
theorem c02_du_illformed (env : Env) (m : Mods) (disc : Nat) (os : List DUOpt) (v : V)
    (h : Spec.wellFormedDU os = false) : (parseDUDecl env m disc os v).isOk = false := by
  rw [c02_du_law]; simp [Spec.acceptsDU, h]

theorem c02_du_selects_one (os : List DUOpt) (id : Nat) (h : Spec.wellFormedDU os = true) :
    (Spec.declaring os id).length ≤ 1 := by
  simp only [Spec.wellFormedDU, Bool.and_eq_true, nodupB_iff] at h
  have hn := h.1
  clear h
  induction os with
  | nil => simp [Spec.declaring]
  | cons o os ih =>
    have hdv : Spec.declaredVals (o :: os) = o.vals ++ Spec.declaredVals os := by simp [Spec.declaredVals]
    rw [hdv, List.nodup_append] at hn
    obtain ⟨_, h2, h3⟩ := hn
    by_cases hmem : id ∈ o.vals
    · have : Spec.declaring os id = [] := by
        simp only [Spec.declaring, List.map_eq_nil_iff, List.filter_eq_nil_iff]
        intro o' ho' hc'
        have hm' : id ∈ o'.vals := by simpa using hc'
        have : id ∈ Spec.declaredVals os := by
          simp only [Spec.declaredVals, List.mem_flatMap]; exact ⟨o', ho', hm'⟩
        exact h3 id hmem id this rfl
      rw [declaring_cons, if_pos hmem, this]; simp
    · rw [declaring_cons, if_neg hmem]; exact ih h2

/-- a catch-all option behind an indexed one is reached through the fallback, and only for values the indexed
    options do not declare. -/
example :
    let env : Env := fun m v => if m = 1 then .ok v else .err (mk .invalidValue []) []
    let os : List DUOpt := [{ m := 0, vals := [7] }, { m := 1, vals := [] }]
    (parseDUDecl env {} 5 os (.map .str .any (some [(.atom .str 5, .atom .str 8)]))).isOk = true
      ∧ (parseDUDecl env {} 5 os (.map .str .any (some [(.atom .str 5, .atom .str 7)]))).isOk = false := by
  decide

end Gozod.C02
