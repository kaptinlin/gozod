/-
  C20 — `Fmt.ipv6Q` / `Fmt.cidrv6Q` (Model/FormatSpecV6E.lean) are the definitions with the octet value `v` kept only up to what the
  automaton can still ask of it (`octNorm`: is it 0; which digits keep it ≤ 255 — nine values instead of 0 … 256).  The driver's
  search for a string on which pattern and definition differ (jobs `ipv6_dot`, `cidrv6_dot` of Drv/C20.lean) runs against these
  smaller automata; `ipv6_octet_quot`, `cidrv6_octet_quot` say that this is a search against the definitions: normalising after
  every step is a quotient map (`sim_run`), by the arithmetic of `octNorm`.  No other theorem uses this file.
-/
import Gozod.Model.FormatSpecV6E
import Gozod.Proofs.C20Run
namespace Gozod.C20
open Gozod Gozod.Fmt

theorem octNorm_spec (v : Nat) : (v ≤ 2 → octNorm v = v) ∧ (3 ≤ v → v ≤ 9 → octNorm v = 3) ∧ (10 ≤ v → v ≤ 24 → octNorm v = 10) ∧
    (v = 25 → octNorm v = 25) ∧ (26 ≤ v → v ≤ 99 → octNorm v = 26) ∧ (100 ≤ v → v ≤ 255 → octNorm v = 100) ∧ (256 ≤ v → octNorm v = 256) := by
  unfold octNorm
  refine ⟨fun h => if_pos h, fun _ h => ?_, fun _ h => ?_, fun h => ?_, fun _ h => ?_, fun _ h => ?_, fun _ => ?_⟩
  · rw [if_neg (by omega), if_pos h]
  · rw [if_neg (by omega), if_neg (by omega), if_pos h]
  · rw [if_neg (by omega), if_neg (by omega), if_neg (by omega), if_pos h]
  · rw [if_neg (by omega), if_neg (by omega), if_neg (by omega), if_neg (by omega), if_pos h]
  · rw [if_neg (by omega), if_neg (by omega), if_neg (by omega), if_neg (by omega), if_neg (by omega), if_pos h]
  · rw [if_neg (by omega), if_neg (by omega), if_neg (by omega), if_neg (by omega), if_neg (by omega), if_neg (by omega)]

theorem octNorm_zero (v : Nat) : octNorm v = 0 ↔ v = 0 := by have := octNorm_spec v; omega

theorem octNorm_le (v : Nat) : octNorm v ≤ 255 ↔ v ≤ 255 := by have := octNorm_spec v; omega

theorem octNorm_big (v : Nat) : octNorm v = 256 ↔ 256 ≤ v := by have := octNorm_spec v; omega

theorem octNorm_fits (v d : Nat) (hd : d ≤ 9) : octNorm v * 10 + d ≤ 255 ↔ v * 10 + d ≤ 255 := by have := octNorm_spec v; omega

/-- one more digit: the class of the new value depends on the class of the old one only -/
theorem octNorm_next (v d : Nat) (hd : d ≤ 9) : octNorm (octNorm v * 10 + d) = octNorm (v * 10 + d) := by
  obtain ⟨h0, h3, h10, h25, h26, h100, h256⟩ := octNorm_spec v
  obtain ⟨_, _, _, _, k26, k100, k256⟩ := octNorm_spec (v * 10 + d)
  have hv : v ≤ 2 ∨ (3 ≤ v ∧ v ≤ 9) ∨ (10 ≤ v ∧ v ≤ 24) ∨ v = 25 ∨ (26 ≤ v ∧ v ≤ 99) ∨ (100 ≤ v ∧ v ≤ 255) ∨ 256 ≤ v := by omega
  rcases hv with h | h | h | h | h | h | h
  · rw [h0 h]
  · rw [h3 h.1 h.2, k26 (by omega) (by omega), (octNorm_spec _).2.2.2.2.1 (by omega) (by omega)]
  · rw [h10 h.1 h.2, k100 (by omega) (by omega), (octNorm_spec _).2.2.2.2.2.1 (by omega) (by omega)]
  · rw [h25 h, h]
  · rw [h26 h.1 h.2, k256 (by omega), (octNorm_spec _).2.2.2.2.2.2 (by omega)]
  · rw [h100 h.1 h.2, k256 (by omega), (octNorm_spec _).2.2.2.2.2.2 (by omega)]
  · rw [h256 h, k256 (by omega), (octNorm_spec _).2.2.2.2.2.2 (by omega)]
theorem octAcc_norm (n v c : Nat) : octNorm (octAcc n (octNorm v) c) = octNorm (octAcc n v c) := by
  unfold octAcc
  by_cases hd : isDigit c = true
  · have hd9 : c - 48 ≤ 9 := digit_le hd
    simp only [hd, Bool.not_true, Bool.false_eq_true, if_false]
    by_cases hn : n = 0
    · simp only [hn, if_true]
    · simp only [hn, if_false]
      have h0 := octNorm_zero v
      have hb := octNorm_big v
      have hf := octNorm_fits v (c - 48) hd9
      by_cases hv : v = 0 ∨ v = 256
      · have hv' : octNorm v = 0 ∨ octNorm v = 256 := by
          rcases hv with h | h
          · exact Or.inl (h0.2 h)
          · exact Or.inr (hb.2 (by omega))
        rw [if_pos hv, if_pos hv']
      · by_cases hbig : 256 ≤ v
        · have hv' : octNorm v = 0 ∨ octNorm v = 256 := Or.inr (hb.2 hbig)
          rw [if_neg hv, if_pos hv']
          have : ¬ v * 10 + (c - 48) ≤ 255 := by omega
          rw [if_neg this]
        · have hv' : ¬ (octNorm v = 0 ∨ octNorm v = 256) := by
            intro h; rcases h with h | h
            · exact hv (Or.inl (h0.1 h))
            · exact hbig (hb.1 h)
          rw [if_neg hv, if_neg hv']
          by_cases hfit : v * 10 + (c - 48) ≤ 255
          · rw [if_pos hfit, if_pos (hf.2 hfit)]; exact octNorm_next v (c - 48) hd9
          · rw [if_neg hfit, if_neg (fun h => hfit (hf.1 h))]
  · simp only [Bool.not_eq_true] at hd
    simp [hd]

theorem digit_norm (q : V6St) (c : Nat) (hph : q.ph = 5) :
    (q.norm.digit c 255).map V6St.norm = (q.digit c 255).map V6St.norm := by
  obtain ⟨ph, g, ell, n, v, k⟩ := q
  simp only at hph; subst hph
  simp only [V6St.norm, V6St.digit, or_true, if_true]
  by_cases hd : isDigit c = true
  · have hd9 : c - 48 ≤ 9 := digit_le hd
    simp only [hd, Bool.not_true, Bool.false_eq_true, if_false]
    by_cases hn : n = 0
    · simp only [hn, if_true]
    · simp only [hn, if_false]
      by_cases hv : v = 0
      · rw [if_pos hv, if_pos ((octNorm_zero v).2 hv)]
      · rw [if_neg hv, if_neg (fun h => hv ((octNorm_zero v).1 h))]
        by_cases hfit : v * 10 + (c - 48) ≤ 255
        · rw [if_pos hfit, if_pos ((octNorm_fits v _ hd9).2 hfit)]
          simp [Option.map, V6St.norm, octNorm_next v (c - 48) hd9]
        · rw [if_neg hfit, if_neg (fun h => hfit ((octNorm_fits v _ hd9).1 h))]
  · simp only [Bool.not_eq_true] at hd
    simp [hd]

theorem ipv6Step_norm (q : V6St) (c : Nat) : (ipv6Step q.norm c).map V6St.norm = (ipv6Step q c).map V6St.norm := by
  by_cases h5 : q.ph = 5
  · have hn : q.norm.ph = 5 := by simp [V6St.norm, h5]
    by_cases hc : c = 46
    · obtain ⟨ph, g, ell, n, v, k⟩ := q
      simp only at h5; subst h5
      simp [ipv6Step, ipv6StepG, V6St.norm, hc]
    · have e1 : ipv6Step q.norm c = q.norm.digit c 255 := by simp [ipv6Step, ipv6StepG, hn, hc]
      have e2 : ipv6Step q c = q.digit c 255 := by simp [ipv6Step, ipv6StepG, h5, hc]
      rw [e1, e2]; exact digit_norm q c h5
  · by_cases h3 : q.ph = 3
    · obtain ⟨ph, g, ell, n, v, k⟩ := q
      simp only at h3; subst h3
      have hle := octNorm_le v
      simp only [ipv6Step, ipv6StepG, V6St.norm, true_or, if_true, V6St.start]
      by_cases h58 : c = 58
      · simp [h58]
      · by_cases h46 : c = 46
        · by_cases hv : v ≤ 255
          · simp [h46, hv, hle.2 hv]
          · have : ¬ octNorm v ≤ 255 := fun h => hv (hle.1 h)
            simp [h46, hv, this]
        · by_cases hx : isHex c = true
          · by_cases hn : n < 4
            · by_cases hq : quadMayStart g ell = true
              · simp [h58, h46, hx, hn, hq, Option.map, V6St.norm, octAcc_norm]
              · simp [h58, h46, hx, hn, hq, Option.map, V6St.norm]
            · simp [h58, h46, hx, hn]
          · simp [h58, h46, hx]
    · have : q.norm = q := by simp [V6St.norm, h3, h5]
      rw [this]

theorem ipv6Acc_norm (q : V6St) : ipv6Acc q.norm = ipv6Acc q := by
  obtain ⟨ph, g, ell, n, v, k⟩ := q
  simp only [V6St.norm]; split <;> rfl

theorem ipv6_octet_quot : ∀ s, ipv6.run s = ipv6Q.run s :=
  sim_run ipv6 ipv6Q V6St.norm rfl rfl (fun q c => (ipv6Step_norm q c).symm) (fun q => (ipv6Acc_norm q).symm)

theorem cidrv6Step_norm (q : V6St) (c : Nat) : (cidrv6Step q.norm c).map V6St.norm = (cidrv6Step q c).map V6St.norm := by
  by_cases h6 : q.ph = 6
  · have : q.norm = q := by simp [V6St.norm, h6]
    rw [this]
  · have hn : q.norm.ph = q.ph := by
      obtain ⟨ph, g, ell, n, v, k⟩ := q
      simp only [V6St.norm]; split <;> rfl
    have hn6 : ¬ q.norm.ph = 6 := by rw [hn]; exact h6
    by_cases hc : c = 47
    · simp only [cidrv6Step, cidrv6StepG, if_neg h6, if_neg hn6, hc, if_true, ipv6Acc_norm]
    · simp only [cidrv6Step, cidrv6StepG, if_neg h6, if_neg hn6, if_neg hc]
      exact ipv6Step_norm q c

theorem cidrv6_octet_quot : ∀ s, cidrv6.run s = cidrv6Q.run s :=
  sim_run cidrv6 cidrv6Q V6St.norm rfl rfl (fun q c => (cidrv6Step_norm q c).symm) (fun q => by
    obtain ⟨ph, g, ell, n, v, k⟩ := q
    simp only [cidrv6Q, cidrv6, V6St.norm]; split <;> rfl)

end Gozod.C20
