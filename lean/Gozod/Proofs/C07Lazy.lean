/-
  C07 over `X` (Model/JsonSchemaLazy.lean): a base schema, a `Lazy` around one, an object after any history of Partial /
  Required calls (`objF`: the object lemmas of Proofs/C07.lean at the rule `fieldOpt`), a `Map` (`mapOf`: the Record node);
  `eqvX` / `presX` / `wfX` lift the three inductions of C07 and C07Wf.  Then `isFieldOptional` after any call history
  (`fieldOpt_*`) and the converter that ignored it (`toDocL`).  Among the witnesses for what `reprX` excludes the weighty one
  is `lazy-typed-inner-unvalidated`: a Lazy whose inner schema's Go `Parse` result type `(*schemaWrapper).Parse` does not
  know (object, slice, array, tuple, record, sized integer, …) validates NOTHING, while its document is the inner schema's.
-/
import Gozod.Proofs.C07Wf
namespace Gozod.C07
open Gozod.Jsc

/-- FALSE on /repo HEAD (`c07_lazy_full_false`). -/
def c07_lazy_full : Prop :=
  ∀ (x : X) (v : Json),
    (∀ r, parseX x v = some r → jsValid (toDocX x) r = true)
    ∧ (jsValid (toDocX x) v = true → (parseX x v).isSome = true)

/-! ### `X.objF`: objects with a Partial / Required call history

Their document is `objNode` with the `required` list of `fieldOpt`, so the object lemmas of Proofs/C07.lean apply. -/

theorem objF_equiv (mode : Mode) (ca : SOpt) (ops : List ObjOp) (cks : List SzCk) (shape : Shape) (top : Bool) (v : Json)
    (h : reprX top (.objF mode ca ops cks shape) = true) (hv : instOK v = true) :
    jsValid (toJSX top (.objF mode ca ops cks shape)) v = acceptsX (.objF mode ca ops cks shape) v := by
  simp only [reprX, Bool.and_eq_true, Bool.not_eq_true'] at h
  obtain ⟨⟨⟨⟨hm, hsc⟩, hsz⟩, hca⟩, hsh⟩ := h
  cases v with
  | obj fs =>
    refine (objNode_shape _ shape _ cks fs hsz hsh hv).trans ?_
    rw [eqvCa ca hca _ _ fs hv]
    cases mode with
    | strip => cases hm
    | strict =>
      cases ca with
      | some c => cases hsc
      | none => rfl
    | loose => cases ca <;> rfl
  | _ => exact objNode_wrongType _ _ _ _ _ rfl

theorem objF_sound_strip (ca : SOpt) (ops : List ObjOp) (cks : List SzCk) (shape : Shape) (v : Json)
    (hsz : szSimple cks = true) (hsh : reprShape shape = true)
    (hv : instOK v = true) (ha : acceptsX (.objF .strip ca ops cks shape) v = true) :
    jsValid (toDocX (.objF .strip ca ops cks shape)) (outX (.objF .strip ca ops cks shape) v) = true := by
  cases v with
  | obj fs => exact strip_sound _ ca cks shape fs hsz hsh hv ha
  | _ => cases ha

theorem objF_complete_strip (ca : SOpt) (ops : List ObjOp) (cks : List SzCk) (shape : Shape) (v : Json)
    (hsz : szSimple cks = true) (hcs : (!ca.isSome || cks.isEmpty) = true) (hca : reprCa ca = true) (hsh : reprShape shape = true)
    (hv : instOK v = true) (hd : jsValid (toDocX (.objF .strip ca ops cks shape)) v = true) :
    acceptsX (.objF .strip ca ops cks shape) v = true := by
  cases v with
  | obj fs => exact strip_complete _ ca cks shape fs hsz hcs hca hsh hv hd
  | _ => rw [toDocX, toJSX, ← objNode, objNode_wrongType _ _ _ _ _ rfl] at hd; cases hd

theorem reprX_mapOf {top : Bool} {kcks : List StrCk} {val : S} {cks : List SzCk}
    (h : reprX top (.mapOf kcks val cks) = true) : reprP top (.record (.str kcks) val cks) = true := h

/-- with key checks the document is the Record document (`propertyNames`); without them `propertyNames` is left out. -/
theorem mapOf_equiv (kcks : List StrCk) (val : S) (cks : List SzCk) (top : Bool) (v : Json)
    (h : reprX top (.mapOf kcks val cks) = true) (hv : instOK v = true) :
    jsValid (toJSX top (.mapOf kcks val cks)) v = acceptsX (.mapOf kcks val cks) v := by
  cases kcks with
  | cons c cs => exact eqv (.record (.str (c :: cs)) val cks) top false false v (reprX_mapOf h) hv
  | nil =>
    simp only [reprX, Bool.and_eq_true] at h
    exact recordNode_equiv (jk := none) (kcks := []) (hk := fun _ _ => rfl) (hv := fun w => eqv val false false false w h.2)
      cks h.1.2 v hv

theorem eqvX : (x : X) → (top : Bool) → (v : Json) → reprX top x = true → instOK v = true →
    jsValid (toJSX top x) v = acceptsX x v
  | .base s, top, v, h, hv => eqv s top false false v h hv
  | .lazy o n x, top, v, h, hv => by
    simp only [reprX, Bool.and_eq_true] at h
    obtain ⟨⟨hc, hr⟩, hn⟩ := h
    have ih := eqvX x false v hr hv
    -- the document is the inner one, in `anyOf [_, null]` when Nilable; Parse answers nil itself (`o || n`), else asks
    -- the inner schema (`hc`).  Not Nilable: `reprX` demands that neither the lazy (`!o`) nor the inner schema accepts nil
    cases n with
    | true =>
      by_cases hnull : v.isNull = true
      · simp [toJSX, acceptsX, anyOf_null, hnull]
      · simp [toJSX, acceptsX, anyOf_null, hnull, hc, ih]
    | false =>
      simp only [Bool.false_eq_true, if_false, Bool.and_eq_true, Bool.not_eq_true'] at hn
      by_cases hnull : v.isNull = true
      · have hv0 : v = .null := (isNull_iff v).1 hnull
        subst hv0
        simp [toJSX, acceptsX, Json.isNull, ih, hn.1, hn.2]
      · simp [toJSX, acceptsX, hnull, hc, ih]
  | .objF mode ca ops cks shape, top, v, h, hv => objF_equiv mode ca ops cks shape top v h hv
  | .mapOf kcks val cks, top, v, h, hv => mapOf_equiv kcks val cks top v h hv

theorem presX : (x : X) → (top : Bool) → (v : Json) → reprX top x = true → acceptsX x v = true → outX x v = v
  | .base s, top, v, h, ha => pres s top v h ha
  | .lazy o n x, top, v, h, ha => by
    simp only [reprX, Bool.and_eq_true] at h
    obtain ⟨⟨hc, hr⟩, _⟩ := h
    by_cases hnull : v.isNull = true
    · simp [outX, hnull]
    · have ha' : acceptsX x v = true := by simpa [acceptsX, hnull, hc] using ha
      simp [outX, hnull, hc, presX x false v hr ha']
  | .objF mode ca ops cks shape, top, v, h, ha => by
    cases mode with
    | strip => simp [reprX, Mode.isStrip] at h
    | _ => cases v <;> rfl
  | .mapOf _ _ _, _, _, _, _ => rfl

theorem c07_lazy_equiv_partial (x : X) (v : Json) (h : reprX true x = true) (hv : instOK v = true) :
    jsValid (toDocX x) v = acceptsX x v := eqvX x true v h hv

theorem c07_lazy_sound (x : X) (v r : Json) (h : reprX true x = true) (hv : instOK v = true)
    (hp : parseX x v = some r) : jsValid (toDocX x) r = true := by
  unfold parseX at hp
  split at hp
  · rename_i ha
    cases hp
    rw [presX x true v h ha, toDocX, eqvX x true v h hv, ha]
  · simp at hp

theorem c07_lazy_complete (x : X) (v : Json) (h : reprX true x = true) (hv : instOK v = true)
    (hd : jsValid (toDocX x) v = true) : (parseX x v).isSome = true := by
  have ha : acceptsX x v = true := by rw [← eqvX x true v h hv]; exact hd
  simp [parseX, ha]

theorem wfX : (x : X) → (top : Bool) → reprX top x = true → wfJS (toJSX top x) = true
  | .base s, top, h => wf s top false false h
  | .lazy o n x, top, h => by
    simp only [reprX, Bool.and_eq_true] at h
    have ih := wfX x false h.1.2
    rw [toJSX]
    split
    · exact anyOfNull_wf false _ ih
    · exact ih
  | .objF mode ca ops cks shape, top, h => by
    simp only [reprX, Bool.and_eq_true] at h
    refine objNode_wf false _ shape _ cks (wfShape shape h.2) ?_ rfl rfl
    cases ca with
    | none => rfl
    | some c => exact wf c false false false h.1.2
  | .mapOf kcks val cks, top, h => by
    cases kcks with
    | cons c cs =>
      exact wf (.record (.str (c :: cs)) val cks) top false false (reprX_mapOf h)
    | nil =>
      simp only [reprX, Bool.and_eq_true] at h
      have hv : wfB false (toJS false false false val) = true := wf val false false false h.2
      show wfB false (toJSX top (.mapOf [] val cks)) = true
      simp only [toJSX, List.isEmpty_nil, if_true, wfB_node, List.all_append, List.all_cons, List.all_nil, wfBKw_eq, hv,
        propsKws_wf, Bool.and_true]

theorem c07_lazy_wellformed (x : X) (h : reprX true x = true) : wfJS (toDocX x) = true := wfX x true h

theorem reprXTop_cases (x : X) (h : reprXTop x = true) :
    reprX true x = true ∨ (∃ s, x = .base s ∧ reprTop true s = true)
    ∨ ∃ ca ops cks shape, x = .objF .strip ca ops cks shape
        ∧ szSimple cks = true ∧ (!ca.isSome || cks.isEmpty) = true ∧ reprCa ca = true ∧ reprShape shape = true := by
  cases x with
  | base s => exact .inr (.inl ⟨s, rfl, h⟩)
  | objF mode ca ops cks shape =>
    cases mode with
    | strip =>
      simp only [reprXTop, Bool.and_eq_true] at h
      exact .inr (.inr ⟨ca, ops, cks, shape, rfl, h.1.1.1, h.1.1.2, h.1.2, h.2⟩)
    | _ => exact .inl h
  | _ => exact .inl h

/-- as `c07_lazy_sound` / `_complete` (every `X`, Lazy or not), with a strip-mode object at the root admitted (`reprXTop`). -/
theorem c07_x_sound (x : X) (v r : Json) (h : reprXTop x = true) (hv : instOK v = true)
    (hp : parseX x v = some r) : jsValid (toDocX x) r = true := by
  obtain h | ⟨s, rfl, h⟩ | ⟨ca, ops, cks, shape, rfl, hsz, _, _, hsh⟩ := reprXTop_cases x h
  · exact c07_lazy_sound x v r h hv hp
  · exact c07_sound s v r h hv hp
  · unfold parseX at hp
    split at hp
    · rename_i ha; cases hp; exact objF_sound_strip ca ops cks shape v hsz hsh hv ha
    · cases hp

theorem c07_x_complete (x : X) (v : Json) (h : reprXTop x = true) (hv : instOK v = true)
    (hd : jsValid (toDocX x) v = true) : (parseX x v).isSome = true := by
  obtain h | ⟨s, rfl, h⟩ | ⟨ca, ops, cks, shape, rfl, hsz, hcs, hca, hsh⟩ := reprXTop_cases x h
  · exact c07_lazy_complete x v h hv hd
  · exact c07_complete s v h hv hd
  · rw [parseX, objF_complete_strip ca ops cks shape v hsz hcs hca hsh hv hd]; rfl

/-- `Object{a: String(), b: String().Optional()}` after `Required([]string{"b"})`, `Partial()`, `Required()`,
    `Partial([]string{"a"})` is in the fragment; the instance misses a field. -/
example : reprXTop (.objF .strip .none [.req [[98]], .part [], .req [], .part [[97]]] [.min 1]
      (.cons [97] (.str [.min 2]) (.cons [98] (.opt (.nul (.str []))) .nil))) = true
    ∧ instOK (.obj (.cons [98] (.str [109]) .nil)) = true := by decide +kernel

/-! ### `isFieldOptional` after any call history

The documented meaning of `(*ZodObject).Partial` and `Required`, on their transcription, for EVERY earlier history `ops`. -/

theorem objSt_snoc (names : List Str) (ops : List ObjOp) (op : ObjOp) :
    objSt names (ops ++ [op]) = (objSt names ops).step names op := by
  simp [objSt, List.foldl_append]

theorem fieldOpt_no_calls (names : List Str) (k : Str) (s : S) : (objSt names []).fieldOpt k s = s.isOpt := by
  simp [objSt, ObjSt.fieldOpt]

/-- `Required()`. -/
theorem fieldOpt_required_all (names : List Str) (ops : List ObjOp) (k : Str) (s : S) (hk : k ∈ names) :
    (objSt names (ops ++ [.req []])).fieldOpt k s = false := by
  simp [objSt_snoc, ObjSt.step, ObjSt.fieldOpt, hk]

theorem fieldOpt_required_keys (names : List Str) (ops : List ObjOp) (keys : List Str) (k : Str) (s : S)
    (hk : k ∈ keys) : (objSt names (ops ++ [.req keys])).fieldOpt k s = false := by
  have hne : keys.isEmpty = false := by cases keys <;> simp_all
  simp [objSt_snoc, ObjSt.step, ObjSt.fieldOpt, hk, hne]

theorem fieldOpt_required_keys_frame (names : List Str) (ops : List ObjOp) (keys : List Str) (k : Str) (s : S)
    (hne : keys ≠ []) (hk : k ∉ keys) :
    (objSt names (ops ++ [.req keys])).fieldOpt k s = (objSt names ops).fieldOpt k s := by
  have hne' : keys.isEmpty = false := by cases keys <;> simp_all
  simp [objSt_snoc, ObjSt.step, ObjSt.fieldOpt, hk, hne']

/-- `Partial()`; overrides an earlier Required. -/
theorem fieldOpt_partial_all (names : List Str) (ops : List ObjOp) (k : Str) (s : S) :
    (objSt names (ops ++ [.part []])).fieldOpt k s = true := by
  simp [objSt_snoc, ObjSt.step, ObjSt.fieldOpt]

theorem fieldOpt_partial_keys (names : List Str) (ops : List ObjOp) (keys : List Str) (k : Str) (s : S)
    (hk : k ∈ keys) : (objSt names (ops ++ [.part keys])).fieldOpt k s = true := by
  have hne : keys.isEmpty = false := by cases keys <;> simp_all
  simp [objSt_snoc, ObjSt.step, ObjSt.fieldOpt, hk, hne]

/-! ### the converter before the fixes C07-object-optionality and C07-map-key-schema (`toDocL eo em`) -/

mutual
theorem erasePart_id : (s : S) → noPart s = true → erasePart s = s
  | .opt s, h => by rw [erasePart, erasePart_id s h]
  | .nul s, h => by rw [erasePart, erasePart_id s h]
  | .obj m ca part cks sh, h => by
    simp only [noPart, Bool.and_eq_true, Bool.not_eq_true'] at h
    rw [erasePart, erasePartO_id ca h.1.2, erasePartSh_id sh h.2, h.1.1]
  | .slice e cks, h => by rw [erasePart, erasePart_id e h]
  | .arr r cks items, h => by
    simp only [noPart, Bool.and_eq_true] at h
    rw [erasePart, erasePartO_id r h.1, erasePartL_id items h.2]
  | .tup r cks items, h => by
    simp only [noPart, Bool.and_eq_true] at h
    rw [erasePart, erasePartO_id r h.1, erasePartL_id items h.2]
  | .record k v cks, h => by
    simp only [noPart, Bool.and_eq_true] at h
    rw [erasePart, erasePart_id k h.1, erasePart_id v h.2]
  | .union ms, h => by rw [erasePart, erasePartL_id ms h]
  | .xor ms, h => by rw [erasePart, erasePartL_id ms h]
  | .and l r, h => by
    simp only [noPart, Bool.and_eq_true] at h
    rw [erasePart, erasePart_id l h.1, erasePart_id r h.2]
  | .str _, _ => rfl
  | .int _ _, _ => rfl
  | .flt _, _ => rfl
  | .bool, _ => rfl
  | .nil, _ => rfl
  | .any, _ => rfl
  | .never, _ => rfl
  | .enum _, _ => rfl
  | .lit _, _ => rfl
theorem erasePartO_id : (o : SOpt) → noPartO o = true → erasePartO o = o
  | .none, _ => rfl
  | .some s, h => by rw [erasePartO, erasePart_id s h]
theorem erasePartL_id : (l : SList) → noPartL l = true → erasePartL l = l
  | .nil, _ => rfl
  | .cons s ss, h => by
    simp only [noPartL, Bool.and_eq_true] at h
    rw [erasePartL, erasePart_id s h.1, erasePartL_id ss h.2]
theorem erasePartSh_id : (sh : Shape) → noPartSh sh = true → erasePartSh sh = sh
  | .nil, _ => rfl
  | .cons k s r, h => by
    simp only [noPartSh, Bool.and_eq_true] at h
    rw [erasePartSh, erasePart_id s h.1, erasePartSh_id r h.2]
end

/-- where the erased state changes nothing, the old converter emitted the fixed one's document. -/
theorem erase_same (eo em : Bool) : ∀ (x : X) (top : Bool), legacyOK eo em x = true → toJSX top (eraseX eo em x) = toJSX top x := by
  intro x
  induction x with
  | base s =>
    intro top h
    cases eo with
    | false => simp [eraseX]
    | true => simp only [eraseX, if_true]; rw [erasePart_id s (by simpa [legacyOK] using h)]
  | lazy o n x ih => intro top h; simp only [eraseX, toJSX]; rw [ih false (by simpa [legacyOK] using h)]
  | objF m ca ops cks sh =>
    intro top h
    cases eo with
    | false => simp [eraseX]
    | true =>
      simp only [legacyOK, Bool.not_true, Bool.false_or, Bool.and_eq_true, decide_eq_true_eq] at h
      simp only [eraseX, if_true, toJSX, toJS]
      rw [erasePartO_id ca h.1.1, erasePartSh_id sh h.1.2, h.2, reqKeysP_false]
  | mapOf kcks val cks =>
    intro top h
    simp only [legacyOK, Bool.and_eq_true] at h
    have hk : (if em = true then [] else kcks) = kcks := by
      cases em with
      | false => rfl
      | true => have := h.1; simp at this; simp [this]
    have hv : (if eo = true then erasePart val else val) = val := by
      cases eo with
      | false => rfl
      | true => have := h.2; simp at this; simp [erasePart_id val this]
    simp only [eraseX, hk, hv]

theorem legacy_same_doc (eo em : Bool) (x : X) (h : legacyOK eo em x = true) : toDocL eo em x = toDocX x :=
  erase_same eo em x true h

theorem c07_legacy_sound (eo em : Bool) (x : X) (v r : Json) (hl : legacyOK eo em x = true) (h : reprXTop x = true)
    (hv : instOK v = true) (hp : parseX x v = some r) : jsValid (toDocL eo em x) r = true := by
  rw [legacy_same_doc eo em x hl]; exact c07_x_sound x v r h hv hp

theorem c07_legacy_complete (eo em : Bool) (x : X) (v : Json) (hl : legacyOK eo em x = true) (h : reprXTop x = true)
    (hv : instOK v = true) (hd : jsValid (toDocL eo em x) v = true) : (parseX x v).isSome = true := by
  rw [legacy_same_doc eo em x hl] at hd; exact c07_x_complete x v h hv hd

/-- `Map(String().Min(2), Int())`: Parse rejects `{"a": 1}`; `convertMap` before the fix C07-map-key-schema dropped the
    key schema, so it validates (complete broken); the fixed document has `propertyNames: {minLength: 2}`. -/
theorem witness_map_key_dropped :
    let x : X := .mapOf [.min 2] (.int .int []) []
    let v : Json := .obj (.cons [97] (.num 4) .nil)
    jsValid (toDocL false true x) v = true ∧ acceptsX x v = false ∧ jsValid (toDocX x) v = false := by decide +kernel

/-- `Object{a: String()}.Partial()`: Parse accepts `{}`, the old document says `required:["a"]` (sound broken); the fixed
    document admits it. -/
theorem witness_partial_required :
    let x : X := .base (.obj .strip .none true [] (.cons [97] (.str []) .nil))
    acceptsX x (.obj .nil) = true ∧ jsValid (toDocLegacy x) (outX x (.obj .nil)) = false
      ∧ jsValid (toDocX x) (outX x (.obj .nil)) = true := by decide +kernel

/-- `Object{b: String().Optional()}.Required()` (types/object.go after 75cf747): Parse rejects `{}`, the old document does
    not require `b` (complete broken); the fixed document requires it. -/
theorem witness_required_keeps_optional :
    let x : X := .objF .strip .none [.req []] [] (.cons [98] (.opt (.str [])) .nil)
    jsValid (toDocLegacy x) (.obj .nil) = true ∧ acceptsX x (.obj .nil) = false ∧ jsValid (toDocX x) (.obj .nil) = false := by
  decide +kernel

theorem witness_partial_keys :
    let x : X := .objF .strict .none [.part [[97]]] [] (.cons [97] (.str []) (.cons [99] .bool .nil))
    let v : Json := .obj (.cons [99] (.bool true) .nil)
    acceptsX x v = true ∧ jsValid (toDocLegacy x) (outX x v) = false ∧ jsValid (toDocX x) (outX x v) = true := by
  decide +kernel

/-- the hypotheses are inhabited: Lazy over a union, Nilable, nested in another Lazy. -/
example : reprX true (.lazy false true (.lazy false false (.base (.union (.cons (.str [.min 2]) (.cons (.int .int [.gte 0]) .nil)))))) = true
    ∧ instOK (.str [109, 109]) = true := by decide +kernel

def IncompleteX (x : X) (v : Json) : Prop := jsValid (toDocX x) v = true ∧ acceptsX x v = false
def UnsoundX (x : X) (v : Json) : Prop := acceptsX x v = true ∧ jsValid (toDocX x) (outX x v) = false
instance (x : X) (v : Json) : Decidable (IncompleteX x v) := by unfold IncompleteX; infer_instance
instance (x : X) (v : Json) : Decidable (UnsoundX x v) := by unfold UnsoundX; infer_instance

/-- `Lazy(func() { return StrictObject({a: String()}) })` accepts the string "x", the number 3 and `{a: 1}`;
    `Lazy(Int8())` accepts "x"; `Lazy(Slice(Bool()))` accepts `[1]` — none validates against the emitted document. -/
theorem witness_lazy_typed_inner_unvalidated :
    UnsoundX (.lazy false false (.base (.obj .strict .none false [] (.cons [97] (.str []) .nil)))) (.str [120])
    ∧ UnsoundX (.lazy false false (.base (.obj .strict .none false [] (.cons [97] (.str []) .nil)))) (o1 [97] (.num 4))
    ∧ UnsoundX (.lazy false false (.base (.int .i8 []))) (.str [120])
    ∧ UnsoundX (.lazy false false (.base (.slice .bool []))) (.arr (.cons (.num 4) .nil))
    ∧ UnsoundX (.lazy false false (.lazy true false (.base (.str [.min 2])))) (.num 4) := by decide +kernel

/-- a plain `.Optional()` lazy accepts null (document: the inner schema's); a lazy over a Nilable schema rejects null
    (validateLazy's nil test precedes the inner schema), the document admits it. -/
theorem witness_lazy_null :
    UnsoundX (.lazy true false (.base (.str []))) .null
    ∧ IncompleteX (.lazy false false (.base (.nul (.str [])))) .null := by decide +kernel

theorem c07_lazy_full_false : ¬ c07_lazy_full := fun h => by
  have ⟨ha, hv⟩ := witness_lazy_typed_inner_unvalidated.2.2.1
  have hr := (h _ _).1 _ (by rw [parseX, ha]; rfl)
  rw [hv] at hr
  cases hr

end Gozod.C07
