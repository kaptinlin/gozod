/-
  C13 — witnesses on /repo HEAD (kept apart: they stop checking when the library is repaired,
  which is reported as "finding no longer reproduces", not as a violation).
  Each witness is named by its input (field type and rules of the cell, source text of the row), so that the kernel
  evaluates the two schemas on that cell only.
-/
import Gozod.Proofs.C13
import Gozod.Proofs.C13Typed
namespace Gozod.C13W
open Gozod.Tags Gozod.GenChain Gozod.Gen Gozod.GenSem Gozod.C13

/-- the cell compiles, its chain is judged on every probe, and some verdict is not FromStruct's -/
def differs (x : Block × GenBlock) (rc : (List TRule × List Bool) × GenCell) : Bool :=
  rc.2.status == .ok &&
  (match emitCell x.1.fty rc.2.rules with
   | some ch => (x.1.probes.map (denoteChain ch)).all Option.isSome && decide (x.1.probes.map (denoteChain ch) ≠ rc.1.2.map some)
   | none => false)

theorem exists_cell {p : Block × GenBlock → (List TRule × List Bool) × GenCell → Prop} (t : FTy) (rs : List TRule)
    (h : ∃ x ∈ zipTables, ∃ rc ∈ rowsOf x, (x.1.fty = t ∧ rc.2.rules = rs) ∧ p x rc) : ∃ x ∈ zipTables, ∃ rc ∈ rowsOf x, p x rc :=
  let ⟨x, hx, rc, hrc, _, hp⟩ := h
  ⟨x, hx, rc, hrc, hp⟩

theorem c13_equiv_full_false : ¬ c13_equiv_full := by
  intro h
  obtain ⟨x, hx, rc, hrc, hd⟩ : ∃ x ∈ zipTables, ∃ rc ∈ rowsOf x, differs x rc = true :=
    exists_cell ⟨false, .string⟩ [.url, .uuid] (by decide +kernel)
  simp only [differs, Bool.and_eq_true, beq_iff_eq] at hd
  obtain ⟨ch, he, hv⟩ := h x hx rc hrc hd.1
  rw [he] at hd
  simp only [Bool.and_eq_true, decide_eq_true_eq] at hd
  exact hd.2.2 hv

/-- each excluded class is inhabited by a cell on which the two schemas really differ, the other classes absent:
    F string `url,uuid`; F uint64 `min=18446744073709551615` (`refKnown` is empty) -/
theorem c13_class_witnesses :
    (∃ x ∈ zipTables, ∃ rc ∈ rowsOf x, differs x rc = true ∧ secondFormat x.1.fty rc.2.rules = true ∧ refKnown x.1.fty rc.2.rules = false ∧ boundBeyondInt64 x.1.fty rc.2.rules = false) ∧
    (∃ x ∈ zipTables, ∃ rc ∈ rowsOf x, differs x rc = true ∧ boundBeyondInt64 x.1.fty rc.2.rules = true ∧ refKnown x.1.fty rc.2.rules = false ∧ secondFormat x.1.fty rc.2.rules = false) :=
  ⟨exists_cell ⟨false, .string⟩ [.url, .uuid] (by decide +kernel),
   exists_cell ⟨false, .uint64⟩ [.min 18446744073709551615] (by decide +kernel)⟩

/-- a row of the kind × tag table for each listed class: `F *S` and `F []S` in `type S struct` -/
theorem open_class_rows : ∀ c ∈ Gozod.Gen.openCompileClasses, ∃ src ∈ Gozod.Gen.kindRowsSrc,
    src ∈ [("*S", "required"), ("[]S", "required")] ∧ ((rowOf src).any fun r => GenTyped.why T WF r.1 "S" r.2 == .ill c) = true := by
  decide +kernel

/-- the converse of `C13.c13_illtyped_rows_are_open`: the `open:` lines of known-findings.txt are exactly the classes of
    rows that do not type-check. Stops checking when a fix lands: the line becomes `fixed:`. -/
theorem c13_open_compile_classes_exact :
    Gozod.Gen.openCompileClasses.all (fun c => (illClasses WF).contains c) = true := by
  refine List.all_eq_true.mpr fun c hc => ?_
  obtain ⟨src, hsrc, -, hw⟩ := open_class_rows c hc
  obtain ⟨r, hr, hw⟩ := (Option.any_eq_true _ _).mp hw
  refine List.contains_iff_mem.mpr (mem_dedup.mpr (List.mem_filterMap.mpr ⟨r, List.mem_filterMap.mpr ⟨src, hsrc, hr⟩, ?_⟩))
  rw [beq_iff_eq.mp hw]

end Gozod.C13W
