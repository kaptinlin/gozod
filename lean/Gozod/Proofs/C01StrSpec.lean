/-
  C01 — the string checks of the model mean what the documentation says (`holds_iff_spec`), and the acceptance
  theorem in those terms (`c01_str_accept_iff_spec`). `Str.Spec` is a readable proposition (∃ prefix / suffix /
  split, ∀ byte); the model is tied to it by theorem, the implementation to both by the run (the driver's spec
  column is `Str.specHolds`, an executable rendering of the same meanings through the derivative matcher, not
  through `Str.holds`; that it decides `Spec` is tested by the run, not proved).
-/
import Gozod.Model.StrSpec
import Gozod.Model.StrU
import Gozod.Proofs.C01
namespace Gozod.C01
open Gozod.Str

theorem isInfix_iff (p : Bytes) : ∀ b : Bytes, Str.isInfix p b = true ↔ ∃ s t, b = s ++ p ++ t := by
  intro b
  induction b with
  | nil => simp [Str.isInfix]
  | cons c cs ih =>
    simp only [Str.isInfix, Bool.or_eq_true, ih, List.isPrefixOf_iff_prefix]
    constructor
    · rintro (⟨t, ht⟩ | ⟨s, t, h⟩)
      · exact ⟨[], t, by simpa using ht.symm⟩
      · exact ⟨c :: s, t, by simp [h]⟩
    · rintro ⟨s, t, h⟩
      cases s with
      | nil => left; exact ⟨t, by simpa using h.symm⟩
      | cons a s =>
        right
        simp only [List.cons_append, List.cons.injEq] at h
        exact ⟨s, t, h.2⟩

theorem isPrefixOf_iff (p b : Bytes) : p.isPrefixOf b = true ↔ ∃ t, b = p ++ t := by
  rw [List.isPrefixOf_iff_prefix]; exact exists_congr fun _ => eq_comm

theorem isSuffixOf_iff (p b : Bytes) : p.isSuffixOf b = true ↔ ∃ s, b = s ++ p := by
  rw [List.isSuffixOf_iff_suffix]; exact exists_congr fun _ => eq_comm

theorem all_outside_iff (lo hi : Nat) (b : Bytes) :
    (b.all fun c => !(lo ≤ c && c ≤ hi)) = true ↔ ∀ c ∈ b, ¬ (lo ≤ c ∧ c ≤ hi) := by
  simp only [List.all_eq_true, Bool.not_eq_true', Bool.and_eq_false_iff, decide_eq_false_iff_not,
    Decidable.not_and_iff_not_or_not]

/-- Every string check of the model holds exactly when its documented meaning does. For `regex` and `custom` the
    meaning is the model's own function (`regexFamily`, `customPred`), so these two cases hold by definition. -/
theorem holds_iff_spec (p : SPred) (b : Bytes) : Str.holds p b = true ↔ Spec p b := by
  cases p with
  | minLen n => simp [Str.holds, Spec]
  | maxLen n => simp [Str.holds, Spec]
  | lenEq n => simp [Str.holds, Spec]
  | startsWith q => exact isPrefixOf_iff q b
  | endsWith q => exact isSuffixOf_iff q b
  | includes q => exact isInfix_iff q b
  | lowercase => exact all_outside_iff 65 90 b
  | uppercase => exact all_outside_iff 97 122 b
  | regex k => exact Iff.rfl
  | relit mode lit =>
    simp only [Str.holds, Spec]
    match mode with
    | 0 => exact isInfix_iff lit b
    | 1 => exact isPrefixOf_iff lit b
    | 2 => exact isSuffixOf_iff lit b
    | _ + 3 => simp
  | custom k => exact Iff.rfl

/-- In every environment that interprets predicates by `Str.holds`: with Go's Unicode-aware overwrites
    (`StrU.env`) as with the ASCII ones (`Str.env`). -/
theorem checkFails_iff_spec {T : Type} (env : Env SPred SOw T Bytes) (henv : env.holds = Str.holds)
    (c : Check SPred SOw) (x : Bytes) : checkFails env c x = true ↔ SpecFails c x := by
  cases c with
  | overwrite o => exact ⟨nofun, nofun⟩
  | pred p a w =>
    cases w <;>
      simp only [checkFails, SpecFails, henv, Bool.and_eq_true, Bool.not_eq_true', ← holds_iff_spec, Bool.not_eq_true]

/-- C01 for string schemas, in documented terms: `Parse` of a non-nil input succeeds iff the input is a string or
    a pointer to one and NO attached check fails, under its documented meaning, on the value produced by the overwrites
    (Go's TrimSpace / ToLower / ToUpper, custom) attached before it. -/
theorem c01_str_accept_iff_spec (i : Prim.Internals SPred SOw Bytes) (x : Prim.Input Bytes)
    (hx : x ≠ .nil ∧ x ≠ .nilPtr) :
    (∃ r, Prim.parse StrU.env i x = .okVal r) ↔
      ∃ v, payload x = some v ∧
        ∀ k c, i.checks[k]? = some c → ¬ SpecFails c (seenAt StrU.env i.checks k v) := by
  simp only [c01_accept_iff StrU.env i x hx, C10.forall_failsAt_false_iff]
  simp only [← Bool.not_eq_true, checkFails_iff_spec StrU.env rfl]

example : Spec (.startsWith [97]) [97, 98] := ⟨[98], rfl⟩
example : ¬ Spec .lowercase [97, 66] := fun h => h 66 (by simp) (by omega)
example : Str.specHolds (.includes [98]) [97, 98, 99] = true ∧ Str.specHolds (.regex 2) [97, 10, 122] = false := by decide +kernel

end Gozod.C01
