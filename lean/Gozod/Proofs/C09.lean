/-
  C09 — all parse entry points agree (primitive engine path): `ParsePrimitiveStrict` against `ParsePrimitive`
  (`c09_strict_eq_parse`), and over histories of constructions, derivations, `CloneFrom`s and parses (`c09_history`),
  as long as the per-schema state is `Faithful`.

  On nil inputs the model makes both entry points the same `Prim.nilPath`: `parsePrimitiveStrictNil` (parser.go) calls
  `processModifiersStrict`, which is `processModifiersCore`, and then treats a prefault as `ParsePrimitive` does; so for nil
  pointers `c09_strict_eq_parse` holds by `rfl` and the claim rests on that reading (and on the run).
-/
import Gozod.Model.Prim
import Gozod.Proofs.C10Prim

namespace Gozod.C09
open Gozod.Prim

variable {P O T V : Type}

/-- An input has the static type `StrictParse` requires: `T` for value schemas, `*T` (possibly
    nil) for pointer schemas. -/
def wellTyped (i : Internals P O V) : Input V → Bool
  | .val _ => !i.ptrSchema
  | .ptr _ => i.ptrSchema
  | .nilPtr => i.ptrSchema
  | _ => false

/-- The pointer pass of `validatePointer` on pointer inputs only adds callback invocations. -/
theorem checked_ptr_irrelevant (env : Env P O T V) (i : Internals P O V) (v : V) :
    checked env i true v = checked env i false v :=
  (C10.checked_eq_run ..).trans (C10.checked_eq_run ..).symm

theorem checked_no_checks (env : Env P O T V) (i : Internals P O V) (pin : Bool) (v : V)
    (h : i.checks.isEmpty = true) : checked env i pin v = .okVal v := by
  rw [C10.checked_eq_run, List.isEmpty_iff.mp h]; rfl

/-- The one fact the fast path relies on: its answer `b` is only ever `true` for a check-less configuration. -/
theorem strictParseWith_sound (env : Env P O T V) (i : Internals P O V) (b : Bool) (x : Input V)
    (hb : b = true → i.checks.isEmpty = true) : strictParseWith env i b x = parse env i x := by
  cases x with
  | nil | nilPtr | foreign => rfl
  | val v | ptr v =>
    simp only [strictParseWith, parse, checked_ptr_irrelevant]
    split
    next hf => exact (checked_no_checks env i false v (hb hf)).symm
    · split
      next hc => exact (checked_no_checks env i false v hc).symm
      · rfl

theorem strictFast_checks_empty (i : Internals P O V) (h : strictFast i = true) : i.checks.isEmpty = true := by
  -- `strictFast` is a left-nested `&&` of seven conditions, `checks.isEmpty` the innermost
  simp only [strictFast, Bool.and_eq_true] at h; exact h.1.1.1.1.1.1

/-- C09, primitives: for every schema configuration (any checks, overwrites, refinements,
    Optional/Nilable/NonOptional, Default(Func), Prefault(Func)) and every input of
    the static type StrictParse requires — including nil pointers — `StrictParse` and `Parse` both
    fail with the same issues or both succeed with equal results. (The proof does not use `_hx`: in the model the
    two agree on every input.) -/
theorem c09_strict_eq_parse (env : Env P O T V) (i : Internals P O V) (x : Input V)
    (_hx : wellTyped i x = true) : strictParse env i x = parse env i x := by
  rw [strictParse_eq_with]
  exact strictParseWith_sound env i _ x (strictFast_checks_empty i)

/-- The hypotheses about per-schema state that the harness ties to the code: in every reachable
    state the answer the strict entry points use equals the fast-path condition *recomputed from the
    schema's own configuration*. `run_ok` holds in particular when parsing writes nothing, which is what
    the harness observes on the real internals. -/
structure Faithful {H : Type} (m : Impl P O V H) : Prop where
  init_ok : ∀ c, m.fast c (m.init c) = strictFast c
  run_ok : ∀ ep c h x, m.fast c h = strictFast c → m.fast c (m.onRun ep c h x) = strictFast c
  clone_ok : ∀ k (d s : Cell P O V H), m.fast d.cfg d.hid = strictFast d.cfg → m.fast s.cfg s.hid = strictFast s.cfg →
    m.fast (cloneCfg k d.cfg s.cfg) (m.onClone k d s) = strictFast (cloneCfg k d.cfg s.cfg)

/-- `Faithful.run_ok` for an implementation whose parses write nothing (what the harness observes); nothing here uses it. -/
theorem run_ok_of_read_only {H : Type} (m : Impl P O V H) (h : ∀ ep c hid x, m.onRun ep c hid x = hid) :
    ∀ ep c hid x, m.fast c hid = strictFast c → m.fast c (m.onRun ep c hid x) = strictFast c := by
  intro ep c hid x hh; rw [h]; exact hh

theorem pinned_faithful : Faithful (pinned : Impl P O V Unit) :=
  ⟨fun _ => rfl, fun _ _ _ _ _ => rfl, fun _ _ _ _ _ => rfl⟩

/-- The simulation invariant of `c09_history`: every cell of the heap answers the fast-path question as its own configuration does. -/
def Good {H : Type} (m : Impl P O V H) (h : List (Cell P O V H)) : Prop :=
  ∀ c ∈ h, m.fast c.cfg c.hid = strictFast c.cfg

theorem runEP_eq_parse {H : Type} (m : Impl P O V H) (env : Env P O T V) (ep : EP) (c : Cell P O V H) (x : Input V)
    (hc : m.fast c.cfg c.hid = strictFast c.cfg) : runEP m env ep c x = parse env c.cfg x := by
  unfold runEP
  by_cases hs : ep.isStrict = true
  · rw [if_pos hs]
    apply strictParseWith_sound
    intro hb; rw [hc] at hb; exact strictFast_checks_empty _ hb
  · rw [if_neg hs]

theorem good_set {H : Type} {m : Impl P O V H} {h : List (Cell P O V H)} {j : Nat} {c : Cell P O V H}
    (hg : Good m h) (hc : m.fast c.cfg c.hid = strictFast c.cfg) : Good m (h.set j c) := by
  intro c' hm
  rcases List.mem_or_eq_of_mem_set hm with h1 | h1
  · exact hg c' h1
  · rw [h1]; exact hc

theorem good_snoc {H : Type} {m : Impl P O V H} {h : List (Cell P O V H)} {c : Cell P O V H}
    (hg : Good m h) (hc : m.fast c.cfg c.hid = strictFast c.cfg) : Good m (h ++ [c]) := by
  intro c' hm
  rcases List.mem_append.mp hm with h1 | h1
  · exact hg c' h1
  · rw [List.mem_singleton.mp h1]; exact hc

theorem set_self {α : Type} {l : List α} {j : Nat} {a : α} (h : l[j]? = some a) : l.set j a = l := by
  obtain ⟨hj, rfl⟩ := List.getElem?_eq_some_iff.mp h
  exact List.set_getElem_self hj

theorem step_spec {H : Type} (m : Impl P O V H) (hf : Faithful m) (env : Env P O T V)
    (h : List (Cell P O V H)) (hg : Good m h) (op : Op P O V) :
    Good m (step m env h op).1 ∧ (step m env h op).1.map (·.cfg) = cfgStep (h.map (·.cfg)) op ∧
      (step m env h op).2 = specOut env (h.map (·.cfg)) op := by
  cases op with
  | mk c =>
    refine ⟨good_snoc hg (hf.init_ok c), ?_, rfl⟩
    simp [step, cfgStep]
  | chain j f =>
    simp only [step, cfgStep, specOut, List.getElem?_map]
    cases hj : h[j]? with
    | none => simp [hg]
    | some c =>
      refine ⟨good_snoc hg (hf.init_ok _), ?_, rfl⟩
      simp
  | cloneFrom k d s =>
    simp only [step, cfgStep, specOut, List.getElem?_map]
    cases hd : h[d]? with
    | none => simp [hg]
    | some cd =>
      cases hs : h[s]? with
      | none => simp [hg]
      | some cs =>
        simp only [Option.map_some]
        by_cases ht : sameGoType cd.cfg cs.cfg = true
        · rw [if_pos ht, if_pos ht]
          refine ⟨good_set hg (hf.clone_ok k cd cs (hg cd (List.mem_of_getElem? hd)) (hg cs (List.mem_of_getElem? hs))), ?_, rfl⟩
          simp [List.map_set]
        · rw [if_neg ht, if_neg ht]
          exact ⟨hg, rfl, rfl⟩
  | run ep j x =>
    simp only [step, cfgStep, specOut, List.getElem?_map]
    cases hj : h[j]? with
    | none => simp [hg]
    | some c =>
      have hc := hg c (List.mem_of_getElem? hj)
      refine ⟨good_set hg (hf.run_ok ep c.cfg c.hid x hc), ?_, ?_⟩
      · simp only [List.map_set]
        exact set_self (by simp [hj])
      · simp only [Option.map_some]
        rw [runEP_eq_parse m env ep c x hc]

/-- C09 over histories: for an implementation whose per-schema state is `Faithful`, every run of
    every entry point in every history — constructors, copy-on-write methods, `CloneFrom` of either
    flavour in either direction, entry points in any order — returns what `Parse` returns on the
    schema's current configuration, and the configurations evolve independently of the parses. -/
theorem c09_history {H : Type} (m : Impl P O V H) (hf : Faithful m) (env : Env P O T V)
    (ops : List (Op P O V)) (h : List (Cell P O V H)) (hg : Good m h) :
    (exec m env h ops).2 = (execSpec env (h.map (·.cfg)) ops).2 ∧
    (exec m env h ops).1.map (·.cfg) = (execSpec env (h.map (·.cfg)) ops).1 := by
  induction ops generalizing h with
  | nil => exact ⟨rfl, rfl⟩
  | cons op ops ih =>
    obtain ⟨g1, g2, g3⟩ := step_spec m hf env h hg op
    have := ih (step m env h op).1 g1
    simp only [exec, execSpec]
    rw [← g2, ← g3]
    exact ⟨by rw [this.1], this.2⟩

/-- The library as transcribed (`pinned`: no per-schema state), from the empty heap. -/
theorem c09_history_pinned (env : Env P O T V) (ops : List (Op P O V)) :
    (exec (pinned : Impl P O V Unit) env [] ops).2 = (execSpec env [] ops).2 :=
  (c09_history pinned pinned_faithful env ops [] (fun _ hc => nomatch hc)).1

theorem good_exec {H : Type} (m : Impl P O V H) (hf : Faithful m) (env : Env P O T V) :
    ∀ (ops : List (Op P O V)) (h : List (Cell P O V H)), Good m h → Good m (exec m env h ops).1
  | [], _, hg => hg
  | op :: ops, h, hg => good_exec m hf env ops _ (step_spec m hf env h hg op).1

theorem c09_history_entrypoints_agree {H : Type} (m : Impl P O V H) (hf : Faithful m) (env : Env P O T V)
    (ops : List (Op P O V)) (j : Nat) (c : Cell P O V H) (hj : (exec m env [] ops).1[j]? = some c)
    (ep ep' : EP) (x : Input V) : runEP m env ep c x = runEP m env ep' c x := by
  have hc := good_exec m hf env ops [] (fun _ hc => nomatch hc) c (List.mem_of_getElem? hj)
  rw [runEP_eq_parse m env ep c x hc, runEP_eq_parse m env ep' c x hc]

/-- Earlier parses are irrelevant to the configurations (hence, with `c09_history`, to every later
    answer): the warm schema and its never-parsed twin agree. -/
theorem c09_parses_do_not_matter (env : Env P O T V) (ops : List (Op P O V)) (h : List (Internals P O V)) :
    (execSpec env h ops).1 = (execSpec env h (ops.filter (fun o => !o.isRun))).1 := by
  induction ops generalizing h with
  | nil => rfl
  | cons op ops ih =>
    cases op with
    | run ep j x => simp only [List.filter, Op.isRun, Bool.not_true, execSpec, cfgStep]; exact ih h
    | mk c => simp only [List.filter, Op.isRun, Bool.not_false, execSpec]; exact ih _
    | chain j f => simp only [List.filter, Op.isRun, Bool.not_false, execSpec]; exact ih _
    | cloneFrom k d s => simp only [List.filter, Op.isRun, Bool.not_false, execSpec]; exact ih _

/-! ### A cache that can go stale is a counterexample to `Faithful.clone_ok` -/

def wEnv : Env Nat Nat Nat Nat := { holds := fun p v => decide (p ≤ v), apply := fun o v => v + o, trans := fun _ v => v }
/-- A: `Int()`;  B: `Int().Min(10)`;  `A.StrictParse(7)`;  `B.CloneFrom(A)`;  `B.StrictParse(7)`, `B.Parse(7)`. -/
def wOps : List (Op Nat Nat Nat) :=
  [.mk {}, .mk { checks := [Check.pred 10 false none] }, .run .strict 0 (.val 7), .cloneFrom .keepChecks 1 0,
   .run .strict 1 (.val 7), .run .parse 1 (.val 7)]

/-- With the memoising implementation `StrictParse` accepts what `Parse` rejects; with `pinned` both reject. -/
theorem memoising_stale_witness :
    (exec memoising wEnv [] wOps).2 = [.okVal 7, .okVal 7, .errChecks [0]] ∧
    (exec pinned wEnv [] wOps).2 = [.okVal 7, .errChecks [0], .errChecks [0]] := by decide

theorem memoising_not_faithful : ¬ Faithful (memoising : Impl Nat Nat Nat (Option Bool)) := by
  intro hf
  have h := hf.clone_ok .keepChecks ⟨{ checks := [Check.pred 10 false none] }, none⟩ ⟨{}, some true⟩ rfl rfl
  revert h; decide

/-- Non-vacuity: a history with both `CloneFrom` flavours and every entry point. -/
example : (exec pinned wEnv [] (wOps ++ [.cloneFrom .copyAll 0 1, .run .mustStrict 0 (.val 12), .run .parseAny 0 (.val 3),
    .chain 0 (fun c => { c with optional := true, ptrSchema := true }),   .run .mustParseAny 2 .nilPtr, .run .mustParse 2 (.ptr 30)])).2
    = [.okVal 7, .errChecks [0], .errChecks [0], .okVal 12, .errChecks [0], .okNil, .okVal 30] := by decide

/-- Non-vacuity: a configuration on the non-fast paths. -/
example : wellTyped ({ ptrSchema := true, optional := true, checks := [Check.pred 5 false none] } : Internals Nat Nat Nat)
    (.ptr 3) = true := rfl

end Gozod.C09
