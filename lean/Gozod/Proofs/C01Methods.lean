/-
  C01 — the method table of the primitive schema types, regenerated from the source, is exactly the
  table the model was written against (`Gozod.Model.PrimMethodsSpec`).
-/
import Gozod.Model.PrimMethodsSpec
import Gozod.Proofs.Basics
namespace Gozod.C01
open Gozod.PrimMethodsSpec

/-- Every exported method of the six primitive schema types is classified, and delegates to what the
    expectation records (over the WHOLE regenerated table). -/
theorem c01_methods_classified : methodOffenders = [] :=
  -- entry by entry, in the same order: the regenerated table normalised by the class the expectation gives each
  -- method is the normalised expectation
  offenders_eq_nil (by decide +kernel) _ _

/-- The table is not vacuous: it has as many entries as it says (`Gen.primMethodCount`),
    and 200 is a floor which a truncated table misses. -/
theorem c01_methods_nonempty : Gozod.Gen.primMethods.length = Gozod.Gen.primMethodCount ∧ 200 ≤ Gozod.Gen.primMethodCount := by
  decide +kernel

/-- Exactly these methods are outside C01's model (`Cls.outside`): coercion (C17), the format checks (C20), and the two
    x/text overwrites, which no property models. -/
theorem c01_opaque_methods :
    opaqueMethods.map (fun e => e.1 ++ "." ++ e.2.1) =
      ["ZodString.Coerce", "ZodString.Email", "ZodString.JSON", "ZodString.JWT", "ZodString.MAC", "ZodString.Normalize",
       "ZodString.Slugify", "ZodIntegerTyped.Coerce", "ZodFloatTyped.Coerce", "ZodBool.Coerce"] := by decide +kernel

end Gozod.C01
