/-
  C08 at the level of CONTENT for the schemas that hold other schemas or value lists (`Model/StoreC08H.lean`): unions,
  xors and intersections (`Or` / `And` results hold the receiver), enums (`Extract` / `Exclude`), slices / sets / tuples /
  arrays / records / maps (member holders, size checks), core.ZodTransform / ZodPipe (`Transform` / `Pipe` results hold the
  receiver), `Default` / `Prefault` values.

  Every derivation writes only fresh locations, so every live composite keeps its whole observation (`c08h_step`).  The
  verdict of a composite evaluates its members recursively from THEIR observations, through the identity ↦ observation
  table of the live schemas; that table is unchanged below the old allocation pointer (`world_ext`) and a verdict only
  looks below the composite's own identity (`hAccept_congr`): hence the same verdict on every input, to any nesting
  depth and for every leaf oracle, and the same document structure (`c08h_behaviour`, `c08h_hist_behaviour`).  The
  `*_content` theorems say what the RESULT of each derivation contains.
-/
import Gozod.Proofs.C08Rows
import Gozod.Model.StoreC08H

namespace Gozod.C08
open Gozod.Store Gozod.StoreC08

def WfH (σ : Store) (x : HSchema) : Prop :=
  WfS σ x.s ∧ (∀ o ∈ x.lists, ∀ l ∈ optLoc o, l < σ.next) ∧ (∀ l ∈ dfltLocs x.pre, l < σ.next)

theorem obsH_frame {σ σ' : Store} (x : HSchema) (hw : WfH σ x) (he : ExtFrom σ.next σ σ') :
    obsH σ'.heap x = obsH σ.heap x := by
  simp only [obsH, obs_frame x.s hw.1 he, slots_frame x.lists hw.2.1 he,
    dfltKids_congr x.pre fun l hl => he.2 l (hw.2.2 l hl)]

theorem wfh_frame {σ σ' : Store} (x : HSchema) (hw : WfH σ x) (he : ExtFrom σ.next σ σ') : WfH σ' x :=
  ⟨wfs_frame x.s hw.1 he, fun o ho => Below.mono (hw.2.1 o ho) he.1, Below.mono hw.2.2 he.1⟩

theorem framedH : Framed WfH obsH (·.s.self) := ⟨obsH_frame, wfh_frame, fun h => h.1.self_lt⟩

/-- an argument value graph exists before the call -/
def _root_.Gozod.StoreC08.HOp.ok (σ : Store) : HOp → Prop
  | .common op => Op.ok op ∧ op.isMetaSelf = false
  | .setDefault v => ∀ l ∈ dfltLocs (some v), l < σ.next
  | .setPrefault v => ∀ l ∈ dfltLocs (some v), l < σ.next
  | _ => True

theorem hRebuild_spec (cfg : Cfg) (hcfg : cfg.cloneBagAlways = true) (σ : Store) (recv : Schema) (kind : Nat)
    (cks : List Nat) (cap : Nat) (hc : BagClosed σ) (hw : WfS σ recv) : MadeS σ (hRebuild cfg σ recv kind cks cap) :=
  applyOp_spec cfg hcfg σ recv _ hc hw (rebuild_cap_ok cks cap) rfl

theorem withList_spec {σ : Store} {r : Store × Schema} (h : MadeS σ r) (k : HKind) (c : List Nat) :
    Made WfH (·.s.self) σ ((alloc r.1 (.vals c)).1, ⟨r.2, k, [], [some (alloc r.1 (.vals c)).2], none⟩) :=
  (framedS.made_then h (alloc_ext _ _ (.vals c) (Nat.le_refl _)) (bagClosed_alloc _ _ h.2.1 trivial)).lift
    (fun _ hw => ⟨hw, List.forall_mem_singleton.2 (forall_optLoc_some.2 (Nat.lt_succ_self _)), nofun⟩) rfl

/-- the wrapper's registry cell is its own: rewriting it is no write to anything that existed -/
theorem dropReg_spec {σ : Store} {r : Store × Schema} (h : MadeS σ r) : MadeS σ (dropReg r.1 r.2, r.2) :=
  have hb' : BagClosed (dropReg r.1 r.2) := bagClosed_write r.1 _ _ h.2.1 trivial
  ⟨h.1.trans (write_ext σ.next r.1 _ _ h.2.2.2), hb', wfs_of_direct _ hb' r.2 h.2.2.1.direct h.2.2.1.2, h.2.2.2⟩

theorem applyHOp_spec (cfg : Cfg) (hcfg : cfg.cloneBagAlways = true) (σ : Store) (recv : HSchema) (o : HOp)
    (hc : BagClosed σ) (hw : WfH σ recv) (hok : o.ok σ) : Made WfH (·.s.self) σ (applyHOp cfg σ recv o) := by
  have lists : ∀ {σ1 : Store}, ExtFrom σ.next σ σ1 → ∀ o ∈ recv.lists, Below σ1.next (optLoc o) :=
    fun h o ho => Below.mono (hw.2.1 o ho) h.1
  have pre : ∀ {σ1 : Store}, ExtFrom σ.next σ σ1 → Below σ1.next (dfltLocs recv.pre) := fun h => Below.mono hw.2.2 h.1
  have derive := fun fl => applyOp_spec cfg hcfg σ recv.s (.derive fl [] none) hc hw.1 trivial rfl
  have rebuild := fun kind cks cap => hRebuild_spec cfg hcfg σ recv.s kind cks cap hc hw.1
  cases o with
  | common op =>
    exact (applyOp_spec cfg hcfg σ recv.s op hc hw.1 hok.1 hok.2).lift (fun he hws => ⟨hws, lists he, pre he⟩) rfl
  | setSingle i m => exact (derive _).lift (fun he hws => ⟨hws, lists he, pre he⟩) rfl
  | setPrefault v => exact (derive _).lift (fun he hws => ⟨hws, lists he, Below.mono hok he.1⟩) rfl
  | setDefault v =>
    refine (derive _).lift (fun he hws => ⟨?_, lists he, pre he⟩) rfl
    have d := dirOk_iff.2 hws.direct
    refine wfs_of_direct _ (derive _).2.1 _ (dirOk_iff.1 ⟨d.self, d.checks, d.bag, d.values, d.shape, ?_⟩) hws.2
    exact Below.mono (show Below σ.next (dfltLocs (some v)) from hok) he.1
  -- 20 … 23: the kind tags `applyHOp` gives the rebuilt union / intersection / enum / tuple (Model/StoreC08H.lean)
  | andWith other cks cap => exact (rebuild 21 cks cap).lift (fun _ hws => ⟨hws, nofun, nofun⟩) rfl
  | withRest rest cks cap => exact (rebuild 23 cks cap).lift (fun he hws => ⟨hws, lists he, nofun⟩) rfl
  | orWith other cks cap => exact withList_spec (rebuild 20 cks cap) .union _
  | extract keys cks cap | exclude keys cks cap => exact withList_spec (rebuild 22 cks cap) .enum _
  | transform fl | pipe fl target =>
    exact (dropReg_spec (derive fl)).lift (fun he hws => ⟨hws, nofun, pre he⟩) rfl

structure InvH (σ : Store) (live : List HSchema) : Prop where
  closed : BagClosed σ
  wf : ∀ x ∈ live, WfH σ x

/-- a derivation leaves the whole observation of every live composite — common part, kind, member holders,
    list CONTENTS (Options, Items, Entries), default and prefault value graphs — unchanged; the result is well-formed and new
    (stated as the bound `σ.next ≤ result`, `live < σ.next`, not as `≠`: `world_ext` needs the bound). -/
theorem c08h_step (cfg : Cfg) (hcfg : cfg.cloneBagAlways = true) (σ : Store) (live : List HSchema) (recv : HSchema)
    (o : HOp) (hi : InvH σ live) (hrv : recv ∈ live) (hok : o.ok σ) :
    InvH (applyHOp cfg σ recv o).1 (live ++ [(applyHOp cfg σ recv o).2]) ∧
    (∀ x ∈ live, obsH (applyHOp cfg σ recv o).1.heap x = obsH σ.heap x) ∧
    σ.next ≤ (applyHOp cfg σ recv o).2.s.self ∧ (∀ x ∈ live, x.s.self < σ.next) := by
  obtain ⟨he, hb, hw, hs⟩ := applyHOp_spec cfg hcfg σ recv o hi.closed (hi.wf recv hrv) hok
  obtain ⟨hl, ho⟩ := framedH.step hi.wf he hw
  exact ⟨⟨hb, hl⟩, ho, hs, fun x hx => (hi.wf x hx).1.self_lt⟩

theorem world_ext (h h' : Loc → Option Cell) (live extra : List HSchema) (n : Nat)
    (hobs : ∀ x ∈ live, obsH h' x = obsH h x) (hge : ∀ y ∈ extra, n ≤ y.s.self) :
    ∀ l, l < n → (worldOf h' (live ++ extra)).get l = (worldOf h live).get l := by
  intro l hl
  have hnew : (worldOf h' extra).find? (fun p => p.1 == l) = none :=
    List.find?_eq_none.2 fun p hp => by
      obtain ⟨y, hy, rfl⟩ := List.mem_map.1 hp
      exact mt beq_iff_eq.1 (Nat.ne_of_gt (Nat.lt_of_lt_of_le hl (hge y hy)))
  have hold : worldOf h' live = worldOf h live := List.map_congr_left fun x hx => by rw [hobs x hx]
  unfold World.get
  rw [show worldOf h' (live ++ extra) = worldOf h' live ++ worldOf h' extra from List.map_append,
    List.find?_append, hnew, Option.or_none, hold]

theorem world_step (h h' : Loc → Option Cell) (live : List HSchema) (r : HSchema) (n : Nat)
    (hobs : ∀ x ∈ live, obsH h' x = obsH h x) (hr : n ≤ r.s.self) :
    ∀ l, l < n → (worldOf h' (live ++ [r])).get l = (worldOf h live).get l :=
  world_ext h h' live [r] n hobs (List.forall_mem_singleton.2 hr)

theorem hAccept_congr (leaf : Loc → HIn → Bool) (w w' : World) (n : Nat) (hw : ∀ l, l < n → w'.get l = w.get l) :
    ∀ (f : Nat) (self : Loc) (o : HObs) (inp : HIn), self ≤ n →
      hAccept leaf f w' self o inp = hAccept leaf f w self o inp := by
  intro f
  induction f with
  | zero => intro _ _ _ _; rfl
  | succ f ih =>
    intro self o inp hs
    simp only [hAccept]
    congr 1
    funext l i
    split
    · next hl =>
      have hln := Nat.lt_of_lt_of_le hl hs
      rw [hw l hln]
      cases w.get l with
      | none => rfl
      | some mo => exact ih l mo i (Nat.le_of_lt hln)
    · rfl

theorem behaviour_of_obs {σ : Store} {live : List HSchema} (hw : ∀ x ∈ live, WfH σ x) (h' : Loc → Option Cell)
    (extra : List HSchema) (hobs : ∀ x ∈ live, obsH h' x = obsH σ.heap x) (hge : ∀ y ∈ extra, σ.next ≤ y.s.self)
    (leaf : Loc → HIn → Bool) (f : Nat) :
    ∀ x ∈ live,
      (∀ inp, hAccept leaf f (worldOf h' (live ++ extra)) x.s.self (obsH h' x) inp
              = hAccept leaf f (worldOf σ.heap live) x.s.self (obsH σ.heap x) inp) ∧
      hDoc (obsH h' x) = hDoc (obsH σ.heap x) := by
  intro x hx
  rw [hobs x hx]
  exact ⟨fun inp => hAccept_congr leaf _ _ σ.next (world_ext _ _ live extra σ.next hobs hge) f x.s.self _ inp
    (Nat.le_of_lt (hw x hx).1.self_lt), rfl⟩

/-- after a derivation every live composite gives the same verdict on every input — its members
    evaluated recursively from their own observations, to every nesting depth `f`, whatever the plain member schemas do
    (`leaf`) — and shows the same member structure in its JSON Schema. -/
theorem c08h_behaviour (cfg : Cfg) (hcfg : cfg.cloneBagAlways = true) (σ : Store) (live : List HSchema) (recv : HSchema)
    (o : HOp) (hi : InvH σ live) (hrv : recv ∈ live) (hok : o.ok σ) (leaf : Loc → HIn → Bool) (f : Nat) :
    ∀ x ∈ live,
      (∀ inp, hAccept leaf f (worldOf (applyHOp cfg σ recv o).1.heap (live ++ [(applyHOp cfg σ recv o).2])) x.s.self
                (obsH (applyHOp cfg σ recv o).1.heap x) inp
              = hAccept leaf f (worldOf σ.heap live) x.s.self (obsH σ.heap x) inp) ∧
      hDoc (obsH (applyHOp cfg σ recv o).1.heap x) = hDoc (obsH σ.heap x) :=
  have ⟨_, hobs, hs, _⟩ := c08h_step cfg hcfg σ live recv o hi hrv hok
  behaviour_of_obs hi.wf _ [_] hobs (List.forall_mem_singleton.2 hs) leaf f

def hopsOK (cfg : Cfg) : Store → List HSchema → List (Nat × HOp) → Prop
  | _, _, [] => True
  | σ, live, (i, op) :: rest =>
    match live[i]? with
    | none => hopsOK cfg σ live rest
    | some recv => op.ok σ ∧ hopsOK cfg (applyHOp cfg σ recv op).1 (live ++ [(applyHOp cfg σ recv op).2]) rest

abbrev newId : Nat → HSchema → Prop := fun n y => n ≤ y.s.self

theorem runHHist_chain (cfg : Cfg) (hcfg : cfg.cloneBagAlways = true) : ∀ (ops : List (Nat × HOp)) (σ : Store)
    (live : List HSchema), hopsOK cfg σ live ops →
    Chain WfH newId σ live (runHHist cfg σ live ops).1 (runHHist cfg σ live ops).2
  | [], _, _, _ => .nil
  | (i, o) :: rest, σ, live, hok => by
    unfold runHHist
    unfold hopsOK at hok
    split
    · next hl => exact runHHist_chain cfg hcfg rest σ live (by simpa only [hl] using hok)
    · next recv hl =>
      simp only [hl] at hok
      refine .one (fun hc hw => ?_) (runHHist_chain cfg hcfg rest _ _ hok.2)
      exact applyHOp_spec cfg hcfg σ recv o hc (hw recv (List.mem_of_getElem? hl)) hok.1

/-- along every history of derivations every composite live at the start is observed unchanged at the end,
    and every schema the history added has an identity that did not exist at the start. -/
theorem c08h_hist (cfg : Cfg) (hcfg : cfg.cloneBagAlways = true) (ops : List (Nat × HOp)) :
    ∀ (σ : Store) (live : List HSchema), InvH σ live → hopsOK cfg σ live ops →
    InvH (runHHist cfg σ live ops).1 (runHHist cfg σ live ops).2 ∧
    (∃ extra, (runHHist cfg σ live ops).2 = live ++ extra ∧ ∀ y ∈ extra, σ.next ≤ y.s.self) ∧
    σ.next ≤ (runHHist cfg σ live ops).1.next ∧
    ∀ x ∈ live, obsH (runHHist cfg σ live ops).1.heap x = obsH σ.heap x := by
  intro σ live hi hok
  obtain ⟨h1, ⟨extra, h2, h3⟩, hn, ho⟩ :=
    (runHHist_chain cfg hcfg ops σ live hok).frame framedH (N := newId) (fun hnm h => Nat.le_trans hnm h) hi.closed hi.wf
  exact ⟨⟨h1.1, h1.2⟩, ⟨extra, h2.symm, h3⟩, hn, ho⟩

/-- along every history, every composite live at the start gives at the end — looked up among
    ALL the schemas the history made — the same verdict on every input, to every nesting depth, and the same document
    structure. -/
theorem c08h_hist_behaviour (cfg : Cfg) (hcfg : cfg.cloneBagAlways = true) (ops : List (Nat × HOp))
    (σ : Store) (live : List HSchema) (hi : InvH σ live) (hok : hopsOK cfg σ live ops)
    (leaf : Loc → HIn → Bool) (f : Nat) :
    ∀ x ∈ live,
      (∀ inp, hAccept leaf f (worldOf (runHHist cfg σ live ops).1.heap (runHHist cfg σ live ops).2) x.s.self
                (obsH (runHHist cfg σ live ops).1.heap x) inp
              = hAccept leaf f (worldOf σ.heap live) x.s.self (obsH σ.heap x) inp) ∧
      hDoc (obsH (runHHist cfg σ live ops).1.heap x) = hDoc (obsH σ.heap x) := by
  obtain ⟨_, ⟨extra, hx2, hge⟩, _, hobs⟩ := c08h_hist cfg hcfg ops σ live hi hok
  rw [hx2]
  exact behaviour_of_obs hi.wf _ extra hobs hge leaf f

/-- `z.Or(other)`: the option list is a fresh slice holding the receiver and the argument, in that order -/
theorem or_content (cfg : Cfg) (σ : Store) (recv : HSchema) (other : Loc) (cks : List Nat) (cap : Nat) :
    let r := applyHOp cfg σ recv (.orWith other cks cap)
    (obsH r.1.heap r.2).k = .union ∧ (obsH r.1.heap r.2).lists = [some [recv.s.self, other]] ∧ (obsH r.1.heap r.2).singles = [] :=
  ⟨rfl, congrArg (fun x => [x]) (readVals_alloc _ _), rfl⟩

theorem and_content (cfg : Cfg) (σ : Store) (recv : HSchema) (other : Loc) (cks : List Nat) (cap : Nat) :
    let r := applyHOp cfg σ recv (.andWith other cks cap)
    (obsH r.1.heap r.2).k = .inter ∧ (obsH r.1.heap r.2).singles = [some recv.s.self, some other] :=
  ⟨rfl, rfl⟩

theorem transform_content (cfg : Cfg) (σ : Store) (recv : HSchema) (fl : Nat) :
    (applyHOp cfg σ recv (.transform fl)).2.singles = [some recv.s.self] ∧ (applyHOp cfg σ recv (.transform fl)).2.k = .transform :=
  ⟨rfl, rfl⟩

theorem pipe_content (cfg : Cfg) (σ : Store) (recv : HSchema) (fl : Nat) (t : Loc) :
    (applyHOp cfg σ recv (.pipe fl t)).2.singles = [some recv.s.self, some t] ∧ (applyHOp cfg σ recv (.pipe fl t)).2.k = .pipe :=
  ⟨rfl, rfl⟩

/-- `Extract(keys)` / `Exclude(keys)`: the listed (not listed) entries of the receiver, in the receiver's order -/
theorem extract_content (cfg : Cfg) (σ : Store) (recv : HSchema) (keys cks : List Nat) (cap : Nat) :
    let r := applyHOp cfg σ recv (.extract keys cks cap)
    (obsH r.1.heap r.2).lists = [some ((listGet σ.heap recv.lists).filter (fun e => keys.contains e))] :=
  congrArg (fun x => [x]) (readVals_alloc _ _)

theorem exclude_content (cfg : Cfg) (σ : Store) (recv : HSchema) (keys cks : List Nat) (cap : Nat) :
    let r := applyHOp cfg σ recv (.exclude keys cks cap)
    (obsH r.1.heap r.2).lists = [some ((listGet σ.heap recv.lists).filter (fun e => !keys.contains e))] :=
  congrArg (fun x => [x]) (readVals_alloc _ _)

/-- `WithRest(r)`: the Items REFERENCE is the receiver's, the rest member is the argument -/
theorem withRest_content (cfg : Cfg) (σ : Store) (recv : HSchema) (rest : Loc) (cks : List Nat) (cap : Nat) :
    (applyHOp cfg σ recv (.withRest rest cks cap)).2.lists = recv.lists ∧
    (applyHOp cfg σ recv (.withRest rest cks cap)).2.singles = [some rest] :=
  ⟨rfl, rfl⟩

/-- `Default(v)` / `Prefault(v)`: the result refers to the CALLER's value (no copy on write); nothing else changes -/
theorem default_content (cfg : Cfg) (σ : Store) (recv : HSchema) (v : UVal) :
    (applyHOp cfg σ recv (.setDefault v)).2.s.dflt = some v ∧ (applyHOp cfg σ recv (.setDefault v)).2.lists = recv.lists ∧
    (applyHOp cfg σ recv (.setDefault v)).2.singles = recv.singles :=
  ⟨rfl, rfl, rfl⟩

theorem prefault_content (cfg : Cfg) (σ : Store) (recv : HSchema) (v : UVal) :
    (applyHOp cfg σ recv (.setPrefault v)).2.pre = some v ∧ (applyHOp cfg σ recv (.setPrefault v)).2.lists = recv.lists :=
  ⟨rfl, rfl⟩

/-- with `exclude_content`: an excluded entry is rejected by the result -/
theorem enum_verdict (leaf : Loc → HIn → Bool) (f : Nat) (w : World) (self : Loc) (o : HObs) (hk : o.k = .enum) (v : Nat) :
    hAccept leaf (f + 1) w self o (.tok v) = (listAt o 0).contains v := by
  simp only [hAccept, hBody, hk]

theorem union_verdict (mem : Loc → HIn → Bool) (o : HObs) (hk : o.k = .union) (inp : HIn) :
    hBody mem o inp = (listAt o 0).any (fun m => mem m inp) := by
  simp only [hBody, hk]

theorem inter_verdict (mem : Loc → HIn → Bool) (o : HObs) (hk : o.k = .inter) (inp : HIn) :
    hBody mem o inp = (o.singles.filterMap id).all (fun m => mem m inp) := by
  simp only [hBody, hk]

/-! ### non-vacuity (a test, not a theorem): an enum, `Exclude`, `Or` of the two, a sibling `Describe`; verdicts by depth 3 -/

def hBase : Store × HSchema :=
  let r := hRebuild fixed σ0 dummy 22 [] 0
  let a := alloc r.1 (.vals [4, 5, 6])
  (a.1, ⟨r.2, .enum, [], [some a.2], none⟩)

example :
    let r1 := applyHOp fixed hBase.1 hBase.2 (.exclude [5] [] 0)
    let r2 := applyHOp fixed r1.1 r1.2 (.orWith hBase.2.s.self [8] 1)
    let r3 := applyHOp fixed r2.1 hBase.2 (.common (.derive 1 [] (some 7)))
    let w := worldOf r3.1.heap [hBase.2, r1.2, r2.2, r3.2]
    obsH r3.1.heap hBase.2 = obsH hBase.1.heap hBase.2 ∧
    (obsH r3.1.heap r1.2).lists = [some [4, 6]] ∧
    hAccept (fun _ _ => false) 3 w r1.2.s.self (obsH r3.1.heap r1.2) (.tok 5) = false ∧
    hAccept (fun _ _ => false) 3 w r2.2.s.self (obsH r3.1.heap r2.2) (.tok 5) = true ∧
    hAccept (fun _ _ => false) 3 w r2.2.s.self (obsH r3.1.heap r2.2) (.tok 7) = false := by decide

theorem invH_base : InvH hBase.1 [hBase.2] :=
  have h := withList_spec (hRebuild_spec fixed rfl σ0 dummy 22 [] 0 inv0.closed (inv0.wf dummy List.mem_cons_self))
    .enum [4, 5, 6]
  ⟨h.2.1, fun _ hx => List.mem_singleton.1 hx ▸ h.2.2.1⟩

example : (HOp.exclude [5] [] 0).ok hBase.1 := trivial
example : (HOp.common (.derive 1 [] (some 7))).ok hBase.1 := ⟨trivial, rfl⟩
example : hopsOK fixed hBase.1 [hBase.2] [(0, .exclude [5] [] 0)] := by
  simp only [hopsOK, List.getElem?_cons_zero]
  exact ⟨trivial, trivial⟩

end Gozod.C08
