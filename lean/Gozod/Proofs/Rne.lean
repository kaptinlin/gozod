/-
  Round to nearest, ties to even.  `Coerce.rneDiv n s` is `n / 2^s` rounded to an integer; the
  model's three roundings are `rneDiv n s * 2^s` for the shift `s` each of them picks:
  `roundTo` (`excessBits`), `FloatMul.roundNat` (`bitlen n - p`), `roundMag` (its shift is carried out in
  Proofs/C17Round.lean).
  What the proofs use of `rneDiv` at a fixed shift: it is nearest-even (`rneDiv_nearest`), it does not cross a
  grid point `c·2^s` (`rneDiv_le`, `le_rneDiv`), so it fixes grid points (`rneDiv_mul_pow`), and it does not
  see a common scale (`rneDiv_scale`).
-/
import Gozod.Model.Coerce
import Gozod.Model.FloatMul

namespace Gozod.Rne
open Gozod Gozod.Coerce

theorem rneDiv_zero (n : Nat) : rneDiv n 0 = n := rfl

theorem rneDiv_pos (n : Nat) {s : Nat} (hs : 0 < s) :
    rneDiv n s = if n % 2 ^ s > 2 ^ (s - 1) ∨ (n % 2 ^ s = 2 ^ (s - 1) ∧ n / 2 ^ s % 2 = 1)
      then n / 2 ^ s + 1 else n / 2 ^ s := by
  unfold rneDiv; rw [if_neg (by omega)]

/-- `rneDiv n s · 2^s` is within half a unit `2^s` of `n`, ties to even. -/
theorem rneDiv_nearest (n s : Nat) (hs : 0 < s) :
    2 * (rneDiv n s * 2 ^ s) ≤ 2 * n + 2 ^ s ∧ 2 * n ≤ 2 * (rneDiv n s * 2 ^ s) + 2 ^ s ∧
    ((2 * (rneDiv n s * 2 ^ s) = 2 * n + 2 ^ s ∨ 2 * n = 2 * (rneDiv n s * 2 ^ s) + 2 ^ s) →
      rneDiv n s % 2 = 0) := by
  have hP : 2 ^ s = 2 * 2 ^ (s - 1) := by
    have : s = (s - 1) + 1 := by omega
    rw [this, Nat.pow_succ, Nat.mul_comm]; simp
  have hdm : 2 ^ s * (n / 2 ^ s) + n % 2 ^ s = n := Nat.div_add_mod n (2 ^ s)
  have hr : n % 2 ^ s < 2 ^ s := Nat.mod_lt _ (Nat.pow_pos (by decide))
  rw [rneDiv_pos n hs]
  generalize n / 2 ^ s = q at *
  generalize n % 2 ^ s = r at *
  generalize 2 ^ (s - 1) = H at *
  generalize 2 ^ s = P at *
  by_cases hc : r > H ∨ (r = H ∧ q % 2 = 1)
  · rw [if_pos hc, Nat.add_mul, Nat.one_mul, Nat.mul_comm q P]; omega
  · rw [if_neg hc, Nat.mul_comm q P]; omega

/-- A grid point above `n` stays above: half a unit is less than a whole one. -/
theorem rneDiv_le (n s c : Nat) (h : n ≤ c * 2 ^ s) : rneDiv n s ≤ c := by
  cases s with
  | zero => simpa [rneDiv_zero] using h
  | succ s =>
    have h1 := (rneDiv_nearest n (s + 1) (by omega)).1
    have hP : 0 < 2 ^ (s + 1) := Nat.pow_pos (by decide)
    apply Nat.le_of_not_lt
    intro hlt
    have := Nat.mul_le_mul_right (2 ^ (s + 1)) (Nat.succ_le_of_lt hlt)
    rw [Nat.succ_mul] at this
    omega

theorem le_rneDiv (n s c : Nat) (h : c * 2 ^ s ≤ n) : c ≤ rneDiv n s := by
  cases s with
  | zero => simpa [rneDiv_zero] using h
  | succ s =>
    have hq : c ≤ n / 2 ^ (s + 1) := (Nat.le_div_iff_mul_le (Nat.pow_pos (by decide))).2 h
    rw [rneDiv_pos n (by omega)]
    split <;> omega

theorem rneDiv_mul_pow (m s : Nat) : rneDiv (m * 2 ^ s) s = m :=
  Nat.le_antisymm (rneDiv_le _ _ _ (Nat.le_refl _)) (le_rneDiv _ _ _ (Nat.le_refl _))

theorem rneDiv_scale (n s j : Nat) : rneDiv (n * 2 ^ j) (s + j) = rneDiv n s := by
  cases s with
  | zero => rw [Nat.zero_add]; exact rneDiv_mul_pow n j
  | succ s =>
    have hJ : 0 < 2 ^ j := Nat.pow_pos (by decide)
    have e1 : n * 2 ^ j / 2 ^ (s + 1 + j) = n / 2 ^ (s + 1) := by
      rw [Nat.pow_add, Nat.mul_div_mul_right _ _ hJ]
    have e2 : n * 2 ^ j % 2 ^ (s + 1 + j) = n % 2 ^ (s + 1) * 2 ^ j := by
      rw [Nat.pow_add, Nat.mul_mod_mul_right]
    have e3 : 2 ^ (s + 1 + j - 1) = 2 ^ (s + 1 - 1) * 2 ^ j := by
      rw [← Nat.pow_add]; congr 1; omega
    rw [rneDiv_pos _ (by omega), rneDiv_pos _ (by omega), e1, e2, e3]
    generalize n % 2 ^ (s + 1) = r
    generalize 2 ^ (s + 1 - 1) = hf
    have c1 : r * 2 ^ j > hf * 2 ^ j ↔ r > hf := Nat.mul_lt_mul_right hJ
    have c2 : r * 2 ^ j = hf * 2 ^ j ↔ r = hf :=
      ⟨fun h => Nat.eq_of_mul_eq_mul_right hJ h, fun h => by rw [h]⟩
    simp only [c1, c2]

theorem roundTo_eq (p n : Nat) : roundTo p n = rneDiv n (excessBits p 64 n) * 2 ^ excessBits p 64 n := by
  unfold roundTo rneDiv
  generalize excessBits p 64 n = sh
  by_cases h : sh = 0
  · subst h; simp
  · simp only [if_neg h]

open FloatMul in
theorem roundNat_eq (p n : Nat) : roundNat p n = rneDiv n (bitlen n - p) * 2 ^ (bitlen n - p) := by
  unfold roundNat rneDiv
  generalize bitlen n - p = sh
  by_cases h : sh = 0
  · subst h; simp
  · simp only [if_neg h]

end Gozod.Rne
