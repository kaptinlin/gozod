/-
  C11 — which keywords jsonschema/from.go READS, tied to the Lean transcription.

  `Gen.fromReads` (regenerated by harness/cmd/c11/reads.go, go/ast) lists for every function of from.go the fields of
  lib.Schema it reads, by JSON keyword name.  Each Lean conversion function depends on the named fields of `Parts` only
  (`*_frame`), and the Go function it transcribes reads exactly the keywords of those fields (`reads_*`): a keyword newly
  read, or dropped, by from.go changes an obligation here.  Then the reads against `Gen.keywordTable` and the documentation.
-/
import Gozod.Model.FromJson
import Gozod.Gen.FromReads
import Gozod.Gen.KeywordTable
namespace Gozod.C11
open Gozod.Jsc

def readsOf (f : String) : List String := ((Gen.fromReads.find? (fun r => r.1 == f)).map (·.2)).getD []

def sameSet (a b : List String) : Bool := a.all b.contains && b.all a.contains

/-- CONVERTING functions: everything except the strict-mode test and the metadata pass. -/
def converterReads : List String :=
  ((Gen.fromReads.filter (fun r => r.1 != "checkUnsupportedFeatures" && r.1 != "attachMeta")).map (·.2)).flatten

def documentedKw (k : String) : Bool := Gen.keywordTable.any (fun r => r.kw == k && r.documented)

/-- the obligations that relate the two regenerated tables, evaluated together (the kernel then compares the tables'
    strings once). -/
theorem tables_agree :
    converterReads.all (fun k => documentedKw k || k == "~Boolean" || k == "~ResolvedRef") = true
    ∧ Gen.keywordTable.all (fun r => !r.documented || converterReads.contains r.kw
      || (r.kw == "$ref" && converterReads.contains "~ResolvedRef")) = true
    ∧ Gen.keywordTable.all (fun r => r.strictRejects == (readsOf "checkUnsupportedFeatures").contains r.kw) = true
    ∧ (readsOf "checkUnsupportedFeatures").all (fun k => Gen.keywordTable.any (fun r => r.kw == k) || k == "$dynamicRef") = true
    ∧ converterReads.all (fun k => !(readsOf "checkUnsupportedFeatures").contains k) = true := by
  decide +kernel

theorem convString_frame (p q : Parts) (h1 : p.format = q.format) (h2 : p.minLength = q.minLength)
    (h3 : p.maxLength = q.maxLength) (h4 : p.pattern = q.pattern) : convString fx p = convString fx q := by
  unfold convString strCks
  rw [h1, h2, h3, h4]

theorem reads_convertString : sameSet (readsOf "convertString") ["format", "minLength", "maxLength", "pattern"] = true := by
  decide +kernel

theorem convNumber_frame (p q : Parts) (h1 : p.minimum = q.minimum) (h2 : p.maximum = q.maximum) (h3 : p.exMin = q.exMin)
    (h4 : p.exMax = q.exMax) (h5 : p.mul = q.mul) : convNumber p = convNumber q := by
  simp only [convNumber, h1, h2, h3, h4, h5]

theorem reads_convertNumber : sameSet (readsOf "convertNumber")
    ["minimum", "maximum", "exclusiveMinimum", "exclusiveMaximum", "multipleOf"] = true := by
  decide +kernel

theorem convInteger_frame (p q : Parts) (h1 : p.minimum = q.minimum) (h2 : p.maximum = q.maximum) (h3 : p.exMin = q.exMin)
    (h4 : p.exMax = q.exMax) (h5 : p.mul = q.mul) : convInteger fx p = convInteger fx q := by
  simp only [convInteger, h1, h2, h3, h4, h5]

theorem reads_convertInteger : sameSet (readsOf "convertInteger")
    ["minimum", "maximum", "exclusiveMinimum", "exclusiveMaximum", "multipleOf"] = true := by
  decide +kernel

/-- `convArray` is `convertArray` + `convertTuple`. -/
theorem convArray_frame (p q : Parts) (h1 : p.prefixItems = q.prefixItems) (h2 : p.items = q.items)
    (h3 : p.minItems = q.minItems) (h4 : p.maxItems = q.maxItems) : convArray fx p = convArray fx q := by
  unfold convArray
  rw [h1, h2, h3, h4]

theorem reads_convertArray : sameSet (readsOf "convertArray" ++ readsOf "convertTuple")
    ["prefixItems", "items", "minItems", "maxItems"] = true := by
  decide +kernel

/-- the tuple path does not read minItems (finding tuple-items-all-required), and maxItems only to decide whether the tuple
    has a rest element (`tupRest`). -/
theorem reads_convertTuple :
    sameSet (readsOf "convertTuple") (["prefixItems", "items"] ++ (if cur.tupOpen then ["maxItems"] else [])) = true := by
  decide +kernel

theorem convObject_frame (p q : Parts) (h1 : p.properties = q.properties) (h2 : p.required = q.required)
    (h3 : p.addl = q.addl) : convObject fx se p = convObject fx se q := by
  unfold convObject objOf addlValue
  rw [h1, h2, h3]

theorem reads_convertObject : sameSet (readsOf "convertObject") ["properties", "required", "additionalProperties"] = true := by
  decide +kernel

/-- `convByType` is `convertByType` + `convertMultiType`. -/
theorem convByType_frame (p q : Parts) (ht : p.types = q.types)
    (h : ∀ t, convOneType fx se p t = convOneType fx se q t) : convByType fx se p = convByType fx se q := by
  have hf : convOneType fx se p = convOneType fx se q := funext h
  simp only [convByType, ht, hf]

theorem reads_convertByType : sameSet (readsOf "convertByType" ++ readsOf "convertMultiType") ["type"] = true := by
  decide +kernel

/-- `assemble` is `convert` after the sub-schemas are converted. -/
theorem assemble_frame (T : Str → Bool) (st : Bool) (p q : Parts) (h0 : p.ref = q.ref) (h1 : p.others = q.others)
    (h2 : p.allOf = q.allOf) (h3 : p.anyOf = q.anyOf) (h4 : p.oneOf = q.oneOf) (h5 : p.const = q.const)
    (h6 : p.enum = q.enum) (h7 : ∀ se, convByType fx se p = convByType fx se q) : assemble fx T st p = assemble fx T st q := by
  unfold assemble
  rw [h0, h1, h2, h3, h4, h5, h6, h7]

/-- `~Boolean`, `~ResolvedRef`: the boolean-schema flag and the resolved `$ref`. -/
theorem reads_convert : readsOf "convert" = ["~Boolean", "~ResolvedRef", "allOf", "anyOf", "oneOf", "const", "enum"] := by
  decide +kernel

theorem reads_dispatch_members : readsOf "convertAllOf" = ["allOf"] ∧ readsOf "convertAnyOf" = ["anyOf"]
    ∧ readsOf "convertOneOf" = ["oneOf"] ∧ readsOf "convertConst" = ["const"] ∧ readsOf "convertEnum" = ["enum"] := by
  decide +kernel

/-- annotations are read by `attachMeta` only (they never reach the produced schema's verdicts). -/
theorem reads_attachMeta : readsOf "attachMeta" = ["$id", "title", "description", "examples"] := by
  decide +kernel

/-- every keyword a converting function reads is documented as supported (`~Boolean` / `~ResolvedRef` have no JSON field
    of their own, and a `$ref` needs a target, so the one-keyword documents of the behavioural table have no row for it). -/
theorem converter_reads_documented :
    converterReads.all (fun k => documentedKw k || k == "~Boolean" || k == "~ResolvedRef") = true :=
  tables_agree.1

/-- every keyword documented as supported is read by a converting function: none is documented and ignored. -/
theorem documented_are_read :
    Gen.keywordTable.all (fun r => !r.documented || converterReads.contains r.kw
      || (r.kw == "$ref" && converterReads.contains "~ResolvedRef")) = true :=
  tables_agree.2.1

/-- the behavioural table and the source agree row by row on what strict mode rejects. -/
theorem strict_rejects_iff_read :
    Gen.keywordTable.all (fun r => r.strictRejects == (readsOf "checkUnsupportedFeatures").contains r.kw) = true :=
  tables_agree.2.2.1

/-- everything `checkUnsupportedFeatures` reads has a row in the table (so `strict_rejects_iff_read` speaks about all of
    it), except `$dynamicRef`, which the harness cannot put into a compilable one-keyword document. -/
theorem strict_reads_in_table :
    (readsOf "checkUnsupportedFeatures").all (fun k => Gen.keywordTable.any (fun r => r.kw == k) || k == "$dynamicRef") = true :=
  tables_agree.2.2.2.1

theorem converted_not_rejected :
    converterReads.all (fun k => !(readsOf "checkUnsupportedFeatures").contains k) = true :=
  tables_agree.2.2.2.2

end Gozod.C11
