/-
  C02 — the INDEPENDENT law `Spec.accepts` (ContainersSpec.lean: `shapeOf` = which (location, member, value) triples a
  container must ask + its own conditions) related to the model of the code `Cont.run` BY THEOREM, per container:
  `c02_<container>_spec : (run cfg env n v).isOk = Spec.accepts env n v` on inputs that are not nil-like
  (on nil-like inputs no theorem relates them: open finding typed-nil-container-rejected).

  Product containers go through `spec_product`: the code's extractor is the shape function of the law, and on an
  extracted payload the condition of `c02_<container>` says what the shape's own condition and asked triples say.
  Intersection and lazy only under the exclusions of their `_partial` theorems; the discriminated union has its law in
  Proofs/C02Du.lean (`c02_du_law`, against `Spec.acceptsDU`).
-/
import Gozod.Proofs.C02
import Gozod.Model.ContainersSpec

namespace Gozod.C02
open Gozod.Cont

theorem accepts_product {env : Env} {n : Node} {v : V} (hn : Spec.isProduct n = true) (hv : v.isNilLike = false) :
    Spec.accepts env n v = match Spec.shapeOf env n v with
      | some s => s.ownOK && s.asked.all (fun (_, m, x) => acc env m x)
      | none => false := by
  cases n <;> first | exact Bool.noConfusion hn | (simp [Spec.accepts, hv]; rfl)

theorem spec_product {α : Type} {cfg : Cfg} {env : Env} {n : Node} {v : V} (hn : Spec.isProduct n = true)
    (hv : v.isNilLike = false) {ex : V → Option α} {sh : α → Spec.Shape} {Q : α → Prop}
    (hrun : (run cfg env n v).isOk = true ↔ ∃ a, ex v = some a ∧ Q a)
    (hsh : Spec.shapeOf env n v = (ex v).map sh)
    (hQ : ∀ a, Q a ↔ ((sh a).ownOK && (sh a).asked.all fun (_, m, x) => acc env m x) = true) :
    (run cfg env n v).isOk = Spec.accepts env n v := by
  rw [accepts_product hn hv, hsh, Bool.eq_iff_iff, hrun]
  cases ex v <;> simp [hQ]

/-! The extractors of the code are the shape functions of the law (on inputs that are not nil-like). Code and law look at the constructor of the input (a typed slice, a map, …, a pointer with its pointee type and
  pointee) in different orders; the eight equations are that case analysis. The `rcases` patterns go as deep as the
  deeper of the two definitions looks; each case is `rfl`, or nil-like (`hv`), or leaves one test on the element type. -/

theorem extractSlice_eq_sh (t : Ty) (v : V) (hv : v.isNilLike = false) : extractSlice t v = Spec.sliceSh t v := by
  rcases v with _ | _ | ⟨e, _ | _⟩ | _ | _ |
      ⟨_ | _ | _ | _ | _ | _ | e | _ | _ | _ | _, _ | (_ | _ | ⟨_, _ | _⟩ | _ | _ | _)⟩ <;>
    first
    | rfl
    | exact Bool.noConfusion hv
    | (by_cases h : e = t <;> simp [extractSlice, Spec.sliceSh, Spec.allOf, h])

theorem extractSet_eq_sh (t : Ty) (v : V) (hv : v.isNilLike = false) : extractSet t v = Spec.setSh t v := by
  rcases v with _ | _ | ⟨e, _ | _⟩ | ⟨k, e, _ | _⟩ | _ | ⟨t', _ | w⟩ <;>
    first | rfl | exact Bool.noConfusion hv | skip
  · by_cases h : e = t <;> simp [extractSet, Spec.setSh, Spec.allOf, h]
  · cases e <;> first | rfl | skip
    simp only [extractSet, Spec.setSh, Spec.allOf, Option.getD_some, List.all_map, Function.comp_def]
    split <;> rename_i h <;> first | simp [h] | rw [decide_eq_false h, Bool.false_or]
  · cases t' <;> first | rfl | skip
    rename_i k e
    cases e <;> first | rfl | skip
    rcases w with _ | _ | _ | ⟨_, _, _ | _⟩ | _ | _ <;> rfl

theorem extractMap_eq_sh (v : V) (hv : v.isNilLike = false) : extractMap v = Spec.mapSh v := by
  rcases v with _ | _ | ⟨_, _ | _⟩ | ⟨_, _, _ | _⟩ | _ | ⟨_, _ | (_ | _ | _ | ⟨_, _, _ | _⟩ | _ | _)⟩ <;>
    first | rfl | exact Bool.noConfusion hv

theorem extractStruct_eq_sh (sid : Nat) (v : V) : extractStruct sid v = Spec.structSh sid v := by
  rcases v with _ | _ | _ | _ | _ | ⟨_ | _ | _ | _ | _ | _ | _ | _ | _ | _ | _, _ | (_ | _ | _ | _ | _ | _)⟩ <;> rfl

theorem extractArray_eq_sh (v : V) (hv : v.isNilLike = false) : extractArray v = Spec.seqElems v := by
  rcases v with _ | _ | ⟨_, _ | _⟩ | ⟨_, _, _ | _⟩ | _ | ⟨_, _ | (_ | _ | ⟨_, _ | _⟩ | _ | _ | _)⟩ <;>
    first | rfl | exact Bool.noConfusion hv

theorem extractTuple_eq_sh (v : V) (hv : v.isNilLike = false) : extractTuple v = Spec.tupleSh v := by
  rcases v with _ | _ | ⟨_, _ | _⟩ | ⟨_, _, _ | _⟩ | _ | ⟨_, _ | _⟩ <;> first | rfl | exact Bool.noConfusion hv

theorem extractObject_eq_sh (v : V) (hv : v.isNilLike = false) : extractObject v = Spec.objectSh v := by
  rcases v with _ | _ | _ | ⟨k, e, _ | _⟩ | _ | ⟨t, _ | w⟩ <;> first | rfl | exact Bool.noConfusion hv | skip
  · cases k <;> first | rfl | (cases e <;> rfl)
  · cases t <;> first | rfl | skip
    rename_i k e
    cases k <;> first | rfl | skip
    cases e <;> first | rfl | skip
    rcases w with _ | _ | _ | ⟨_, _, _ | _⟩ | _ | _ <;> rfl

theorem extractRecord_eq_sh (v : V) (hv : v.isNilLike = false) : extractRecord v = Spec.recordSh v := by
  rcases v with _ | _ | _ | ⟨k, e, _ | _⟩ | _ | ⟨t, _ | w⟩ <;> first | rfl | exact Bool.noConfusion hv | skip
  cases t <;> first | rfl | skip
  rename_i k e
  cases k <;> first | rfl | skip
  cases e <;> first | rfl | skip
  rcases w with _ | _ | _ | ⟨_, _, _ | _⟩ | _ | _ <;> rfl

theorem positional_from (env : Env) (items : List Mid) (rest : Option Mid) (k : Nat) (xs : List V) :
    ((Spec.idxFrom k xs).filterMap (fun (i, x) =>
        match items[i]? with
        | some m => some (([Seg.idx i], m, x) : List Seg × Mid × V)
        | none => rest.map (fun r => ([Seg.idx i], r, x)))).all (fun a => acc env a.2.1 a.2.2)
      = posOK env (items.drop k) rest xs := by
  induction xs generalizing k with
  | nil => cases items.drop k <;> rfl
  | cons x xs ih =>
    by_cases hk : k < items.length
    · simp only [Spec.idxFrom, List.filterMap_cons, List.getElem?_eq_getElem hk, List.all_cons, ih,
        List.drop_eq_getElem_cons hk, posOK]
    · have hk := Nat.le_of_not_lt hk
      have h2 := ih (k + 1)
      rw [List.drop_eq_nil_of_le (Nat.le_succ_of_le hk)] at h2
      simp only [Spec.idxFrom, List.filterMap_cons, List.getElem?_eq_none hk, List.drop_eq_nil_of_le hk]
      cases rest with
      | none => rw [Option.map_none, h2]; cases xs <;> rfl
      | some r => rw [Option.map_some, List.all_cons, h2, posOK]

theorem positional_all (env : Env) (items : List Mid) (rest : Option Mid) (xs : List V) :
    (Spec.positional items rest xs).all (fun a => acc env a.2.1 a.2.2) = posOK env items rest xs :=
  positional_from env items rest 0 xs

theorem c02_slice_spec (cfg : Cfg) (env : Env) (m : Mods) (t : Ty) (e : Mid) (cs : List SizeCk) (v : V)
    (hv : v.isNilLike = false) :
    (run cfg env (.slice m t e cs) v).isOk = Spec.accepts env (.slice m t e cs) v := by
  refine spec_product rfl hv (extractSlice_eq_sh t v hv ▸ c02_slice cfg env m t e cs v hv) rfl fun xs => ?_
  have h := positional_from env [] (some e) 0 xs
  simp only [List.getElem?_nil, Option.map_some, List.filterMap_eq_map', List.drop_nil] at h
  simp [h, posOK_iff]

theorem c02_array_spec (cfg : Cfg) (env : Env) (m : Mods) (items : List Mid) (rest : Option Mid) (cs : List SizeCk)
    (v : V) (hv : v.isNilLike = false) :
    (run cfg env (.array m items rest cs) v).isOk = Spec.accepts env (.array m items rest cs) v := by
  refine spec_product rfl hv (extractArray_eq_sh v hv ▸ c02_array cfg env m items rest cs v hv) rfl fun xs => ?_
  simp [positional_all, arrayLenOK, and_assoc]

theorem c02_tuple_spec (cfg : Cfg) (env : Env) (m : Mods) (items : List Mid) (req : Nat) (rest : Option Mid)
    (cs : List SizeCk) (v : V) (hv : v.isNilLike = false) :
    (run cfg env (.tuple m items req rest cs) v).isOk = Spec.accepts env (.tuple m items req rest cs) v := by
  refine spec_product rfl hv (extractTuple_eq_sh v hv ▸ c02_tuple cfg env m items req rest cs v hv) rfl fun xs => ?_
  simp [positional_all, tupleLenOK, and_assoc, and_comm, and_left_comm]

theorem c02_set_spec (cfg : Cfg) (env : Env) (m : Mods) (t : Ty) (e : Mid) (cs : List SizeCk) (v : V)
    (hv : v.isNilLike = false) :
    (run cfg env (.set m t e cs) v).isOk = Spec.accepts env (.set m t e cs) v := by
  refine spec_product rfl hv (extractSet_eq_sh t v hv ▸ c02_set cfg env m t e cs v hv) rfl fun xs => ?_
  simp [List.all_map, Function.comp_def]

theorem mapAsked_all (env : Env) (km vm : Option Mid) (es : List (V × V)) :
    (es.flatMap (fun (kx : V × V) =>
        ((match km with | some m => [([kx.1.seg], m, kx.1)] | none => [])
          ++ (match vm with | some m => [([kx.1.seg], m, kx.2)] | none => []) : List (List Seg × Mid × V)))).all
        (fun a => acc env a.2.1 a.2.2) = true ↔
      ∀ e ∈ es, optAcc env km e.1 = true ∧ optAcc env vm e.2 = true := by
  cases km <;> cases vm <;> simp [List.all_flatMap, optAcc]

theorem c02_map_spec (cfg : Cfg) (env : Env) (m : Mods) (km vm : Option Mid) (cs : List SizeCk) (v : V)
    (hv : v.isNilLike = false) :
    (run cfg env (.map m km vm cs) v).isOk = Spec.accepts env (.map m km vm cs) v := by
  refine spec_product rfl hv (extractMap_eq_sh v hv ▸ c02_map cfg env m km vm cs v hv) rfl fun es => ?_
  rw [Bool.and_eq_true, ← mapAsked_all]; rfl

theorem c02_struct_spec (cfg : Cfg) (env : Env) (m : Mods) (ptrC : Bool) (sid : Nat) (shape : List Field) (v : V)
    (hv : v.isNilLike = false) :
    (run cfg env (.struct m ptrC sid shape) v).isOk = Spec.accepts env (.struct m ptrC sid shape) v := by
  refine spec_product rfl hv (extractStruct_eq_sh sid v ▸ c02_struct cfg env m ptrC sid shape v hv) rfl fun fs => ?_
  simp only [Bool.and_eq_true, List.isEmpty_iff, List.filter_eq_nil_iff, List.all_filterMap, List.all_eq_true,
    ← forall_and]
  refine forall₂_congr fun f _ => ?_
  unfold structFieldOK
  cases lookupField f.name fs <;> simp

/-- On nil-like inputs the two differ: `c02_union_full_false`. -/
theorem c02_union_spec (cfg : Cfg) (env : Env) (m : Mods) (opts : List Mid) (v : V) (hv : v.isNilLike = false) :
    (run cfg env (.union m opts) v).isOk = Spec.accepts env (.union m opts) v := by
  rw [Bool.eq_iff_iff, c02_union cfg env m opts v hv]
  simp [Spec.accepts, hv]

theorem c02_xor_spec (cfg : Cfg) (env : Env) (m : Mods) (opts : List Mid) (v : V) (hv : v.isNilLike = false) :
    (run cfg env (.xor m opts) v).isOk = Spec.accepts env (.xor m opts) v := by
  rw [Bool.eq_iff_iff, c02_xor cfg env m opts v hv]
  simp [Spec.accepts, hv]

theorem c02_inter_spec_partial (cfg : Cfg) (env : Env) (m : Mods) (l r : Mid) (v : V) (hv : v.isNilLike = false)
    (hl : ∀ i ∈ errs env l v, isUnrec i = false) (hr : ∀ i ∈ errs env r v, isUnrec i = false) :
    (run cfg env (.inter m l r) v).isOk = Spec.accepts env (.inter m l r) v := by
  rw [Bool.eq_iff_iff, c02_inter_partial cfg env m l r v hv hl hr]
  simp [Spec.accepts, hv, and_assoc]

theorem c02_lazy_spec_partial (cfg : Cfg) (env : Env) (m : Mods) (direct : Bool) (t : Mid) (v : V)
    (hv : lazyNil v = false) (hask : (cfg.lazyWrap || direct) = true)
    (hph : ∀ i ∈ errs env t v, (i.code == .invalidType && i.expLazy) = false) :
    (run cfg env (.lazy m direct t) v).isOk = Spec.accepts env (.lazy m direct t) v := by
  rw [Bool.eq_iff_iff, c02_lazy_partial cfg env m direct t v hv hask hph]
  simp [Spec.accepts, hv]

theorem objFields_spec (env : Env) (p : Partial) (es : List (V × V)) (shape : List Field) :
    (∀ f ∈ shape, objFieldOK env p es f = true) ↔
      ((shape.filter fun f => !Spec.has es f.name && !fieldOptional p f) = [] ∧
        (shape.filter fun f => f.exactOptional &&
          match lookupKey f.name es with
          | some x => x.isNil
          | none => false) = []) ∧
      (shape.filterMap fun f => (lookupKey f.name es).map fun x => (([Seg.key f.name], f.m, x) : List Seg × Mid × V)).all
        (fun a => acc env a.2.1 a.2.2) = true := by
  simp only [List.filter_eq_nil_iff, List.all_filterMap, List.all_eq_true, ← forall_and]
  refine forall₂_congr fun f _ => ?_
  unfold objFieldOK Spec.has
  cases lookupKey f.name es with
  | none => simp
  | some x => cases f.exactOptional <;> cases x.isNil <;> simp

/-- the `let unkAsked` of `Spec.shapeOf`. -/
def specUnkAsked (shape : List Field) (mode : Mode) (c : Option Mid) (es : List (V × V)) : List (List Seg × Mid × V) :=
  match mode, c with
  | .strict, _ => []
  | _, some c => (es.filter fun (e : V × V) => !isKnown shape e.1).map
      fun (kx : V × V) => (([kx.1.seg], c, kx.2) : List Seg × Mid × V)
  | _, none => []

theorem objUnknown_spec (env : Env) (shape : List Field) (mode : Mode) (c : Option Mid) (es : List (V × V)) :
    (∀ e ∈ es, isKnown shape e.1 = false → unkOK env mode c e.2 = true) ↔
      (!(mode == Mode.strict && !(es.filter fun (e : V × V) => !isKnown shape e.1).isEmpty)) = true ∧
      (specUnkAsked shape mode c es).all (fun a => acc env a.2.1 a.2.2) = true := by
  cases mode <;> cases c <;>
    simp [specUnkAsked, unkOK, optAcc, List.filter_eq_nil_iff, Decidable.or_iff_not_imp_left]

/-- when everything asked is accepted the law keeps the keys the code keeps. -/
theorem kept_spec (env : Env) (shape : List Field) (mode : Mode) (c : Option Mid) (es : List (V × V)) :
    (shape.filterMap fun f => (lookupKey f.name es).map fun x => (([Seg.key f.name], f.m, x) : List Seg × Mid × V)).all
      (fun a => acc env a.2.1 a.2.2) = true →
    (specUnkAsked shape mode c es).all (fun a => acc env a.2.1 a.2.2) = true →
    ((shape.filterMap fun f => (lookupKey f.name es).map fun x => (([Seg.key f.name], f.m, x) : List Seg × Mid × V)).filter
        (fun a => acc env a.2.1 a.2.2)).length +
      (if (mode == Mode.passthrough) = true then
        ((es.filter fun (e : V × V) => !isKnown shape e.1).filter fun (kx : V × V) =>
          match c with
          | some c => acc env c kx.2
          | none => true).length
       else 0) = keptCount shape mode es := by
  intro fa ua
  rw [List.filter_eq_self.2 (List.all_eq_true.1 fa), List.length_filterMap_eq_countP, List.countP_eq_length_filter,
    keptCount]
  simp only [Option.isSome_map]
  congr 1
  cases mode <;> cases c <;> simp_all [specUnkAsked]
  refine congrArg _ (List.filter_congr fun e he => ?_)
  cases hk : isKnown shape e.1
  · simpa [hk] using ua e.1 e.2 he
  · simp

theorem c02_object_spec (cfg : Cfg) (env : Env) (m : Mods) (shape : List Field) (mode : Mode) (c : Option Mid)
    (p : Partial) (cs : List SizeCk) (v : V) (hv : v.isNilLike = false) :
    (run cfg env (.object m shape mode c p cs) v).isOk = Spec.accepts env (.object m shape mode c p cs) v := by
  refine spec_product rfl hv (extractObject_eq_sh v hv ▸ c02_object cfg env m shape mode c p cs v hv) rfl fun es => ?_
  simp only [objFields_spec, objUnknown_spec, Bool.and_eq_true, List.all_append, List.isEmpty_iff]
  constructor
  · rintro ⟨⟨me, fa⟩, ⟨sb, ua⟩, sz⟩
    exact ⟨⟨⟨me, sb⟩, (kept_spec env shape mode c es fa ua).symm ▸ sz⟩, fa, ua⟩
  · rintro ⟨⟨⟨me, sb⟩, sz⟩, fa, ua⟩
    exact ⟨⟨me, fa⟩, ⟨sb, ua⟩, kept_spec env shape mode c es fa ua ▸ sz⟩

theorem all_filterMap_iff {α β : Type} {F : α → Option β} {p : β → Bool} {q : α → Prop} {l : List α}
    (h : ∀ a, (∀ b, F a = some b → p b = true) ↔ q a) : (l.filterMap F).all p = true ↔ ∀ a ∈ l, q a := by
  simp only [List.all_eq_true, List.mem_filterMap, forall_exists_index, and_imp, ← h]
  exact ⟨fun hh a ha b hb => hh b a ha hb, fun hh b a ha hb => hh a ha b hb⟩

theorem c02_record_spec (cfg : Cfg) (env : Env) (m : Mods) (ks : KeySpec) (vm : Mid) (loose part : Bool)
    (cs : List SizeCk) (v : V) (hv : v.isNilLike = false) :
    (run cfg env (.record m ks vm loose part cs) v).isOk = Spec.accepts env (.record m ks vm loose part cs) v := by
  refine spec_product rfl hv (extractRecord_eq_sh v hv ▸ c02_record cfg env m ks vm loose part cs v hv) rfl fun es => ?_
  have regroup : ∀ {a b c d e f : Prop}, (a ↔ b ∧ c ∧ d) → (e ↔ f) → (a ∧ e ↔ b ∧ c ∧ d ∧ f) :=
    fun h1 h2 => by rw [h1, h2, and_assoc, and_assoc]
  simp only [Bool.and_eq_true, List.all_append, and_assoc]
  refine and_congr_right fun _ => regroup ?_ (all_filterMap_iff fun e => ?_).symm
  · cases ks with
    | none => simp [recKeysOK]
    | enum al km => cases part <;> simp [recKeysOK, List.filter_eq_nil_iff, forall_keyId_eq]
    | schema km => cases loose <;> simp [recKeysOK]
  · cases h : keyMember ks <;> cases loose <;> simp [recSkip, h]
    rename_i km
    cases acc env km e.1 <;> simp

end Gozod.C02
