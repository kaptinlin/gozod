/-
  Soundness of the certificate checker of Model/Bisim.lean and Model/BisimR.lean (proved once, for every pattern,
  every specification automaton and every certificate).  `Cert.check` is `Cert.checkR` with nothing avoided, so the
  simulation argument is given for `checkR` only.  Every certificate a proof module imports is checked with `Cert.check` (hex, e164,
  base64, base64url_partial, isotime); the restricted alphabet (`B`: bytes the strings avoid, `L`: bytes of the pattern outside the
  alphabet) serves none of them: `bisim_sound_R` is the general statement, `bisim_sound` its instance `B = L = []`.
-/
import Gozod.Proofs.C20Lang
import Gozod.Proofs.C20Run
namespace Gozod.C20
open Gozod Gozod.Re

theorem zipAll_mem {α β : Type} {p q : α → β → Bool} :
    ∀ {as : List α} {bs : List β}, zipAll p as bs = true → zipAll q as bs = true →
      ∀ a, a ∈ as → ∃ b, p a b = true ∧ q a b = true
  | [], _, _, _, _, ha => by cases ha
  | _ :: _, [], h, _, _, _ => by simp [zipAll] at h
  | x :: xs, y :: ys, hp, hq, a, ha => by
    simp only [zipAll, Bool.and_eq_true] at hp hq
    rcases List.mem_cons.1 ha with rfl | ha
    · exact ⟨y, hp.1, hq.1⟩
    · exact zipAll_mem hp.2 hq.2 a ha

theorem zipAll_nth {α β : Type} {p : α → β → Bool} :
    ∀ {as : List α} {bs : List β}, zipAll p as bs = true →
      ∀ i a, nth as i = some a → ∃ b, nth bs i = some b ∧ p a b = true
  | [], _, _, i, a, ha => by simp [nth] at ha
  | _ :: _, [], h, _, _, _ => by simp [zipAll] at h
  | x :: xs, y :: ys, h, 0, a, ha => by
    simp [zipAll] at h; simp [nth] at ha; subst ha; exact ⟨y, by simp [nth], h.1⟩
  | x :: xs, y :: ys, h, i + 1, a, ha => by
    simp [zipAll] at h; simp only [nth] at ha ⊢; exact zipAll_nth h.2 i a ha

theorem not_mem_of_elem_false {b : Nat} : ∀ {l : List Nat}, l.elem b = false → ¬ b ∈ l := by
  intro l h hm
  rw [List.elem_iff.2 hm] at h
  cases h

theorem PNode.beq_eq {S E : Spec} {a b : PNode S E} (h : a.beq b = true) : a = b := by
  cases a; cases b
  simp only [PNode.beq, Bool.and_eq_true] at h
  obtain ⟨⟨h1, h2⟩, h3⟩ := h
  have := Nat.eq_of_beq_eq_true h1
  have := S.beqO_eq _ _ h2
  have := E.beqO_eq _ _ h3
  simp_all

section
variable {S E : Spec} (B L : List Nat) (r0 : Re) (c : Cert S E)

/-- `r` is entry `i` of the certificate's derivative list and ⟨i, oq, oe⟩ is in its tree; or both sides are dead -/
def Inv (r : Re) (oq : Option S.State) (oe : Option E.State) : Prop :=
  (∃ i, nth c.D i = some r ∧ c.tree.Mem ⟨i, oq, oe⟩) ∨ (r = Re.void ∧ oq = none)

theorem inTree_mem {t : Tree (PNode S E)} {n : PNode S E} (h : Cert.inTree t n = true) : t.Mem n := by
  unfold Cert.inTree at h
  split at h
  · next m hm => rw [← PNode.beq_eq h]; exact Tree.find_mem hm
  · cases h

theorem stepO_eq {c' : Nat} (h : S.support.elem c' = true) (oq : Option S.State) :
    S.stepO oq c' = S.gstep oq c' := by
  cases oq with
  | none => rfl
  | some q => rw [S.gstep_some, h]; rfl

theorem inv_step (h : Cert.checkR B L r0 c = true) (b : Nat) (hB : B.elem b = false)
    {r : Re} {oq : Option S.State} {oe : Option E.State}
    (hi : Inv c r oq oe) : Inv c (Re.deriv b r) (S.gstep oq b) (E.gstep oe b) := by
  simp only [Cert.checkR, Bool.and_eq_true] at h
  obtain ⟨⟨⟨⟨_, hL⟩, hdfa⟩, _⟩, hall⟩ := h
  rcases hi with ⟨i, hD, hmem⟩ | ⟨rfl, rfl⟩
  · obtain ⟨row, hrow, hr⟩ := zipAll_nth hdfa i r hD
    simp only [Bool.and_eq_true] at hr
    obtain ⟨⟨hcov, hderiv⟩, hdead⟩ := hr
    have hnode := Tree.all_mem hall hmem
    simp only [Cert.checkNodeR, hD, hrow, Bool.and_eq_true] at hnode
    obtain ⟨_, hsucc⟩ := hnode
    cases hb : S.support.elem b
    · -- outside the alphabet: both sides are dead
      right
      refine ⟨?_, Spec.gstep_outside hb oq⟩
      cases hl : L.elem b
      · have hout : (S.support ++ (B ++ L)).elem b = false := by
          simp only [List.elem_eq_contains, List.contains_append, Bool.or_eq_false_iff] at hb hB hl ⊢
          exact ⟨hb, hB, hl⟩
        exact Re.deriv_outside b r (Re.covered_outside hout r hcov)
      · exact Re.isNone_eq (List.all_eq_true.1 hdead b (List.elem_iff.1 hl))
    · left
      have hA : b ∈ Cert.alphaR S B := List.mem_filter.2 ⟨List.elem_iff.1 hb, by rw [hB]; rfl⟩
      obtain ⟨j, h1, h2⟩ := zipAll_mem hderiv hsucc b hA
      rw [stepO_eq hb] at h2
      refine ⟨j, ?_, inTree_mem h2⟩
      unfold Cert.derivAt at h1
      split at h1
      · next r' hr' => rw [hr', Re.beq_eq h1]
      · cases h1
  · right
    exact ⟨Re.deriv_none b, rfl⟩

theorem inv_run (h : Cert.checkR B L r0 c = true) : ∀ (s : List Nat), avoids B s = true →
    ∀ (r : Re) (oq : Option S.State) (oe : Option E.State),
    Inv c r oq oe → Inv c (Re.derivs r s) (s.foldl S.gstep oq) (s.foldl E.gstep oe)
  | [], _, _, _, _, hi => hi
  | b :: s, hs, r, oq, oe, hi => by
    simp only [avoids, List.all_cons, Bool.and_eq_true, Bool.not_eq_true'] at hs
    exact inv_run h s hs.2 _ _ _ (inv_step B L r0 c h b hs.1 hi)

theorem inv_init (h : Cert.checkR B L r0 c = true) : Inv c r0 (some S.init) (some E.init) := by
  simp only [Cert.checkR, Bool.and_eq_true] at h
  obtain ⟨⟨⟨⟨h0, _⟩, _⟩, hinit⟩, _⟩ := h
  left
  refine ⟨0, ?_, inTree_mem hinit⟩
  split at h0
  · next r hr => rw [hr, Re.beq_eq h0]
  · cases h0

theorem inv_good (h : Cert.checkR B L r0 c = true) {r : Re} {oq : Option S.State} {oe : Option E.State}
    (hi : Inv c r oq oe) (he : E.accO oe = false) : Re.nullable r = S.accO oq := by
  simp only [Cert.checkR, Bool.and_eq_true] at h
  obtain ⟨_, hall⟩ := h
  rcases hi with ⟨i, hD, hmem⟩ | ⟨rfl, rfl⟩
  · have hnode := Tree.all_mem hall hmem
    cases hrow : nth c.tbl i with
    | none => simp [Cert.checkNodeR, hD, hrow] at hnode
    | some row =>
      simp only [Cert.checkNodeR, hD, hrow, Bool.and_eq_true, Bool.or_eq_true, he] at hnode
      simpa using hnode.1
  · rfl

/-- Certificate soundness over a restricted alphabet: the pattern and the specification accept the same strings among
    those that contain no byte of `B` and lie outside the excluded region `E`. -/
theorem bisim_sound_R (h : Cert.checkR B L r0 c = true) :
    ∀ s : List Nat, avoids B s = true → E.run s = false → Re.accepts r0 s = S.run s :=
  fun s hs he => inv_good B L r0 c h (inv_run B L r0 c h s hs _ _ _ (inv_init B L r0 c h)) he

end

section
variable {S E : Spec} (r0 : Re) (c : Cert S E)

theorem check_eq_checkR : Cert.check r0 c = Cert.checkR [] [] r0 c := by
  have hA : Cert.alphaR S [] = S.support := List.filter_eq_self.2 fun _ _ => rfl
  simp only [Cert.check, Cert.checkR, Cert.checkDfa, Cert.checkDfaR, hA, List.all_nil, Bool.and_true, List.append_nil]
  rfl

/-- Certificate soundness: a certificate accepted by the checker proves that the pattern and the specification
    automaton accept the same strings outside the excluded region. -/
theorem bisim_sound (h : Cert.check r0 c = true) :
    ∀ s : List Nat, E.run s = false → Re.accepts r0 s = S.run s :=
  fun s => bisim_sound_R [] [] r0 c (check_eq_checkR r0 c ▸ h) s (List.all_eq_true.2 fun _ _ => rfl)

end

theorem never_run (s : List Nat) : Spec.never.run s = false := by
  unfold Spec.run
  cases Spec.never.runState s <;> rfl

theorem bisim_sound_full {S : Spec} (r0 : Re) (c : Cert S Spec.never) (h : Cert.check r0 c = true) :
    ∀ s : List Nat, Re.accepts r0 s = S.run s :=
  fun s => bisim_sound r0 c h s (never_run s)

theorem bisim_sound_R_full {S : Spec} (B L : List Nat) (r0 : Re) (c : Cert S Spec.never) (h : Cert.checkR B L r0 c = true) :
    ∀ s : List Nat, avoids B s = true → Re.accepts r0 s = S.run s :=
  fun s hs => bisim_sound_R B L r0 c h s hs (never_run s)

end Gozod.C20
