/-
  C13 — what gozodgen writes for a field of the rule matrix means what the tag is documented to mean: for every field
  type of the matrix, documented rules in any number and order with int64 parameters, and every probe of the field's
  class, `denoteChain (emitCell t rules) = Tags.Spec.accept rules` (`emitCell_accept`).  The writer is followed once:
  rule → call (`chainOf_applied`), call → check (`callSem_callOf`), chain → verdict (`denote_closed`), and the three
  paths of `generateFieldSchemaCode` the matrix reaches (general, `gozod.UUID()`, `gozod.URL()`).
  The oracle is `Tags.Spec.accept` (legend: Proofs/C06.lean), which C06T ties to FromStruct's table (composed in
  `C13.refRows_expected`); `GenSem.ruleHolds?` is that oracle made partial.
-/
import Gozod.Model.GenSem
namespace Gozod.C13
open Gozod.Tags Gozod.GenChain Gozod.GenSem Gozod.GenEmit Gozod.TagParser

/-! Decimal parameters: the harness writes `toString n`, the writer and the semantics read it back. -/

theorem asc_toString (n : Nat) : asc (toString n) = (Nat.toDigits 10 n).map Char.toNat := by
  rw [asc, Nat.toString_eq_repr, Nat.toList_repr]

theorem digits_isDig (n : Nat) : (asc (toString n)).all GenEmit.isDig = true := by
  rw [asc_toString, List.all_map, List.all_eq_true]
  intro c hc
  have := Nat.isDigit_of_mem_toDigits (by decide) (by decide) hc
  simp only [Char.isDigit, Bool.and_eq_true, decide_eq_true_eq] at this
  simp only [Function.comp, GenEmit.isDig, Bool.and_eq_true, decide_eq_true_eq]
  exact ⟨this.1, this.2⟩

theorem digitsVal_toString (n : Nat) : digitsVal (asc (toString n)) = n := by
  rw [asc_toString, digitsVal, List.foldl_map]
  have := @Nat.ofDigitChars_ten_toDigits n
  rw [Nat.ofDigitChars] at this
  simpa [Nat.mul_comm] using this

theorem digits_ne_nil (n : Nat) : asc (toString n) ≠ [] := by
  rw [asc_toString]; simp [Nat.toDigits_ne_nil]

theorem fmtInt_negSucc (m : Nat) : fmtInt (Int.negSucc m) = 0x2D :: asc (toString (m + 1)) := by
  show asc ("-" ++ toString (m + 1)) = _
  simp [asc, String.toList_append]

theorem splitSign_digits {s : GenChain.Str} (h : s.all GenEmit.isDig = true) : splitSign s = (false, s) := by
  cases s with
  | nil => rfl
  | cons c s =>
    simp only [List.all_cons, Bool.and_eq_true, GenEmit.isDig, decide_eq_true_eq] at h
    unfold splitSign
    split
    · next h' => cases h'; omega
    · next h' => cases h'; omega
    · rfl

theorem numShape_digits {d : GenChain.Str} (h : d.all GenEmit.isDig = true) (hne : d ≠ []) :
    numShape d = .int (digitsVal d) ∧ numShape (0x2D :: d) = .int (-(digitsVal d : Int)) := by
  have hne' : (!d.isEmpty) = true := by cases d <;> simp_all
  constructor
  · unfold numShape; rw [splitSign_digits h]; simp only [hne', h, and_self, if_true, Bool.false_eq_true, if_false]
  · unfold numShape; simp only [splitSign, hne', h, and_self, if_true]

theorem numShape_fmtInt (n : Int) : numShape (fmtInt n) = .int n := by
  cases n with
  | ofNat m =>
    show numShape (asc (toString m)) = _
    rw [(numShape_digits (digits_isDig m) (digits_ne_nil m)).1, digitsVal_toString]; rfl
  | negSucc m =>
    rw [fmtInt_negSucc, (numShape_digits (digits_isDig (m + 1)) (digits_ne_nil (m + 1))).2, digitsVal_toString]; rfl

theorem intOf_fmtInt (n : Int) : intOf (fmtInt n) = some n := by
  have hne : ∀ m : Nat, (!(asc (toString m)).isEmpty) = true := fun m => by
    have := digits_ne_nil m; cases h' : asc (toString m) <;> simp_all
  cases n with
  | ofNat m =>
    have h := digits_isDig m
    show intOf (asc (toString m)) = _
    unfold intOf
    split
    · next r heq => rw [heq] at h; simp [GenEmit.isDig] at h
    · simp only [show GenSem.isDig = GenEmit.isDig from rfl, h, hne, Bool.and_self, if_true,
        show ∀ d, natOf d = digitsVal d from fun _ => rfl, digitsVal_toString]; rfl
  | negSucc m =>
    rw [fmtInt_negSucc]
    simp only [intOf, show GenSem.isDig = GenEmit.isDig from rfl, digits_isDig, hne, Bool.and_self, if_true,
      show ∀ d, natOf d = digitsVal d from fun _ => rfl, digitsVal_toString]; rfl

theorem asc_inj {a b : String} : asc a = asc b ↔ a = b := by
  refine ⟨fun h => String.toList_inj.mp ?_, congrArg asc⟩
  exact List.map_inj_right (fun c d h => by simpa using congrArg Char.ofNat h) |>.mp h

def tagName : TRule → String
  | .required => "required" | .min _ => "min" | .max _ => "max" | .length _ => "length"
  | .gt _ => "gt" | .gte _ => "gte" | .lt _ => "lt" | .lte _ => "lte"
  | .email => "email" | .url => "url" | .uuid => "uuid" | .regex => "regex"
  | .positive => "positive" | .negative => "negative" | .nonnegative => "nonnegative" | .nonpositive => "nonpositive"
  | .nonempty => "nonempty"

def tagParams : TRule → Option (List GenChain.Str)
  | .min n | .max n | .gt n | .gte n | .lt n | .lte n => some [fmtInt n]
  | .length n => some [fmtInt n]
  | .regex => some [matrixRegex]
  | _ => none

theorem ruleOf_eq (r : TRule) : ruleOf r = ⟨asc (tagName r), tagParams r⟩ := by cases r <;> rfl

theorem name_eq (r : TRule) (s : String) : ((ruleOf r).name = asc s) = (tagName r = s) := by
  rw [ruleOf_eq, asc_inj]

theorem deref_tyOf (t : FTy) : (tyOf t).deref = tyOfBase t.base := by
  obtain ⟨p, b⟩ := t
  cases p
  · cases b <;> rfl
  · rfl
theorem numeric_tyOfBase (b : Base) : (tyOfBase b).numeric = (b.cls == .num) := by cases b <;> rfl
theorem sized_tyOfBase (b : Base) : (tyOfBase b).sized = (b.cls == .str || b.cls == .slice || b.cls == .map) := by
  cases b <;> rfl
theorem isStr_tyOfBase (b : Base) : (tyOfBase b == .basic .string) = (b.cls == .str) := by cases b <;> rfl

/-- `ruleApplies` says yes to every rule docs/tags.md documents for the field's class -/
theorem applies (t : FTy) (r : TRule) (hd : documented r t.base.cls = true) :
    ruleAppliesTo (asc (tagName r)) (tyOf t) = true := by
  simp only [ruleAppliesTo, deref_tyOf, numeric_tyOfBase, sized_tyOfBase, isStr_tyOfBase]
  generalize t.base.cls = c at hd
  cases r <;> cases c <;> first | exact absurd hd Bool.false_ne_true | simp [tagName, asc_inj]

/-- the parameter fits int64 (the bound methods take an int64; `boundArgument` drops or refuses what does not) -/
def inInt64 : TRule → Bool
  | .min n | .max n | .gt n | .gte n | .lt n | .lte n => decide (-(2 ^ 63) ≤ n ∧ n ≤ 2 ^ 63 - 1)
  | .length n => decide ((n : Int) ≤ 2 ^ 63 - 1)
  | _ => true

/-- `generateValidatorChain` for a rule that applies (`uuid` / `url` on a string never get here: the constructor carries them) -/
def callOf : TRule → List Call
  | .required | .uuid | .url => []
  | .min n => [⟨"Min", [.raw (fmtInt n)]⟩] | .max n => [⟨"Max", [.raw (fmtInt n)]⟩]
  | .gt n => [⟨"Gt", [.raw (fmtInt n)]⟩] | .gte n => [⟨"Gte", [.raw (fmtInt n)]⟩]
  | .lt n => [⟨"Lt", [.raw (fmtInt n)]⟩] | .lte n => [⟨"Lte", [.raw (fmtInt n)]⟩]
  | .length n => [⟨"Length", [.raw (fmtInt n)]⟩]
  | .email => [⟨"Email", []⟩] | .regex => [⟨"Regex", [.regexp (emitRegex matrixRegex)]⟩]
  | .positive => [⟨"Positive", []⟩] | .negative => [⟨"Negative", []⟩]
  | .nonnegative => [⟨"NonNegative", []⟩] | .nonpositive => [⟨"NonPositive", []⟩]
  | .nonempty => [⟨"Min", [.raw (asc "1")]⟩]

def checkOf : TRule → List TRule
  | .required | .uuid | .url => []
  | .nonempty => [.min 1]
  | r => [r]

theorem boundArg_fmtInt (nm : GenChain.Str) (n : Int) (h : -(2 ^ 63) ≤ n ∧ n ≤ 2 ^ 63 - 1) (t : Ty) :
    boundArg nm (fmtInt n) t = some (some (.raw (fmtInt n))) := by
  unfold boundArg
  simp only [numShape_fmtInt]
  split <;> simp

theorem chainOf_applied (ty : Ty) (r : TRule) (ha : ruleAppliesTo (asc (tagName r)) ty = true) (hr : inInt64 r = true)
    (hu : r ≠ .uuid) (hl : r ≠ .url) : chainOf .head (ruleOf r) ty = some (callOf r) := by
  rw [ruleOf_eq]
  cases r with
  | uuid => exact absurd rfl hu
  | url => exact absurd rfl hl
  | min n | max n | gt n | gte n | lt n | lte n =>
    simp only [inInt64, decide_eq_true_eq] at hr
    simp only [tagName] at ha
    simp [chainOf, tagName, tagParams, callOf, ha, asc_inj, callBound, boundArg_fmtInt _ _ hr, WriterFacts.head]
  | length n =>
    simp only [inInt64, decide_eq_true_eq] at hr
    simp only [tagName] at ha
    have hn : (n : Int) ≤ 9223372036854775807 := by omega
    simp [chainOf, tagName, tagParams, callOf, ha, asc_inj, atoi?, numShape_fmtInt, hn, WriterFacts.head]
  | _ =>
    simp only [tagName] at ha
    simp [chainOf, tagName, tagParams, callOf, ha, asc_inj, WriterFacts.head]

theorem callSem_callOf (r : TRule) : mapAll callSem (callOf r) = some ((checkOf r).map .rule) := by
  cases r <;> simp [callOf, checkOf, mapAll, callSem, argInt, intOf_fmtInt] <;> decide

theorem mapAll_append {α β} (f : α → Option β) : ∀ {a b : List α} {x y : List β},
    mapAll f a = some x → mapAll f b = some y → mapAll f (a ++ b) = some (x ++ y)
  | [], _, _, _, h1, h2 => by cases h1; exact h2
  | c :: a, b, x, y, h1, h2 => by
    simp only [mapAll] at h1
    split at h1
    · next v vs hc ha => cases h1; simp [mapAll, hc, mapAll_append f ha h2]
    · cases h1

/-- a rule `generateValidatorChain` turns into its documented check on a field of type `t` -/
def CoveredRule (t : FTy) (r : TRule) : Prop := documented r t.base.cls = true ∧ inInt64 r = true ∧ r ≠ .uuid ∧ r ≠ .url

/-- the calls written for the rules handed to `generateValidatorChain`, in tag order -/
theorem chainAll_matrix (t : FTy) (rs : List TRule) (h : ∀ r ∈ rs, CoveredRule t r) :
    chainAll .head (rs.map ruleOf) (tyOf t) = some (rs.flatMap callOf) := by
  have key : ∀ (rs : List TRule) (acc : List Call), (∀ r ∈ rs, CoveredRule t r) →
      (rs.map ruleOf).foldl (fun acc r => match acc, chainOf .head r (tyOf t) with
        | some a, some c => some (a ++ c) | _, _ => none) (some acc) = some (acc ++ rs.flatMap callOf) := by
    intro rs
    induction rs with
    | nil => intro acc _; simp
    | cons r rs ih =>
      intro acc h
      obtain ⟨hd, hr, hu, hl⟩ := h r List.mem_cons_self
      simp only [List.map_cons, List.foldl_cons, chainOf_applied _ r (applies t r hd) hr hu hl, List.flatMap_cons]
      rw [ih _ fun r hr => h r (List.mem_cons_of_mem _ hr), List.append_assoc]
  exact key rs [] h

theorem callSem_flatMap : ∀ rs : List TRule, mapAll callSem (rs.flatMap callOf) = some ((rs.flatMap checkOf).map .rule)
  | [] => rfl
  | r :: rs => by
    rw [List.flatMap_cons, List.flatMap_cons, List.map_append]
    exact mapAll_append _ (callSem_callOf r) (callSem_flatMap rs)

/-- the verdict of a chain whose calls are checks, followed by `.Optional()` or not: `denoteChain` unfolded once -/
theorem denote_closed (ctor : CExpr) (cs : List Call) (checks base : List TRule) (opt : Bool)
    (h1 : mapAll callSem cs = some (checks.map .rule)) (h2 : ctorSem ctor = some base) (p : Probe) :
    denoteChain ⟨ctor, cs ++ optionalCall opt⟩ p =
      match p with
      | .nil => some opt
      | .inner ok => if checks = [] then some (ok || !innerTagged ctor) else none
      | p => allHold ((base ++ checks).map (ruleHolds? · p)) := by
  have ho : mapAll callSem (optionalCall opt) = some (if opt then [.optional] else []) := by cases opt <;> rfl
  simp only [denoteChain, mapAll_append _ h1 ho, h2]
  cases p with
  | nil => cases opt <;> simp (config := {decide := true})
  | inner ok => cases checks <;> cases opt <;> simp
  | _ => cases opt <;> simp [List.filterMap_map, Function.comp_def]

/-- the probe is a value of the field's type (`.inner false`: only the nested struct whose own field is tagged can be invalid) -/
def fits (t : FTy) : Probe → Bool
  | .nil => t.ptr
  | .num _ => t.base.cls == .num
  | .str _ _ => t.base.cls == .str
  | .elems _ => t.base.cls == .slice || t.base.cls == .map
  | .flag _ => t.base.cls == .bool
  | .inner ok => t.base.cls == .struct && (ok || t.base == .structT)

theorem hasName_of (s : String) (r₀ : TRule) (h : ∀ r, (tagName r = s) = (r = r₀)) (rules : List TRule) :
    hasName (rules.map ruleOf) (asc s) = rules.contains r₀ := by
  induction rules with
  | nil => rfl
  | cons r rs ih =>
    simp only [hasName, List.map_cons, List.any_cons, List.contains_cons] at ih ⊢
    simp only [ih, name_eq, h]
    congr 1
    by_cases e : r = r₀
    · subst e; simp
    · simp [e, Ne.symm e]

theorem tagName_uuid (r : TRule) : (tagName r = "uuid") = (r = .uuid) := by cases r <;> simp [tagName]
theorem tagName_url (r : TRule) : (tagName r = "url") = (r = .url) := by cases r <;> simp [tagName]

theorem hasName_required (rules : List TRule) : hasName (rules.map ruleOf) (asc "required") = rules.contains .required :=
  hasName_of "required" .required (by intro r; cases r <;> simp [tagName]) rules
theorem hasName_uuid (rules : List TRule) : hasName (rules.map ruleOf) (asc "uuid") = rules.contains .uuid :=
  hasName_of "uuid" .uuid tagName_uuid rules

theorem hasName_enum (rules : List TRule) : hasName (rules.map ruleOf) (asc "enum") = false := by
  simp only [hasName, List.any_map, List.any_eq_false, Function.comp, decide_eq_true_eq, name_eq]
  intro r _; cases r <;> simp [tagName]

theorem ctor_matrix (t : FTy) : ctorSem (baseCtor .head (tyOf t) []) = some [] ∧
    innerTagged (baseCtor .head (tyOf t) []) = (t.base == .structT) := by
  obtain ⟨p, b⟩ := t
  cases p <;> cases b <;> decide

theorem allHold_append : ∀ {a b : List (Option Bool)} {x y : Bool}, allHold a = some x → allHold b = some y →
    allHold (a ++ b) = some (x && y)
  | [], b, x, y, h1, h2 => by cases h1; simpa using h2
  | none :: a, _, _, _, h1, _ => by cases h1
  | some c :: a, b, x, y, h1, h2 => by
    simp only [allHold, Option.map_eq_some_iff] at h1
    obtain ⟨z, hz, rfl⟩ := h1
    simp [allHold, allHold_append hz h2, Bool.and_assoc]

theorem allHold_single (b : Bool) : allHold [some b] = some b := by simp [allHold]

/-- on a probe of the field's class a documented rule means what the documentation says -/
theorem holds_sem (t : FTy) (r : TRule) (p : Probe) (hd : documented r t.base.cls = true) (hf : fits t p = true)
    (hn : p ≠ .nil) (hi : ∀ ok, p ≠ .inner ok) (hu : r ≠ .uuid) (hl : r ≠ .url) :
    allHold ((checkOf r).map (ruleHolds? · p)) = some (Spec.ruleHolds r p) := by
  cases p with
  | nil => exact absurd rfl hn
  | inner ok => exact absurd rfl (hi ok)
  | num _ | str _ _ | flag _ =>
    simp only [fits, beq_iff_eq] at hf
    rw [hf] at hd
    -- rule by rule: not documented for the class; `required` (no check); or the one check written, whose test `ruleHolds?`
    -- is the documented one by unfolding (`allHold_single _` up to definitional equality)
    cases r <;> first | exact absurd hd Bool.false_ne_true | exact absurd rfl hu | exact absurd rfl hl | rfl |
      exact allHold_single _
  | elems _ =>
    simp only [fits, Bool.or_eq_true, beq_iff_eq] at hf
    rcases hf with hf | hf <;> rw [hf] at hd <;>
      cases r <;> first | exact absurd hd Bool.false_ne_true | rfl | exact allHold_single _ |
        (simp [checkOf, ruleHolds?, Spec.ruleHolds, allHold]; omega)

theorem all_sem (t : FTy) (p : Probe) (hf : fits t p = true) (hn : p ≠ .nil) (hi : ∀ ok, p ≠ .inner ok) :
    ∀ rules : List TRule, (∀ r ∈ rules, CoveredRule t r) →
      allHold ((rules.flatMap checkOf).map (ruleHolds? · p)) = some (rules.all (Spec.ruleHolds · p))
  | [], _ => rfl
  | r :: rs, h => by
    obtain ⟨hd, _, hu, hl⟩ := h r List.mem_cons_self
    rw [List.flatMap_cons, List.map_append, List.all_cons]
    exact allHold_append (holds_sem t r p hd hf hn hi hu hl)
      (all_sem t p hf hn hi rs fun r hr => h r (List.mem_cons_of_mem _ hr))

theorem generalOptional_ptr (t : FTy) (ht : t.ptr = true) (req : Bool) : generalOptional .head (tyOf t) req = !req := by
  simp only [generalOptional, tyOf, ht, if_true, Ty.kind, WriterFacts.head, Ty.isPtr]; cases req <;> rfl

theorem find?_map_none {q : Rule → Bool} : ∀ (rules : List TRule), (∀ r ∈ rules, q (ruleOf r) = false) →
    (rules.map ruleOf).find? q = none
  | [], _ => rfl
  | r :: rs, h => by
    simp only [List.map_cons, List.find?_cons, h r List.mem_cons_self]
    exact find?_map_none rs fun r hr => h r (List.mem_cons_of_mem _ hr)

/-- the general path of `generateFieldSchemaCode`: neither `uuid` nor `url` in the tag -/
theorem emitCell_plain (t : FTy) (rules : List TRule) (p : Probe) (hnu : TRule.uuid ∉ rules) (hnl : TRule.url ∉ rules)
    (hall : ∀ r ∈ rules, documented r t.base.cls = true ∧ inInt64 r = true) (hf : fits t p = true) :
    ∃ ch, emitCell t rules = some ch ∧ denoteChain ch p = some (Spec.accept rules p) := by
  have hcov : ∀ r ∈ rules, CoveredRule t r := fun r hr =>
    ⟨(hall r hr).1, (hall r hr).2, fun e => hnu (e ▸ hr), fun e => hnl (e ▸ hr)⟩
  have hnm : ∀ r ∈ rules, tagName r ≠ "uuid" ∧ tagName r ≠ "url" := fun r hr => by
    rw [Ne, Ne, tagName_uuid, tagName_url]; exact (hcov r hr).2.2
  have hcs := chainAll_matrix t rules hcov
  have hF : (rules.map ruleOf).find? (fun r => r.name = asc "uuid" ∨ r.name = asc "url") = none :=
    find?_map_none rules fun r hr => by simp [name_eq, hnm r hr]
  have hE : (rules.map ruleOf).find? (fun r => r.name = asc "enum") = none :=
    find?_map_none rules fun r _ => by simp only [name_eq, decide_eq_false_iff_not]; cases r <;> simp [tagName]
  refine ⟨⟨baseCtor .head (tyOf t) [], rules.flatMap callOf ++
    optionalCall (generalOptional .head (tyOf t) (rules.contains .required))⟩, ?_, ?_⟩
  · simp only [emitCell, emitChain, hasName_uuid, hF, hE, hasName_required, hcs]
    rw [if_neg (by simp [hnu]), if_neg (by simp)]
    simp only [ite_self]
    rfl
  · rw [denote_closed _ _ _ [] _ (callSem_flatMap rules) (ctor_matrix t).1]
    cases p with
    | nil => simp only [generalOptional_ptr t hf, Spec.accept]
    | inner ok =>
      -- a struct field: only `required` is documented, and it writes no call
      simp only [fits, Bool.and_eq_true, beq_iff_eq, Bool.or_eq_true] at hf
      have hreq : ∀ r ∈ rules, r = .required := fun r hr => by
        have := (hcov r hr).1; rw [hf.1] at this; cases r <;> simp [documented] at this ⊢
      have : rules.flatMap checkOf = [] := List.flatMap_eq_nil_iff.mpr fun r hr => by rw [hreq r hr]; rfl
      have hall' : rules.all (Spec.ruleHolds · (.inner ok)) = true :=
        List.all_eq_true.mpr fun r hr => by rw [hreq r hr]; rfl
      simp only [this, if_true, (ctor_matrix t).2, Spec.accept, hall', Bool.and_true]
      rcases hf.2 with rfl | h
      · rfl
      · rw [h]; exact congrArg some (Bool.or_false ok)
    | num _ | str _ _ | elems _ | flag _ => simpa [Spec.accept] using all_sem t _ hf (by simp) (by simp) rules hcov

/-! The two format constructors: `uuid` / `url` on a string field. -/

/-- `firstFormatRule` when only one of the two formats occurs (`hfg`, here and below: `f` is the format in the tag, `g` the
    absent one) -/
theorem firstFormat {f g : TRule} (hfg : (f = .uuid ∧ g = .url) ∨ (f = .url ∧ g = .uuid)) :
    ∀ {rules : List TRule}, f ∈ rules → g ∉ rules →
      ((rules.map ruleOf).find? fun r => r.name = asc "uuid" ∨ r.name = asc "url").map (·.name) = some (asc (tagName f))
  | r :: rs, hm, hn => by
    by_cases e : r = f
    · subst e
      have hp : (ruleOf r).name = asc "uuid" ∨ (ruleOf r).name = asc "url" := by
        rw [name_eq, name_eq]; rcases hfg with ⟨rfl, _⟩ | ⟨rfl, _⟩ <;> simp [tagName]
      simp only [List.map_cons, List.find?_cons, hp, decide_true, Option.map_some]
      rw [ruleOf_eq]
    · have hg : r ≠ g := fun e' => hn (e' ▸ List.mem_cons_self)
      have : ¬(tagName r = "uuid" ∨ tagName r = "url") := by
        rcases hfg with ⟨rfl, rfl⟩ | ⟨rfl, rfl⟩ <;> cases r <;> simp [tagName] at e hg ⊢
      simp only [List.map_cons, List.find?_cons, name_eq, this, decide_false]
      exact firstFormat hfg ((List.mem_cons.mp hm).resolve_left fun e' => e e'.symm) fun h => hn (List.mem_cons_of_mem _ h)

/-- the rules handed to `generateValidatorChain` on the format paths -/
def rest (rules : List TRule) : List TRule := rules.filter fun r => r ≠ .uuid ∧ r ≠ .url

theorem filter_uuid (rules : List TRule) :
    ((rules.map ruleOf).filter fun r => r.name ≠ asc "uuid" ∧ !(WriterFacts.head.urlCtor ∧ r.name = asc "url")) =
      (rest rules).map ruleOf := by
  rw [rest, List.filter_map]
  congr 1
  refine List.filter_congr fun r _ => ?_
  simp [Function.comp, name_eq, tagName_uuid, tagName_url, WriterFacts.head]

theorem filter_url {rules : List TRule} (hn : TRule.uuid ∉ rules) :
    ((rules.map ruleOf).filter fun r => r.name ≠ asc "url") = (rest rules).map ruleOf := by
  rw [rest, List.filter_map]
  congr 1
  refine List.filter_congr fun r hr => ?_
  have : r ≠ .uuid := fun e => hn (e ▸ hr)
  simp [Function.comp, name_eq, tagName_url, this]

theorem all_rest {f g : TRule} (hfg : (f = .uuid ∧ g = .url) ∨ (f = .url ∧ g = .uuid)) (q : TRule → Bool)
    {rules : List TRule} (hm : f ∈ rules) (hn : g ∉ rules) : rules.all q = (q f && (rest rules).all q) := by
  rw [Bool.eq_iff_iff]
  simp only [List.all_eq_true, Bool.and_eq_true, rest, List.mem_filter, decide_eq_true_eq]
  refine ⟨fun h => ⟨h f hm, fun r hr => h r hr.1⟩, fun h r hr => ?_⟩
  by_cases e : r = f
  · exact e ▸ h.1
  · have hg : r ≠ g := fun e' => hn (e' ▸ hr)
    refine h.2 r ⟨hr, ?_⟩
    rcases hfg with ⟨rfl, rfl⟩ | ⟨rfl, rfl⟩
    · exact ⟨e, hg⟩
    · exact ⟨hg, e⟩

theorem isString_str {t : FTy} (h : t.base.cls = .str) : (tyOf t).isString = true := by
  obtain ⟨p, b⟩ := t
  cases b <;> simp [Base.cls] at h
  cases p <;> rfl

theorem specialOptional_head (t : Ty) (req : Bool) : specialOptional .head t req = !req := by
  simp [specialOptional, WriterFacts.head]

theorem denote_format (t : FTy) (rules : List TRule) (p : Probe) {f g : TRule}
    (hfg : (f = .uuid ∧ g = .url) ∨ (f = .url ∧ g = .uuid)) (hm : f ∈ rules) (hn : g ∉ rules) (hstr : t.base.cls = .str)
    (hcov : ∀ r ∈ rest rules, CoveredRule t r) (hf : fits t p = true)
    {cs : List Call} (hsem : mapAll callSem cs = some (((rest rules).flatMap checkOf).map .rule)) {c : CExpr} (hc : ctorSem c = some [f]) :
    denoteChain ⟨c, cs ++ optionalCall (!rules.contains .required)⟩ p = some (Spec.accept rules p) := by
  rw [denote_closed _ cs _ _ _ hsem hc]
  cases p with
  | nil => rfl
  | str k l =>
    have h1 : allHold ([f].map (ruleHolds? · (.str k l))) = some (Spec.ruleHolds f (.str k l)) := by
      rcases hfg with ⟨rfl, _⟩ | ⟨rfl, _⟩ <;> simp [allHold, ruleHolds?, Spec.ruleHolds]
    simp only [List.map_append, Spec.accept, all_rest hfg _ hm hn]
    exact allHold_append h1 (all_sem t (.str k l) hf (by simp) (by simp) (rest rules) hcov)
  | num _ | elems _ | flag _ | inner _ => simp [fits, hstr] at hf

/-- the cell is one the theorem speaks of: documented rules with int64 parameters, not `uuid` together with `url`
    (the second format is left out: class gen-drops:second-format of known-findings.txt) -/
def covered (t : FTy) (rules : List TRule) : Bool :=
  !(rules.contains .uuid && rules.contains .url) && rules.all fun r => documented r t.base.cls && inInt64 r

/-- What the writer of /repo HEAD emits means what the tag is documented to mean. -/
theorem emitCell_accept (t : FTy) (rules : List TRule) (p : Probe) (hc : covered t rules = true) (hf : fits t p = true) :
    ∃ ch, emitCell t rules = some ch ∧ denoteChain ch p = some (Spec.accept rules p) := by
  simp only [covered, Bool.and_eq_true, Bool.not_eq_true', Bool.and_eq_false_iff, List.all_eq_true] at hc
  obtain ⟨hboth, hall⟩ := hc
  have hcov : ∀ r ∈ rest rules, CoveredRule t r := fun r hr => by
    simp only [rest, List.mem_filter, decide_eq_true_eq] at hr
    exact ⟨(hall r hr.1).1, (hall r hr.1).2, hr.2.1, hr.2.2⟩
  have hstr : ∀ f, (f = TRule.uuid ∨ f = .url) → f ∈ rules → t.base.cls = .str := fun f hf' hm => by
    have := (hall f hm).1
    rcases hf' with rfl | rfl <;> cases hcl : t.base.cls <;> simp [documented, hcl] at this ⊢
  have hcs := chainAll_matrix t (rest rules) hcov
  have hsem := callSem_flatMap (rest rules)
  by_cases hu : TRule.uuid ∈ rules
  · have hl : TRule.url ∉ rules := fun h => by simp [hu, h] at hboth
    have hs := hstr _ (.inl rfl) hu
    refine ⟨⟨.uuid, (rest rules).flatMap callOf ++ optionalCall (!rules.contains .required)⟩, ?_,
      denote_format t rules p (.inl ⟨rfl, rfl⟩) hu hl hs hcov hf hsem rfl⟩
    simp only [emitCell, emitChain, hasName_uuid, hasName_required, firstFormat (.inl ⟨rfl, rfl⟩) hu hl, isString_str hs,
      filter_uuid, hcs, specialOptional_head]
    rw [if_pos (by simp [hu, tagName, asc_inj])]
    rfl
  · by_cases hl : TRule.url ∈ rules
    · have hs := hstr _ (.inr rfl) hl
      refine ⟨⟨.url, (rest rules).flatMap callOf ++ optionalCall (!rules.contains .required)⟩, ?_,
        denote_format t rules p (.inr ⟨rfl, rfl⟩) hl hu hs hcov hf hsem rfl⟩
      simp only [emitCell, emitChain, hasName_uuid, hasName_required, hasName_enum, firstFormat (.inr ⟨rfl, rfl⟩) hl hu,
        isString_str hs, filter_url hu, hcs, specialOptional_head]
      rw [if_neg (by simp [hu]), if_pos (by simp [tagName, WriterFacts.head])]
      rfl
    · exact emitCell_plain t rules p hu hl hall hf

end Gozod.C13
