/-
  C12 — conversion options (`Model/ConvOpts.lean`): purity, determinism and histories for EVERY option set.

  `convertO cfg copy o g σ s` is one node of `ToJSONSchema(s, o)` with the options as parameters: the value-typed fields, the
  metadata registry, the `URI` callback (a function of the id) and the `Override` callback (user code that may assign the
  node's value keywords and rewrite in place the memory the node holds; the model file says what user code is allowed).
  `copy` = whether `applyMeta` clones `meta.Examples` (the code since /repo 8997831) or stores the registry entry's own
  slice in the document (the code before it: legacy).

  With the clone, for every option set and every Override, the conversion only ALLOCATES (`c12_opts_ext`, `_pure`: no
  hypothesis on the Override), and the shown document is a function of (options, observation, entry) (`render_eq`,
  `c12_opts_deterministic`, `_after_others`, `_twice`) for every Override that stores into the list only scalars or values
  the list already held (`OptsOK` / `OvOK`: otherwise it could plant a reference to memory allocated later).  For the legacy
  code the same holds for every option set WITHOUT an Override and is false with one: an Override that rewrites
  `ctx.JSONSchema.Examples[0]` rewrites the registry entry.
-/
import Gozod.Proofs.C12
import Gozod.Proofs.C12Def
import Gozod.Model.ConvOpts

namespace Gozod.C12Opts
open Gozod.Store Gozod.DefData Gozod.ConvOpts Gozod.C12Def Gozod.C08 Gozod.C12

theorem takeExamples_spec (copy : Bool) (σ : Store) (e : Option REntry) :
    Grows σ (takeExamples copy σ e).1 ∧ (BagClosed σ → BagClosed (takeExamples copy σ e).1) ∧
    (copy = true → ∀ l, (takeExamples copy σ e).2 = some l → σ.next ≤ l) ∧
    (copy = false → (takeExamples copy σ e).1 = σ) := by
  unfold takeExamples
  split
  · exact ⟨.refl σ, id, nofun, fun _ => rfl⟩
  split
  · exact ⟨.refl σ, id, nofun, fun _ => rfl⟩
  split
  · exact ⟨shallow_grows σ _, fun hc => bagClosed_alloc σ _ hc trivial, fun _ _ h => Nat.le_of_eq (Option.some.inj h),
      fun h => by cases ‹_ = true›.symm.trans h⟩
  · next hcopy => exact ⟨.refl σ, id, fun h => absurd h hcopy, fun _ => rfl⟩

theorem overrideWrites_ext (n : Nat) (σ : Store) (x : Option Loc) (f : List (Nat × UVal) → List (Nat × UVal))
    (h : ∀ l, x = some l → n ≤ l) : ExtFrom n σ (overrideWrites σ x f) := by
  cases x with
  | none => exact ExtFrom.refl _ _
  | some l => exact write_ext n σ l _ (h l rfl)

theorem convertO_store (cfg : Cfg) (h : cfg.convScratch = true) (copy : Bool) (o : Opts) (g : Reg) (σ : Store) (s : Schema) :
    (convertO cfg copy o g σ s).1 =
      match o.override with
      | none => (takeExamples copy σ ((o.metadata.getD g) s.self)).1
      | some ov =>
        overrideWrites (takeExamples copy σ ((o.metadata.getD g) s.self)).1 (takeExamples copy σ ((o.metadata.getD g) s.self)).2
          (ov.rewrite (obs (takeExamples copy σ ((o.metadata.getD g) s.self)).1.heap s)) := by
  unfold convertO
  rw [convert_scratch cfg h]
  cases o.override <;> rfl

/-- with the clone, `ToJSONSchema` under ANY options writes no location that existed before the call. -/
theorem c12_opts_ext (cfg : Cfg) (h : cfg.convScratch = true) (o : Opts) (g : Reg) (σ : Store) (s : Schema) :
    ExtFrom σ.next σ (convertO cfg true o g σ s).1 := by
  obtain ⟨hg, _, hfresh, _⟩ := takeExamples_spec true σ ((o.metadata.getD g) s.self)
  rw [convertO_store cfg h]
  cases o.override with
  | none => exact hg.1
  | some ov => exact hg.1.trans (overrideWrites_ext σ.next _ _ _ (hfresh rfl))

/-- every allocated schema is observed after the conversion exactly as before, for every option set. -/
theorem c12_opts_pure (cfg : Cfg) (h : cfg.convScratch = true) (o : Opts) (g : Reg) (σ : Store) (s t : Schema)
    (hw : WfS σ t) : obs (convertO cfg true o g σ s).1.heap t = obs σ.heap t :=
  obs_frame t hw (c12_opts_ext cfg h o g σ s)

def RegBelow (σ : Store) (r : Reg) : Prop := ∀ t e l, r t = some e → e.examples = some l → l < σ.next

/-- `Registry.Get(t)` shows the same entry (examples serialised) after the conversion. -/
theorem c12_opts_entries_kept (cfg : Cfg) (h : cfg.convScratch = true) (o : Opts) (g r : Reg) (σ : Store) (s : Schema)
    (hc : NodeClosed σ) (hr : RegBelow σ r) (t : Loc) :
    entryObs (convertO cfg true o g σ s).1.heap (r t) = entryObs σ.heap (r t) := by
  cases he : r t with
  | none => rfl
  | some e =>
    cases hx : e.examples with
    | none => simp only [entryObs, Option.map_some, hx, Option.map_none]
    | some l =>
      simp only [entryObs, Option.map_some, hx, frame_ser (c12_opts_ext cfg h o g σ s) hc (.ref l) (hr t e l he hx)]

def serNode (f : Nat) (h : Loc → Option Cell) (kv : List (Nat × UVal)) : List Nat :=
  [1] ++ kv.flatMap (fun p => p.1 :: ser f h p.2) ++ [3]

theorem ser_ref (f : Nat) (h : Loc → Option Cell) (l : Loc) : ser (f + 1) h (.ref l) = serNode f h (readNode h l) := rfl

/-- what an Override may put into the list: scalars, or values the list already held -/
def OvOK (ov : Override) : Prop :=
  ∀ ob kv p, p ∈ ov.rewrite ob kv → (∃ n, p.2 = .scalar n) ∨ ∃ q ∈ kv, q.2 = p.2

def OptsOK (o : Opts) : Prop := ∀ ov, o.override = some ov → OvOK ov

theorem OvOK.below {ov : Override} (hok : OvOK ov) {σ : Store} {kv : List (Nat × UVal)} (hb : ∀ q ∈ kv, below σ q.2)
    (ob : Obs) : ∀ p ∈ ov.rewrite ob kv, below σ p.2 := fun p hp => by
  rcases hok ob kv p hp with ⟨n, hn⟩ | ⟨q, hq, hqe⟩
  · rw [hn]; trivial
  · rw [← hqe]; exact hb q hq

theorem serNode_frame {σ τ : Store} (he : ExtFrom σ.next σ τ) (hc : NodeClosed σ) (f : Nat) (kv : List (Nat × UVal))
    (hb : ∀ p ∈ kv, below σ p.2) : serNode f τ.heap kv = serNode f σ.heap kv := by
  unfold serNode
  rw [List.flatMap_def, List.flatMap_def, List.map_congr_left fun p hp => by rw [frame_ser he hc p.2 (hb p hp) f]]

theorem readNode_write_same (σ : Store) (l : Loc) (kv : List (Nat × UVal)) : readNode (write σ l (.node kv)).heap l = kv := by
  simp only [readNode, write, upd_same]

def rewritten (o : Opts) (ob : Obs) (kv : List (Nat × UVal)) : List (Nat × UVal) :=
  match o.override with
  | none => kv
  | some ov => ov.rewrite ob kv

theorem rewritten_below {o : Opts} (hok : OptsOK o) {σ : Store} {kv : List (Nat × UVal)} (hb : ∀ q ∈ kv, below σ q.2)
    (ob : Obs) : ∀ p ∈ rewritten o ob kv, below σ p.2 := by
  unfold rewritten
  cases hov : o.override with
  | none => exact hb
  | some ov => exact (hok ov hov).below hb ob

/-- the examples a conversion started in heap `h` shows: the entry's list, if non-empty, rewritten by the Override.
    5 is `Store.depth - 1` (here and below): the entries of a cell shown to `depth` are shown one level less deep. -/
def shownEx (o : Opts) (g : Reg) (h : Loc → Option Cell) (s : Schema) : Option (List Nat) :=
  match ((o.metadata.getD g) s.self).bind (·.examples) with
  | none => none
  | some l => if (readNode h l).isEmpty then none else some (serNode 5 h (rewritten o (obs h s) (readNode h l)))

/-- the value keywords of the node before the Override: title / description from the entry, `$ref` through `URI` -/
def baseVals (o : Opts) (g : Reg) (s : Schema) : DocVals :=
  let e := (o.metadata.getD g) s.self
  let id := (e.map (·.id)).getD 0
  ⟨(e.map (·.title)).getD 0, (e.map (·.descr)).getD 0, if id = 0 then none else some ((o.uri.map (fun u => u id)).getD id), 0⟩

def shown (o : Opts) (g : Reg) (h : Loc → Option Cell) (s : Schema) : Shown :=
  ⟨o.vals, entriesOf (obs h s),
   match o.override with
   | none => baseVals o g s
   | some ov => ov.edit (obs h s) (baseVals o g s),
   shownEx o g h s⟩

/-- `shown` is the specification of what a conversion shows: a function of the options, the heap it started in and the
    schema — no store afterwards, no allocation pointer -/
theorem render_eq (cfg : Cfg) (h : cfg.convScratch = true) (o : Opts) (hok : OptsOK o) (g : Reg) (σ : Store) (s : Schema)
    (hc : NodeClosed σ) (hw : WfS σ s) : render (convertO cfg true o g σ s) = shown o g σ.heap s := by
  unfold render convertO shown shownEx rewritten baseVals
  rw [convert_scratch cfg h]
  simp only
  cases he : (o.metadata.getD g) s.self with
  | none => cases o.override <;> rfl
  | some e =>
    cases hx : e.examples with
    | none => cases o.override <;> simp [takeExamples, hx, overrideWrites]
    | some l =>
      by_cases hemp : (readNode σ.heap l).isEmpty = true
      · cases o.override <;> simp [takeExamples, hx, hemp, overrideWrites]
      · have hbelow := readNode_below σ hc l
        cases hov : o.override with
        | none =>
          simp only [takeExamples, hx, Option.bind_some, hemp, Bool.false_eq_true, ↓reduceIte, Option.map_some]
          rw [show ser depth _ _ = _ from ser_shallow σ hc l 5]
          rfl
        | some ov =>
          simp only [takeExamples, hx, Option.bind_some, hemp, Bool.false_eq_true, ↓reduceIte, Option.map_some, overrideWrites]
          rw [obs_frame s hw (shallow_grows σ l).1, shallow_read]
          -- the node shows the copy, rewritten in place: its entries are scalars or entries of the registry's list
          rw [show ser depth _ _ = _ from (ser_ref 5 _ _).trans (by rw [readNode_write_same])]
          rw [serNode_frame (τ := write (shallow σ l).1 (shallow σ l).2 _)
            ((shallow_grows σ l).1.trans (write_ext σ.next _ _ _ (Nat.le_refl _))) hc 5 _ ((hok ov hov).below hbelow _)]

theorem shownEx_frame (o : Opts) (hok : OptsOK o) (g : Reg) {σ σ' : Store} (s : Schema) (hc : NodeClosed σ)
    (he : ExtFrom σ.next σ σ') (hr : RegBelow σ (o.metadata.getD g)) (hw : WfS σ s) :
    shownEx o g σ'.heap s = shownEx o g σ.heap s := by
  unfold shownEx
  rw [obs_frame s hw he]
  cases hx : ((o.metadata.getD g) s.self).bind (·.examples) with
  | none => rfl
  | some l =>
    obtain ⟨e, he', hl⟩ := Option.bind_eq_some_iff.1 hx
    have hlt : l < σ.next := hr s.self e l he' hl
    simp only [readNode_congr l (he.2 l hlt)]
    split
    · rfl
    · exact congrArg some (serNode_frame he hc 5 _ (rewritten_below hok (readNode_below σ hc l) _))

/-- for every option set the shown document is the same in every extension of the store: it is a function of the
    options, the schema's observation and the registry entry, not of what was allocated in between. -/
theorem c12_opts_deterministic (cfg : Cfg) (h : cfg.convScratch = true) (o : Opts) (hok : OptsOK o) (g : Reg) (σ σ' : Store)
    (s : Schema) (hc : NodeClosed σ) (hc' : NodeClosed σ') (he : ExtFrom σ.next σ σ')
    (hr : RegBelow σ (o.metadata.getD g)) (hw : WfS σ s) :
    render (convertO cfg true o g σ' s) = render (convertO cfg true o g σ s) := by
  rw [render_eq cfg h o hok g σ' s hc' (wfs_frame s hw he), render_eq cfg h o hok g σ s hc hw, shown, shown,
    obs_frame s hw he, shownEx_frame o hok g s hc he hr hw]

theorem overrideWrites_closed (σ : Store) (hc : NodeClosed σ) (x : Option Loc) (f : List (Nat × UVal) → List (Nat × UVal))
    (hf : ∀ p ∈ f (readNode σ.heap (x.getD 0)), below σ p.2) : NodeClosed (overrideWrites σ x f) := by
  cases x with
  | none => exact hc
  | some l =>
    intro y kv hy p hp m hm
    rcases upd_cases hy with e | hy
    · have := hf p (Cell.node.inj e ▸ hp)
      rwa [hm] at this
    · exact hc y kv hy p hp m hm

theorem convertO_grows (cfg : Cfg) (h : cfg.convScratch = true) (o : Opts) (hok : OptsOK o) (g : Reg) (σ : Store) (s : Schema) :
    Grows σ (convertO cfg true o g σ s).1 := by
  refine ⟨c12_opts_ext cfg h o g σ s, fun hc => ?_⟩
  have hc' := (takeExamples_spec true σ ((o.metadata.getD g) s.self)).1.2 hc
  rw [convertO_store cfg h]
  cases hov : o.override with
  | none => exact hc'
  | some ov => exact overrideWrites_closed _ hc' _ _ ((hok ov hov).below (readNode_below _ hc' _) _)

def convAllO (cfg : Cfg) (g : Reg) : Store → List (Opts × Schema) → Store
  | σ, [] => σ
  | σ, (o, s) :: rest => convAllO cfg g (convertO cfg true o g σ s).1 rest

theorem convAllO_grows (cfg : Cfg) (h : cfg.convScratch = true) (g : Reg) : ∀ (ops : List (Opts × Schema)) (σ : Store),
    (∀ p ∈ ops, OptsOK p.1) → Grows σ (convAllO cfg g σ ops)
  | [], σ, _ => .refl σ
  | (o, s) :: rest, σ, hok =>
    (convertO_grows cfg h o (hok _ List.mem_cons_self) g σ s).trans
      (convAllO_grows cfg h g rest _ fun q hq => hok q (List.mem_cons_of_mem _ hq))

/-- after any number of conversions of any schemas under any option sets (Overrides included), converting `s` under `o`
    shows the same document as before them. -/
theorem c12_opts_after_others (cfg : Cfg) (h : cfg.convScratch = true) (o : Opts) (hok : OptsOK o) (g : Reg) (σ : Store)
    (s : Schema) (others : List (Opts × Schema)) (hoks : ∀ p ∈ others, OptsOK p.1)
    (hc : NodeClosed σ) (hr : RegBelow σ (o.metadata.getD g)) (hw : WfS σ s) :
    render (convertO cfg true o g (convAllO cfg g σ others) s) = render (convertO cfg true o g σ s) :=
  have ⟨e, c⟩ := convAllO_grows cfg h g others σ hoks
  c12_opts_deterministic cfg h o hok g σ _ s hc (c hc) e hr hw

theorem c12_opts_twice (cfg : Cfg) (h : cfg.convScratch = true) (o : Opts) (hok : OptsOK o) (g : Reg) (σ : Store) (s : Schema)
    (hc : NodeClosed σ) (hr : RegBelow σ (o.metadata.getD g)) (hw : WfS σ s) :
    render (convertO cfg true o g (convertO cfg true o g σ s).1 s) = render (convertO cfg true o g σ s) :=
  c12_opts_after_others cfg h o hok g σ s [(o, s)] (List.forall_mem_singleton.2 hok) hc hr hw

theorem convertO_bagClosed (cfg : Cfg) (h : cfg.convScratch = true) (copy : Bool) (o : Opts) (g : Reg) (σ : Store) (s : Schema)
    (hc : BagClosed σ) : BagClosed (convertO cfg copy o g σ s).1 := by
  have hc' := (takeExamples_spec copy σ ((o.metadata.getD g) s.self)).2.1 hc
  rw [convertO_store cfg h]
  cases o.override with
  | none => exact hc'
  | some ov =>
    generalize (takeExamples copy σ ((o.metadata.getD g) s.self)).2 = x
    cases x with
    | none => exact hc'
    | some l => exact bagClosed_write _ l _ hc' trivial

def hopsOKO (ops : List HOpO) : Prop :=
  ∀ o ∈ ops, match o with | .chain _ op => Op.ok op ∧ op.isMetaSelf = false | _ => True

theorem runHO_chain (cfg : Cfg) (h1 : cfg.cloneBagAlways = true) (h2 : cfg.convScratch = true) (g : Reg) :
    ∀ (ops : List HOpO) (σ : Store) (live : List Schema), hopsOKO ops →
    Chain WfS anyNew σ live (runHO cfg true g σ live ops).1 (runHO cfg true g σ live ops).2
  | [], _, _, _ => .nil
  | o :: rest, σ, live, hok => by
    have ih := fun σ live => runHO_chain cfg h1 h2 g rest σ live fun q hq => hok q (List.mem_cons_of_mem _ hq)
    cases o with
    | parse i => exact ih σ live
    | conv i o =>
      unfold runHO
      split
      · exact ih σ live
      · next s _ =>
        exact .store (fun hc _ => ⟨c12_opts_ext cfg h2 o g σ s, convertO_bagClosed cfg h2 true o g σ s hc⟩) (ih _ _)
    | chain i op =>
      unfold runHO
      split
      · exact ih σ live
      · next recv hl => exact chain_applyOp h1 (.base op) (List.mem_of_getElem? hl) (hok _ List.mem_cons_self) (ih _ _)

/-- along every interleaving of chaining calls, conversions under ANY options and parses over a derivation family, every
    live schema keeps its observation (so it parses as before and, by `c12_opts_deterministic`, converts to the same
    document as before under every option set). -/
theorem c12_opts_hist (cfg : Cfg) (h1 : cfg.cloneBagAlways = true) (h2 : cfg.convScratch = true) (g : Reg) (ops : List HOpO) :
    ∀ (σ : Store) (live : List Schema), Inv σ live → hopsOKO ops →
    Inv (runHO cfg true g σ live ops).1 (runHO cfg true g σ live ops).2 ∧ live <+: (runHO cfg true g σ live ops).2 ∧
    ∀ s ∈ live, obs (runHO cfg true g σ live ops).1.heap s = obs σ.heap s :=
  fun σ live hi hok => hist_of_chain (runHO_chain cfg h1 h2 g ops σ live hok) hi

/-! ### the code before /repo 8997831: `jsonSchema.Examples = meta.Examples` -/

def c12_opts_full (copy : Bool) : Prop :=
  ∀ (cfg : Cfg), cfg.convScratch = true → ∀ (o : Opts) (g : Reg) (σ : Store) (s : Schema),
    ExtFrom σ.next σ (convertO cfg copy o g σ s).1

theorem c12_opts_full_with_clone : c12_opts_full true := fun cfg h o g σ s => c12_opts_ext cfg h o g σ s

/-- without the clone the statement holds for every option set that carries no Override (every value option, every
    registry, every `URI`): the conversion does not touch the store at all. -/
theorem c12_opts_partial (cfg : Cfg) (h : cfg.convScratch = true) (o : Opts) (hno : o.override = none) (g : Reg) (σ : Store)
    (s : Schema) : (convertO cfg false o g σ s).1 = σ := by
  rw [convertO_store cfg h, hno]
  exact (takeExamples_spec false σ _).2.2.2 rfl

example : (⟨⟨1, 2, 3, 4, 5⟩, some (fun _ => none), some (fun n => n + 1), none⟩ : Opts).override = none := rfl

/-- `GlobalRegistry` holds `{Examples: [7, 8]}` for the schema with identity 5; the list is the cell at 1. -/
def σw : Store := { heap := fun l => if l = 1 then some (.node [(0, .scalar 7), (1, .scalar 8)]) else none, next := 6 }
def gw : Reg := fun t => if t = 5 then some ⟨0, 0, 0, some 1⟩ else none
def sw : Schema := { dummy with self := 5 }

/-- an Override that assigns `ctx.JSONSchema.Examples[0] = 99` -/
def ovw : Override := ⟨fun _ v => v, fun _ kv => setKey kv 0 (.scalar 99)⟩

theorem ovw_ok : OvOK ovw := fun _ kv p hp => by
  have hp : p ∈ setKey kv 0 (.scalar 99) := hp
  rcases Assoc.mem_set (setKey_eq_set ▸ hp) with rfl | h
  · exact .inl ⟨99, rfl⟩
  · exact .inr ⟨p, h, rfl⟩

/-- Witness (legacy code, before 8997831): the Override's assignment lands in the registry entry (`GlobalRegistry.Get(s)`
    shows example 99 instead of 7 afterwards) and the next conversion, without any Override, shows it too; with the clone neither. -/
theorem override_edits_registry_examples :
    entryObs (convertO fixed false ⟨⟨0, 0, 0, 0, 0⟩, none, none, some ovw⟩ gw σw sw).1.heap (gw 5) ≠ entryObs σw.heap (gw 5) ∧
    (render (convertO fixed false noOpts gw (convertO fixed false ⟨⟨0, 0, 0, 0, 0⟩, none, none, some ovw⟩ gw σw sw).1 sw)).examples
      ≠ (render (convertO fixed false noOpts gw σw sw)).examples ∧
    entryObs (convertO fixed true ⟨⟨0, 0, 0, 0, 0⟩, none, none, some ovw⟩ gw σw sw).1.heap (gw 5) = entryObs σw.heap (gw 5) ∧
    (render (convertO fixed true noOpts gw (convertO fixed true ⟨⟨0, 0, 0, 0, 0⟩, none, none, some ovw⟩ gw σw sw).1 sw)).examples
      = (render (convertO fixed true noOpts gw σw sw)).examples := by decide

theorem c12_opts_full_false : ¬ c12_opts_full false := by
  intro hf
  have := (hf fixed rfl ⟨⟨0, 0, 0, 0, 0⟩, none, none, some ovw⟩ gw σw sw).2 1 (by decide)
  revert this
  decide

/-! ### the member list of an enum / literal (`Enum`, `Const.Value`): level 1 is the conversion's own -/

theorem convLiteral_fresh (a : Acc) (σ : Store) (l : Loc) : σ.next ≤ (convLiteral a σ l).2 := by
  have h1 : σ.next ≤ (access a σ l).1.next := (access_grows a σ l).1.1
  unfold convLiteral flatten
  simp only
  split
  · exact Nat.le_succ_of_le h1
  · exact h1

/-- an Override (or the caller) rewriting in place the member list the document shows (a cell the conversion allocated,
    whether the accessor aliases or copies) writes nothing that existed before the conversion: the definition's own slice
    (`ZodLiteral.Values()` hands it out by reference) is out of its reach at level 1. -/
theorem c12_override_members_ext (a : Acc) (σ : Store) (l : Loc) (f : List (Nat × UVal) → List (Nat × UVal)) :
    ExtFrom σ.next σ (overrideWrites (convLiteral a σ l).1 (some (convLiteral a σ l).2) f) :=
  ExtFrom.trans (convLiteral_ext a σ l)
    (overrideWrites_ext σ.next _ _ f (fun x hx => by cases hx; exact convLiteral_fresh a σ l))

/-- … hence the definition serialises as before (to any depth), for the family that shares it -/
theorem c12_override_members_def_kept (a : Acc) (σ : Store) (hc : NodeClosed σ) (l : Loc) (hl : l < σ.next)
    (f : List (Nat × UVal) → List (Nat × UVal)) (d : Nat) :
    ser d (overrideWrites (convLiteral a σ l).1 (some (convLiteral a σ l).2) f).heap (.ref l) = ser d σ.heap (.ref l) :=
  frame_ser (c12_override_members_ext a σ l f) hc (.ref l) hl d

/-- the excluded shape (seeded/C12c: boxing fast path + in-place de-duplication): there the list in the document IS the
    definition's, and rewriting it rewrites the definition. -/
theorem inplace_members_not_fresh : ¬ (σRepeat.next ≤ (convLiteralInPlace σRepeat lRepeat).2.1) := by decide

end Gozod.C12Opts
