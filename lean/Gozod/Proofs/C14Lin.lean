/-
  C14 — "every result equals the result the same call gives when run alone", for the registry and configuration
  protocols (Model/Conc.lean).

  Calls that each take effect in one atomic step between invocation and response (registry calls inside the RWMutex
  critical section, Config(), SetConfig(nil)) produce only linearizable histories (`atomic_linearizable`); every
  linearization here is built by `Linearizable.cons`; the search the driver runs on recorded histories decides `Linearizable`.
  SetConfig(cfg) is Load, then CompareAndSwap of the merge, retried until it succeeds (/repo d02a8cd): the call takes
  effect in one atomic step, the successful swap (`cas_success_is_atomic` / `cas_failure_no_effect`).  Legacy code (Load,
  then an unconditional Store): witness `setconfig_lost_update` — the second Store overwrote the first one's field with
  the stale value it had loaded; the history (recorded from the real code before the fix) has no linearization.
-/
import Gozod.Model.Conc

namespace Gozod.C14
open Gozod.Conc

theorem _root_.Gozod.Conc.Linearizable.nil (σ : St) : Linearizable σ [] := ⟨[], .refl _, rfl, rfl⟩

/-- How every linearization here is built: a call `c` that none of the others precedes and whose recorded result is the
    specification's goes first; the others are linearized from the state after it. -/
theorem _root_.Gozod.Conc.Linearizable.cons {σ : St} {h rest : List Call} {c : Call} (hp : h.Perm (c :: rest))
    (hmin : ∀ d ∈ rest, precedes d c = false) (hres : (apply σ c.op).2 = c.res)
    (hr : Linearizable (apply σ c.op).1 rest) : Linearizable σ h := by
  obtain ⟨l, hl, hrt, hv⟩ := hr
  refine ⟨c :: l, (hl.cons c).trans hp.symm, ?_, ?_⟩
  · simp only [rtOrdered, Bool.and_eq_true, List.all_eq_true, Bool.not_eq_true']
    exact ⟨fun d hd => hmin d (hl.mem_iff.1 hd), hrt⟩
  · simp only [seqValid, Bool.and_eq_true, beq_iff_eq]
    exact ⟨hres, hv⟩

theorem search_sound : ∀ (fuel : Nat) (σ : St) (h : List Call), search fuel σ h = true → Linearizable σ h
  | _, σ, [], _ => .nil σ
  | 0, _, _ :: _, hs => by simp [search] at hs
  | fuel + 1, σ, c0 :: h0, hs => by
    simp only [search, List.any_eq_true, Bool.and_eq_true, List.all_eq_true, Bool.not_eq_true', beq_iff_eq] at hs
    obtain ⟨c, hc, hmin, hres, hrest⟩ := hs
    exact .cons (List.perm_cons_erase hc) (fun d hd => hmin d (List.mem_of_mem_erase hd)) hres
      (search_sound fuel _ _ hrest)

theorem search_complete : ∀ (l : List Call) (fuel : Nat) (σ : St) (h : List Call),
    l.Perm h → (∀ c ∈ h, c.inv ≤ c.ret) → rtOrdered l = true → seqValid σ l = true → h.length ≤ fuel →
    search fuel σ h = true
  | [], fuel, σ, h, hp, _, _, _, _ => by
    have : h = [] := List.Perm.eq_nil (hp.symm)
    subst this
    cases fuel <;> rfl
  | c :: l, fuel, σ, h, hp, hwf, hrt, hv, hlen => by
    have hc : c ∈ h := hp.subset List.mem_cons_self
    cases h with
    | nil => cases hc
    | cons c0 h0 =>
      cases fuel with
      | zero => exact absurd hlen (Nat.not_succ_le_zero _)
      | succ f =>
        simp only [rtOrdered, Bool.and_eq_true, List.all_eq_true] at hrt
        simp only [seqValid, Bool.and_eq_true] at hv
        simp only [search, List.any_eq_true, Bool.and_eq_true, List.all_eq_true]
        refine ⟨c, hc, fun d hd => ?_, hv.1, ?_⟩
        · rcases List.mem_cons.1 (hp.mem_iff.2 hd) with rfl | hdl
          · simp only [precedes, Bool.not_eq_true', decide_eq_false_iff_not, Nat.not_lt]
            exact hwf d hd
          · exact hrt.1 d hdl
        · refine search_complete l f _ _ ?_ (fun x hx => hwf x (List.mem_of_mem_erase hx)) hrt.2 hv.2 ?_
          · exact List.erase_cons_head (a := c) (l := l) ▸ hp.erase c
          · rw [List.length_erase_of_mem hc]
            exact Nat.sub_le_of_le_add hlen

theorem linearizable_iff (σ : St) (h : List Call) (hwf : ∀ c ∈ h, c.inv ≤ c.ret) :
    linearizable σ h = true ↔ Linearizable σ h :=
  ⟨search_sound _ σ h, fun ⟨l, hp, hrt, hv⟩ => search_complete l _ σ h hp hwf hrt hv (Nat.le_refl _)⟩

structure Timed where
  id : Nat
  op : Op
  inv : Nat
  lp : Nat      -- the moment of the atomic step
  ret : Nat
deriving Repr

/-- the history of an execution: the atomic steps in the order in which they happened -/
def history : St → List Timed → List Call
  | _, [] => []
  | σ, t :: r => ⟨t.id, t.op, (apply σ t.op).2, t.inv, t.ret⟩ :: history (apply σ t.op).1 r

theorem history_mem : ∀ (σ : St) (ts : List Timed) (d : Call), d ∈ history σ ts →
    ∃ t ∈ ts, d.inv = t.inv ∧ d.ret = t.ret
  | _, [], d, h => by simp [history] at h
  | σ, t :: r, d, h => by
    simp only [history, List.mem_cons] at h
    rcases h with rfl | h
    · exact ⟨t, by simp, rfl, rfl⟩
    · obtain ⟨t', ht', h1, h2⟩ := history_mem _ r d h
      exact ⟨t', List.mem_cons_of_mem _ ht', h1, h2⟩

/-- if every call takes effect in one atomic step between its invocation and its response, the history is
    linearizable — every result is the result of the same call in a sequential run of all the calls. -/
theorem atomic_linearizable (σ : St) (ts : List Timed) (hw : ∀ t ∈ ts, t.inv ≤ t.lp ∧ t.lp ≤ t.ret)
    (hs : ts.Pairwise (fun a b => a.lp < b.lp)) : Linearizable σ (history σ ts) := by
  induction ts generalizing σ with
  | nil => exact .nil σ
  | cons t r ih =>
    have hs' := List.pairwise_cons.1 hs
    refine .cons (.refl _) (fun d hd => ?_) rfl (ih _ (fun x hx => hw x (List.mem_cons_of_mem _ hx)) hs'.2)
    -- a later step's call returns after its step, hence after `t`'s step, hence after `t` was invoked
    obtain ⟨t', ht', _, h2⟩ := history_mem _ r d hd
    simp only [precedes, decide_eq_false_iff_not, Nat.not_lt, h2]
    exact Nat.le_trans (hw t List.mem_cons_self).1
      (Nat.le_trans (Nat.le_of_lt (hs'.1 t' ht')) (hw t' (List.mem_cons_of_mem _ ht')).2)

example : ∃ ts : List Timed, ts.length = 3 ∧ (∀ t ∈ ts, t.inv ≤ t.lp ∧ t.lp ≤ t.ret) ∧ ts.Pairwise (fun a b => a.lp < b.lp) :=
  ⟨[⟨1, .add 1 5, 0, 2, 6⟩, ⟨2, .get 1, 1, 3, 4⟩, ⟨3, .remove 1, 5, 7, 8⟩], rfl, by decide +kernel, by decide +kernel⟩

theorem readOnly_state (σ : St) (o : Op) (h : o.readOnly = true) : (apply σ o).1 = σ := by
  cases o <;> simp [Op.readOnly] at h <;> rfl

theorem run_keeps {α : Type} (f : St → α) (ops : List Op) (σ : St) (h : ∀ o ∈ ops, ∀ τ, f (apply τ o).1 = f τ) :
    f (run σ ops) = f σ :=
  List.foldlRecOn (motive := fun τ => f τ = f σ) ops _ rfl fun τ hτ o ho => (h o ho τ).trans hτ

/-- read-only calls, in any order and number, each return what they return alone -/
theorem reads_run_alone : ∀ (σ : St) (ops : List Op), (∀ o ∈ ops, o.readOnly = true) →
    results σ ops = ops.map (fun o => (apply σ o).2) ∧ run σ ops = σ
  | _, [], _ => ⟨rfl, rfl⟩
  | σ, o :: r, h => by
    have ih := reads_run_alone σ r (fun x hx => h x (List.mem_cons_of_mem _ hx))
    rw [results, readOnly_state σ o (h o List.mem_cons_self), ih.1]
    exact ⟨rfl, run_keeps id _ σ fun o ho τ => readOnly_state τ o (h o ho)⟩

theorem lookup_filter_self (k : Nat) : ∀ l : List (Nat × Nat), lookup k (l.filter (fun e => e.1 != k)) = none
  | [] => rfl
  | (k', v) :: r => by
    by_cases h : k' = k <;> simp [h, lookup, lookup_filter_self k r]

theorem lookup_filter_ne (k k' : Nat) (hne : k' ≠ k) : ∀ l : List (Nat × Nat),
    lookup k (l.filter (fun e => e.1 != k')) = lookup k l
  | [] => rfl
  | (a, v) :: r => by
    by_cases h : a = k'
    · subst h
      simp [lookup, hne, lookup_filter_ne k a hne r]
    · by_cases h2 : a = k
      · subst h2
        simp [h, lookup]
      · simp [h, lookup, h2, lookup_filter_ne k k' hne r]

def resultsOn (k : Nat) : St → List Op → List Res
  | _, [] => []
  | σ, o :: r => if o.key = some k then (apply σ o).2 :: resultsOn k (apply σ o).1 r else resultsOn k (apply σ o).1 r

theorem other_key_lookup (k : Nat) (σ : St) (o : Op) (h : o.key ≠ some k) :
    lookup k (apply σ o).1.reg = lookup k σ.reg := by
  cases o with
  | add k' v =>
    have hne : k' ≠ k := fun e => h (congrArg some e)
    simp only [apply, lookup, hne, if_false]
    exact lookup_filter_ne k k' hne _
  | remove k' => exact lookup_filter_ne k k' (fun e => h (congrArg some e)) _
  | _ => rfl

theorem apply_congr_key (k : Nat) (o : Op) (hk : o.key = some k) (σ σ' : St) (h : lookup k σ.reg = lookup k σ'.reg) :
    (apply σ o).2 = (apply σ' o).2 ∧ lookup k (apply σ o).1.reg = lookup k (apply σ' o).1.reg := by
  cases o with
  | add k' v => cases hk; simp only [apply, lookup, if_true, and_self]
  | get k' => cases hk; simp only [apply, h, and_self]
  | has k' => cases hk; simp only [apply, h, and_self]
  | remove k' => cases hk; simp only [apply, lookup_filter_self, and_self]
  | _ => cases hk

/-- in any sequential run (hence, by `atomic_linearizable`, in any concurrent execution) the calls about schema k
    return what they return in the run that contains only them: goroutines working on different schemas cannot
    influence each other. -/
theorem run_alone_key (k : Nat) : ∀ (ops : List Op) (σ σ' : St), lookup k σ.reg = lookup k σ'.reg →
    resultsOn k σ ops = results σ' (ops.filter (fun o => o.key == some k))
  | [], _, _, _ => rfl
  | o :: r, σ, σ', h => by
    by_cases hk : o.key = some k
    · obtain ⟨e1, e2⟩ := apply_congr_key k o hk σ σ' h
      simp only [resultsOn, List.filter_cons, hk, beq_self_eq_true, if_true, results]
      rw [e1, run_alone_key k r _ _ e2]
    · have hf : (o.key == some k) = false := beq_eq_false_iff_ne.2 hk
      simp only [resultsOn, List.filter_cons, hk, hf, if_false, Bool.false_eq_true]
      exact run_alone_key k r _ _ ((other_key_lookup k σ o hk).trans h)

example : resultsOn 1 St.init [.add 1 5, .add 2 6, .get 1, .remove 2, .has 1, .remove 1, .get 1]
    = [.unit, .found 5, .bool true, .unit, .missing] := by decide +kernel

/-- alone (nothing between its Load and its Store) SetConfig(cfg) is the specified merge -/
theorem store_fresh_is_atomic (s : CState) (tid c l : Nat) :
    let s1 := (stepC s (.load tid)).1
    ((stepC s1 (.store tid c l)).1.σ, (stepC s1 (.store tid c l)).2) = ((apply s.σ (.cfgSet c l)).1, some (apply s.σ (.cfgSet c l)).2) := by
  simp [stepC, loadedOf, setLoaded, apply]

/-- two overlapping SetConfig calls (thread 1 sets CustomError 7, thread 2 sets LocaleError 9), then Config() -/
def lostActs : List Act := [.load 1, .load 2, .store 1 7 0, .store 2 0 9, .atomic 3 .cfgGet]

/-- the history that execution produces: both SetConfig calls overlap, Config() starts after both returned -/
def lostHist : List Call :=
  [⟨1, .cfgSet 7 0, .cfg 7 0, 0, 5⟩, ⟨2, .cfgSet 0 9, .cfg 0 9, 1, 6⟩, ⟨3, .cfgGet, .cfg 0 9, 7, 8⟩]

/-- Witness (lost update): the code model produces `lostHist` — SetConfig(CustomError) returned, nothing reset the
    configuration, and yet Config() has no CustomError — and `lostHist` has no linearization. -/
theorem setconfig_lost_update :
    (runC ⟨St.init, []⟩ lostActs).2 = [none, none, some (.cfg 7 0), some (.cfg 0 9), some (.cfg 0 9)] ∧
    ¬ Linearizable St.init lostHist := by
  refine ⟨by decide +kernel, fun h => ?_⟩
  -- the search is complete, and it finds nothing
  exact absurd ((linearizable_iff St.init lostHist (by decide)).2 h) (by decide +kernel)

/-- the same calls one after the other are fine -/
example : linearizable St.init
    [⟨1, .cfgSet 7 0, .cfg 7 0, 0, 1⟩, ⟨2, .cfgSet 0 9, .cfg 7 9, 2, 3⟩, ⟨3, .cfgGet, .cfg 7 9, 4, 5⟩] = true := by decide +kernel

/-- with CompareAndSwap: a swap that succeeds is the specified merge, in one atomic step … -/
theorem cas_success_is_atomic (s : CState) (tid c l : Nat) (h : loadedOf tid s.loaded = (s.σ.custom, s.σ.locale)) :
    ((stepC s (.casStore tid c l)).1.σ, (stepC s (.casStore tid c l)).2) = ((apply s.σ (.cfgSet c l)).1, some (apply s.σ (.cfgSet c l)).2) := by
  simp [stepC, h, apply]

/-- … and one that fails changes nothing shared and answers nothing (the call reloads and tries again) -/
theorem cas_failure_no_effect (s : CState) (tid c l : Nat) (h : loadedOf tid s.loaded ≠ (s.σ.custom, s.σ.locale)) :
    (stepC s (.casStore tid c l)).1.σ = s.σ ∧ (stepC s (.casStore tid c l)).2 = none := by
  simp [stepC, h]

/-- the interleaving of the witness with CompareAndSwap: thread 2's swap fails, it reloads, its second swap merges
    into thread 1's update; the history is linearizable -/
example :
    (runC ⟨St.init, []⟩ [.load 1, .load 2, .casStore 1 7 0, .casStore 2 0 9, .casStore 2 0 9, .atomic 3 .cfgGet]).2
      = [none, none, some (.cfg 7 0), none, some (.cfg 7 9), some (.cfg 7 9)] ∧
    linearizable St.init [⟨1, .cfgSet 7 0, .cfg 7 0, 0, 5⟩, ⟨2, .cfgSet 0 9, .cfg 7 9, 1, 6⟩, ⟨3, .cfgGet, .cfg 7 9, 7, 8⟩] = true := by
  decide +kernel

end Gozod.C14
