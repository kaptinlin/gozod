/-
  C19 — the dot notation as a GRAMMAR: a parser for what utils.ToDotPath writes, with the round trip

      parseDotGo  (dotPathGo p)  = some (p.map El.dnorm)     every Go path (any element types)
      parseDotPath (dotPathEsc p) = some p                    every position path

  so injectivity (`c19_dotpath_go_injective`, `c19_dotpath_esc_injective'`) is a corollary, for
  negative ints too (`[-1]`), and with ToDotPath as it stands (6ff3a13) for elements of every other
  type (read as the key their text is).

      path    := ε | first rest*
      first   := ident | bracket
      rest    := '.' ident | bracket
      bracket := '[' digits ']' | '[' '-' digits ']' | '[' '"' (plain | '\' any)* '"' ']'
      ident   := a non-empty run of [A-Za-z0-9_] that does not start with a digit
  A quoted key must need its quotes (be empty, start with a digit, or hold a non-identifier character).
-/
import Gozod.Model.IssuesGo
import Std.Data.String.ToNat

namespace Gozod.C19
open Gozod.Issues

/-- read an escaped key up to its closing quote: (key, what follows the quote);
    the flag says that the previous character was the escaping backslash -/
def unescAux : Bool → List Char → Option (List Char × List Char)
  | _, [] => none
  | true, c :: r => (unescAux false r).map (fun x => (c :: x.1, x.2))
  | false, c :: r =>
    if c = '"' then some ([], r)
    else if c = '\\' then unescAux true r
    else (unescAux false r).map (fun x => (c :: x.1, x.2))

def unesc : List Char → Option (List Char × List Char) := unescAux false

def takeIdent : List Char → List Char × List Char
  | [] => ([], [])
  | c :: r => if isIdentChar c then ((c :: (takeIdent r).1), (takeIdent r).2) else ([], c :: r)

def takeDigits : List Char → List Char × List Char
  | [] => ([], [])
  | c :: r => if c.isDigit then ((c :: (takeDigits r).1), (takeDigits r).2) else ([], c :: r)

def parseNum (cs : List Char) : Option (Nat × List Char) :=
  match (takeDigits cs).1, (takeDigits cs).2 with
  | [], _ => none
  | d :: ds, ']' :: u => some (Nat.ofDigitChars 10 (d :: ds) 0, u)
  | _, _ => none

def parseBracket : List Char → Option (El × List Char)
  | [] => none
  | c :: cs =>
    if c = '"' then
      match unesc cs with
      | some (k, ']' :: u) => if quotedKey (String.ofList k) then some (.str (String.ofList k), u) else none
      | _ => none
    else if c = '-' then
      match parseNum cs with
      | some (n + 1, u) => some (.int (.negSucc n), u)
      | _ => none
    else (parseNum (c :: cs)).map (fun x => (.int (.ofNat x.1), x.2))

def parseIdent (cs : List Char) : Option (El × List Char) :=
  if quotedKey (String.ofList (takeIdent cs).1) then none
  else some (.str (String.ofList (takeIdent cs).1), (takeIdent cs).2)

/-- the fuel makes the recursion structural; every segment read is non-empty, so the length of the input suffices
    (`segDotGo_ne_nil`, `length_le_dotChars`) -/
def parseSegs : Nat → Bool → List Char → Option (List El)
  | _, _, [] => some []
  | 0, _, _ :: _ => none
  | f + 1, first, c :: cs =>
    if c = '[' then (parseBracket cs).bind (fun x => (parseSegs f false x.2).map (x.1 :: ·))
    else if first then (parseIdent (c :: cs)).bind (fun x => (parseSegs f false x.2).map (x.1 :: ·))
    else if c = '.' then (parseIdent cs).bind (fun x => (parseSegs f false x.2).map (x.1 :: ·))
    else none

def parseDotGo (s : String) : Option (List El) := parseSegs s.toList.length true s.toList

def toSeg? : El → Option Seg
  | .str s => some (.key s)
  | .int (.ofNat n) => some (.idx n)
  | _ => none

def toSegs : List El → Option (List Seg)
  | [] => some []
  | e :: r => (toSeg? e).bind (fun s => (toSegs r).map (s :: ·))

def parseDotPath (s : String) : Option (List Seg) := (parseDotGo s).bind toSegs

-- (tests of the parser on literals: `#eval` in notes/C19.md; `decide` is slow on `String.toList` of a literal)

/-- what may follow a segment in a rendered path: the end, or the first character of the next segment -/
def delimited : List Char → Prop
  | [] => True
  | c :: _ => c = '.' ∨ c = '['

theorem ident_ne_delim {c : Char} (h : isIdentChar c = true) : c ≠ '.' ∧ c ≠ '[' := by
  constructor <;> (intro e; subst e; revert h; decide)

theorem not_ident_of_delimited {d : Char} {u : List Char} (hu : delimited (d :: u)) : isIdentChar d = false := by
  cases hd : isIdentChar d
  · rfl
  · exact (hu.elim (ident_ne_delim hd).1 (ident_ne_delim hd).2).elim

theorem digit_ne_quote {c : Char} (h : c.isDigit = true) : c ≠ '"' := by
  intro e; subst e; revert h; decide

theorem repr_digits (n : Nat) : ∀ c ∈ (toString n).toList, c.isDigit = true := by
  intro c hc
  rw [Nat.toString_eq_repr, Nat.toList_repr] at hc
  exact Nat.isDigit_of_mem_toDigits (by decide) (by decide) hc

theorem escChar_cases (c : Char) :
    (c ≠ '"' ∧ c ≠ '\\' ∧ escChar c = [c]) ∨ ((c = '"' ∨ c = '\\') ∧ escChar c = ['\\', c]) := by
  unfold escChar
  by_cases h : c = '"' ∨ c = '\\'
  · exact .inr ⟨h, by simp [h]⟩
  · exact .inl ⟨fun e => h (.inl e), fun e => h (.inr e), by simp [h]⟩

theorem bareKey_chars {s : String} (h : quotedKey s = false) :
    s.toList ≠ [] ∧ ∀ c ∈ s.toList, isIdentChar c = true := by
  unfold quotedKey needsBracket at h
  cases hs : s.toList with
  | nil => simp [hs] at h
  | cons c cs =>
    simp only [hs, needsBracketChars, List.isEmpty_cons, Bool.false_or, Bool.or_eq_false_iff,
      List.any_eq_false] at h
    exact ⟨List.cons_ne_nil _ _, fun x hx => by simpa using h.2 x hx⟩

theorem unescAux_esc : ∀ (k u : List Char), unescAux false (escChars k ++ '"' :: u) = some (k, u)
  | [], u => by simp [escChars, unescAux]
  | c :: r, u => by
    rcases escChar_cases c with ⟨h1, h2, he⟩ | ⟨h, he⟩
    · simp [escChars, he, unescAux, h1, h2, unescAux_esc r u]
    · have hq : ('\\' : Char) ≠ '"' := by decide
      simp [escChars, he, unescAux, hq, unescAux_esc r u]

theorem unesc_esc (k u : List Char) : unesc (escChars k ++ '"' :: u) = some (k, u) := unescAux_esc k u

theorem takeIdent_append : ∀ (a u : List Char), (∀ c ∈ a, isIdentChar c = true) → delimited u →
    takeIdent (a ++ u) = (a, u)
  | [], [], _, _ => rfl
  | [], d :: u, _, hu => by simp [takeIdent, not_ident_of_delimited hu]
  | c :: a, u, ha, hu => by
    have ih := takeIdent_append a u (fun x hx => ha x (by simp [hx])) hu
    simp [takeIdent, ha c (by simp), ih]

theorem takeDigits_append : ∀ (d u : List Char), (∀ c ∈ d, c.isDigit = true) →
    takeDigits (d ++ ']' :: u) = (d, ']' :: u)
  | [], u, _ => by
    have : (']' : Char).isDigit = false := by decide
    simp [takeDigits, this]
  | c :: d, u, hd => by
    have ih := takeDigits_append d u (fun x hx => hd x (by simp [hx]))
    simp [takeDigits, hd c (by simp), ih]

theorem ofDigitChars_repr (n : Nat) : Nat.ofDigitChars 10 (toString n).toList 0 = n := by
  rw [Nat.toString_eq_repr, Nat.toList_repr]
  exact Nat.ofDigitChars_ten_toDigits

theorem repr_ne_nil (n : Nat) : (toString n).toList ≠ [] := by
  intro h
  have := ofDigitChars_repr n
  rw [h] at this
  have hn : n = 0 := by simpa [Nat.ofDigitChars_nil] using this.symm
  subst hn
  revert h; decide

theorem parseNum_digits (ds : List Char) (hne : ds ≠ []) (hd : ∀ c ∈ ds, c.isDigit = true) (u : List Char) :
    parseNum (ds ++ ']' :: u) = some (Nat.ofDigitChars 10 ds 0, u) := by
  unfold parseNum
  rw [takeDigits_append ds u hd]
  cases ds with
  | nil => exact absurd rfl hne
  | cons d r => rfl

theorem parseBracket_digits (ds : List Char) (hne : ds ≠ []) (hd : ∀ c ∈ ds, c.isDigit = true) (u : List Char) :
    parseBracket (ds ++ ']' :: u) = some (.int (.ofNat (Nat.ofDigitChars 10 ds 0)), u) := by
  have hp := parseNum_digits ds hne hd u
  cases ds with
  | nil => exact absurd rfl hne
  | cons d r =>
    have hdd : d.isDigit = true := hd d (by simp)
    have h1 : d ≠ '"' := digit_ne_quote hdd
    have h2 : d ≠ '-' := by intro e; subst e; revert hdd; decide
    simp only [List.cons_append] at hp ⊢
    simp only [parseBracket, h1, h2, if_false, hp, Option.map]

theorem parseBracket_neg (ds : List Char) (hne : ds ≠ []) (hd : ∀ c ∈ ds, c.isDigit = true) (u : List Char)
    (n : Nat) (hn : Nat.ofDigitChars 10 ds 0 = n + 1) :
    parseBracket ('-' :: (ds ++ ']' :: u)) = some (.int (.negSucc n), u) := by
  have hq : ('-' : Char) ≠ '"' := by decide
  have hp := parseNum_digits ds hne hd u
  rw [hn] at hp
  simp only [parseBracket, hq, if_false, if_true, hp]

theorem parseBracket_int (z : Int) (u : List Char) :
    parseBracket ((itoa z).toList ++ ']' :: u) = some (.int z, u) := by
  cases z with
  | ofNat n =>
    have := parseBracket_digits (toString n).toList (repr_ne_nil n) (repr_digits n) u
    rw [ofDigitChars_repr] at this
    exact this
  | negSucc n =>
    have ht : (itoa (Int.negSucc n)).toList = '-' :: (toString (n + 1)).toList := by
      simp only [itoa, String.toList_append]; rfl
    rw [ht]
    exact parseBracket_neg (toString (n + 1)).toList (repr_ne_nil _) (repr_digits _) u n (ofDigitChars_repr _)

theorem parseBracket_key (k : String) (hq : quotedKey k = true) (u : List Char) :
    parseBracket ('"' :: escChars k.toList ++ '"' :: ']' :: u) = some (.str k, u) := by
  simp [parseBracket, unesc_esc, String.ofList_toList, hq]

theorem parseIdent_key (k : String) (hq : quotedKey k = false) (u : List Char) (hu : delimited u) :
    parseIdent (k.toList ++ u) = some (.str k, u) := by
  simp [parseIdent, takeIdent_append k.toList u (bareKey_chars hq).2 hu, String.ofList_toList, hq]

/-- the token `parseSegs` reads at the head of a non-empty input, and what follows it -/
def parseOne (first : Bool) : List Char → Option (El × List Char)
  | [] => none
  | c :: cs =>
    if c = '[' then parseBracket cs
    else if first then parseIdent (c :: cs)
    else if c = '.' then parseIdent cs
    else none

theorem parseSegs_of_parseOne {f : Nat} {first : Bool} {cs u : List Char} {e : El}
    (h : parseOne first cs = some (e, u)) :
    parseSegs (f + 1) first cs = (parseSegs f false u).map (e :: ·) := by
  cases cs with
  | nil => simp [parseOne] at h
  | cons c cs =>
    simp only [parseOne] at h
    simp only [parseSegs]
    split at h
    · simp [*]
    · split at h
      · simp [*]
      · split at h
        · simp [*]
        · simp at h

/-- one segment is read back, whatever follows it (a delimiter or the end): this makes the
    notation unambiguous -/
theorem parseOne_seg (first : Bool) (e : El) (he : e.typed = true) (u : List Char) (hu : delimited u) :
    parseOne first (segDotGo first e ++ u) = some (e, u) := by
  cases e with
  | other r => simp [El.typed] at he
  | int z => simp [segDotGo, bracketed, parseOne, parseBracket_int z u]
  | str k =>
    cases hq : quotedKey k
    · obtain ⟨hne, hid⟩ := bareKey_chars hq
      cases first
      · have hd : ('.' : Char) ≠ '[' := by decide
        simp [segDotGo, keyDot, segDotEsc, hq, parseOne, hd, parseIdent_key k hq u hu]
      · cases hk : k.toList with
        | nil => exact absurd hk hne
        | cons c cs =>
          have hc : c ≠ '[' := (ident_ne_delim (hid c (by simp [hk]))).2
          have := parseIdent_key k hq u hu
          rw [hk] at this
          simp only [List.cons_append] at this
          simp [segDotGo, keyDot, segDotEsc, hq, hk, parseOne, hc, this]
    · have := parseBracket_key k hq u
      simp only [List.cons_append] at this
      simp [segDotGo, keyDot, segDotEsc, hq, parseOne, this]

theorem parseSegs_seg (f : Nat) (first : Bool) (e : El) (he : e.typed = true) (u : List Char) (hu : delimited u) :
    parseSegs (f + 1) first (segDotGo first e ++ u) = (parseSegs f false u).map (e :: ·) :=
  parseSegs_of_parseOne (parseOne_seg first e he u hu)

/-- the shape all renderers of the model share (`dotChars`, `dotCharsEsc`, `dotCharsWith seg`): the
    first segment, then the others -/
def renderPath {α : Type} (seg : Bool → α → List Char) : List α → List Char
  | [] => []
  | s :: r => seg true s ++ r.flatMap (seg false)

theorem dotRestWith_eq (seg : Bool → El → List Char) (p : List El) :
    dotRestWith seg p = p.flatMap (seg false) := by
  induction p <;> simp [dotRestWith, *]

theorem dotCharsWith_eq (seg : Bool → El → List Char) (p : List El) : dotCharsWith seg p = renderPath seg p := by
  cases p <;> simp [dotCharsWith, renderPath, dotRestWith_eq]

theorem dotRestEsc_eq (p : List Seg) : dotRestEsc p = p.flatMap (segDotEsc false) := by
  induction p <;> simp [dotRestEsc, *]

theorem dotCharsEsc_eq (p : List Seg) : dotCharsEsc p = renderPath segDotEsc p := by
  cases p <;> simp [dotCharsEsc, renderPath, dotRestEsc_eq]

theorem renderPath_map {α β : Type} {sa : Bool → α → List Char} {sb : Bool → β → List Char} (f : α → β)
    (p : List α) (h : ∀ a ∈ p, ∀ first, sb first (f a) = sa first a) :
    renderPath sb (p.map f) = renderPath sa p := by
  have rest : ∀ r : List α, (∀ a ∈ r, ∀ first, sb first (f a) = sa first a) →
      (r.map f).flatMap (sb false) = r.flatMap (sa false) := by
    intro r hr
    induction r with
    | nil => rfl
    | cons a r ih => simp [hr a (by simp), ih (fun b hb => hr b (by simp [hb]))]
  cases p with
  | nil => rfl
  | cons a r => simp [renderPath, h a (by simp), rest r (fun b hb => h b (by simp [hb]))]

theorem segDotGo_delimited (e : El) (u : List Char) : delimited (segDotGo false e ++ u) := by
  cases e with
  | int z => simp [segDotGo, bracketed, delimited]
  | str k | other k => cases hq : quotedKey k <;> simp [segDotGo, keyDot, segDotEsc, hq, delimited]

theorem dotRestGo_delimited (p : List El) : delimited (dotRestWith segDotGo p) := by
  cases p with
  | nil => trivial
  | cons e r => exact segDotGo_delimited e _

theorem segDotGo_dnorm (first : Bool) (e : El) : segDotGo first e.dnorm = segDotGo first e := by
  cases e <;> rfl

theorem dnorm_typed (e : El) : e.dnorm.typed = true := by cases e <;> rfl

theorem parseSegs_rest : ∀ (p : List El) (f : Nat), p.length ≤ f →
    parseSegs f false (dotRestWith segDotGo p) = some (p.map El.dnorm)
  | [], f, _ => by cases f <;> simp [dotRestWith, parseSegs]
  | e :: r, 0, h => by simp at h
  | e :: r, f + 1, h => by
    have ih := parseSegs_rest r f (by simpa using h)
    simp only [dotRestWith]
    rw [← segDotGo_dnorm, parseSegs_seg f false e.dnorm (dnorm_typed e) _ (dotRestGo_delimited r), ih]
    simp

theorem parseSegs_path (p : List El) (f : Nat) (h : p.length ≤ f) :
    parseSegs f true (dotCharsGo p) = some (p.map El.dnorm) := by
  cases p with
  | nil => cases f <;> simp [dotCharsGo, dotCharsWith, parseSegs]
  | cons e r =>
    cases f with
    | zero => simp at h
    | succ f =>
      simp only [dotCharsGo, dotCharsWith]
      rw [← segDotGo_dnorm, parseSegs_seg f true e.dnorm (dnorm_typed e) _ (dotRestGo_delimited r),
        parseSegs_rest r f (by simpa using h)]
      simp

/-- a segment is never empty: it is read back as a token -/
theorem segDotGo_ne_nil (first : Bool) (e : El) : segDotGo first e ≠ [] := by
  intro h
  have := parseOne_seg first e.dnorm (dnorm_typed e) [] trivial
  rw [segDotGo_dnorm, h] at this
  simp [parseOne] at this

theorem length_le_dotRest : ∀ (p : List El), p.length ≤ (dotRestWith segDotGo p).length
  | [] => by simp
  | e :: r => by
    have := length_le_dotRest r
    have h1 : 0 < (segDotGo false e).length := List.length_pos_iff.mpr (segDotGo_ne_nil false e)
    simp only [dotRestWith, List.length_cons, List.length_append]
    omega

theorem length_le_dotChars (p : List El) : p.length ≤ (dotCharsGo p).length := by
  cases p with
  | nil => simp
  | cons e r =>
    have := length_le_dotRest r
    have h1 : 0 < (segDotGo true e).length := List.length_pos_iff.mpr (segDotGo_ne_nil true e)
    simp only [dotCharsGo, dotCharsWith, List.length_cons, List.length_append]
    omega

/-- round trip, Go paths: what ToDotPath (since 6ff3a13, for other element types too) writes
    for ANY path parses back to the path — elements of other types as the keys their text is -/
theorem c19_parse_dotpath_go (p : List El) : parseDotGo (dotPathGo p) = some (p.map El.dnorm) := by
  unfold parseDotGo dotPathGo
  rw [String.toList_ofList]
  exact parseSegs_path p _ (length_le_dotChars p)

/-- ToDotPath identifies the path — every element type: two Go paths that render alike differ
    at most in elements of other types that have the text of a string key at the same place -/
theorem c19_dotpath_go_injective (p q : List El) (h : dotPathGo p = dotPathGo q) :
    p.map El.dnorm = q.map El.dnorm := by
  have hp := c19_parse_dotpath_go p
  rw [h, c19_parse_dotpath_go q] at hp
  exact (Option.some.inj hp).symm

theorem map_dnorm_of_typed (p : List El) (hp : p.all El.typed = true) : p.map El.dnorm = p := by
  induction p with
  | nil => rfl
  | cons e r ih =>
    simp only [List.all_cons, Bool.and_eq_true] at hp
    cases e with
    | other s => simp [El.typed] at hp
    | str k | int z => simp [El.dnorm, ih hp.2]

/-- on strings and ints (any sign) it is plain injectivity -/
theorem c19_dotpath_typed_injective (p q : List El) (hp : p.all El.typed = true) (hq : q.all El.typed = true)
    (h : dotPathGo p = dotPathGo q) : p = q := by
  have := c19_dotpath_go_injective p q h
  rwa [map_dnorm_of_typed p hp, map_dnorm_of_typed q hq] at this

example : dotPathGo [.int (-1), .str "-1", .other "1.5", .int 0, .other "0"] = "[-1][\"-1\"][\"1.5\"][0][\"0\"]" := by decide +kernel

def ofSeg : Seg → El
  | .key s => .str s
  | .idx n => .int (.ofNat n)

theorem segDotGo_ofSeg (first : Bool) (s : Seg) : segDotGo first (ofSeg s) = segDotEsc first s := by
  cases s with
  | key k => rfl
  | idx n => simp [ofSeg, segDotGo, bracketed, itoa, segDotEsc]

theorem dotPathGo_ofSeg (p : List Seg) : dotPathGo (p.map ofSeg) = dotPathEsc p := by
  unfold dotPathGo dotCharsGo dotPathEsc
  rw [dotCharsWith_eq, dotCharsEsc_eq, renderPath_map ofSeg p (fun s _ first => segDotGo_ofSeg first s)]

theorem toSegs_ofSeg (p : List Seg) : toSegs ((p.map ofSeg).map El.dnorm) = some p := by
  induction p with
  | nil => rfl
  | cons s r ih => cases s <;> simp only [List.map_cons, ofSeg, El.dnorm, toSegs, toSeg?, Option.bind, ih, Option.map]

theorem c19_parse_dotpath (p : List Seg) : parseDotPath (dotPathEsc p) = some p := by
  unfold parseDotPath
  rw [← dotPathGo_ofSeg, c19_parse_dotpath_go]
  simpa using toSegs_ofSeg p

/-- ToDotPath identifies the path — FULL statement, as a corollary of the round trip -/
theorem c19_dotpath_esc_injective' (p q : List Seg) (h : dotPathEsc p = dotPathEsc q) : p = q := by
  have hp := c19_parse_dotpath p
  rw [h, c19_parse_dotpath q] at hp
  exact (Option.some.inj hp).symm

/-- witness: `int64(0)` (a map key) prints like the index 0, yet TreeifyError/FormatError file them apart;
    a value whose text is `"a.b"` prints like the key a.b -/
theorem old_dotpath_other_conflates :
    dotPathOld [.other "0"] = dotPathOld [.int 0] ∧ dotPathOld [.other "\"a.b\""] = dotPathOld [.str "a.b"] := by
  decide +kernel

/-- on typed paths (strings, ints) `dotPathOld` IS `dotPathGo`, so the round trip and injectivity
    hold of it there (PARTIAL statement for the code before 6ff3a13) -/
theorem dotPathOld_typed (p : List El) (hp : p.all El.typed = true) : dotPathOld p = dotPathGo p := by
  unfold dotPathOld dotPathGo dotCharsGo
  rw [dotCharsWith_eq, dotCharsWith_eq]
  have := renderPath_map (sa := segDotGo) (sb := segDotOld) id p (fun e he first => by
    cases e with
    | other s => simpa [El.typed] using List.all_eq_true.mp hp _ he
    | str k | int z => rfl)
  rw [List.map_id] at this
  rw [this]

theorem c19_old_dotpath_partial (p q : List El) (hp : p.all El.typed = true) (hq : q.all El.typed = true)
    (h : dotPathOld p = dotPathOld q) : p = q := by
  rw [dotPathOld_typed p hp, dotPathOld_typed q hq] at h
  exact c19_dotpath_typed_injective p q hp hq h

def c19_old_dotpath_full : Prop := ∀ p q : List El, dotPathOld p = dotPathOld q → p.map El.dnorm = q.map El.dnorm

theorem c19_old_dotpath_full_false : ¬ c19_old_dotpath_full := by
  intro h
  have := h [.other "0"] [.int 0] old_dotpath_other_conflates.1
  simp [El.dnorm] at this

end Gozod.C19
