/-
  C20 — the default `gozod.IsoTime()` (no options; types/iso.go → checks.ISOTime): `validate.ISOTime` matches `regex.DefaultTime`,
  which is also the pattern the check exports and the expression `regex.Time(nil)` builds, so the three theorems are `c20_tmo_n`.

  `isoTimeComma` (hh:mm:ss ',' digit+) is the region on which, up to kaptinlin/gozod 862300e, the validator's pattern differed
  from the exported one; `c20_isotime_partial` and `c20_isotime_validator_vs_pattern` are stated outside it and hold on it too (the
  hypothesis is not used).  `extend_run`, `isoTimeC_run`: the definition over the alphabet with ',' (`Fmt.isoTimeC`, the form the
  certificate search needs) accepts the same strings.
-/
import Gozod.Proofs.C20Time
import Gozod.Model.FormatSpecTime
namespace Gozod.C20
open Gozod Gozod.Re Gozod.Fmt

theorem extend_run (S : Spec) (extra : List Nat) (hdis : ∀ c, extra.elem c = true → S.support.elem c = false) :
    ∀ s, (Fmt.Spec.extend S extra).run s = S.run s := by
  have hg : ∀ (o : Option S.State) (c : Nat), (Fmt.Spec.extend S extra).gstep o c = S.gstep o c := by
    intro o c
    cases o with
    | none => rfl
    | some q =>
      show (if (extra ++ S.support).elem c then (if extra.elem c then none else S.step q c) else none)
        = (if S.support.elem c then S.step q c else none)
      rw [List.elem_eq_contains, List.contains_append, ← List.elem_eq_contains, ← List.elem_eq_contains]
      cases he : extra.elem c with
      | true => rw [hdis c he]; simp
      | false => simp
  exact fun s => (Fmt.Spec.extend S extra).runFrom_congr (g := S.gstep) (a := S.accO) hg (fun o => by cases o <;> rfl) (some S.init) s

theorem isoTimeC_run : ∀ s, isoTimeC.run s = (isoTimeOpt .any).run s :=
  extend_run (isoTimeOpt .any) [44] (by intro c h; have : c = 44 := by simpa using h
                                        subst this; decide)

/-- C20 for the default `IsoTime()`: `validate.ISOTime` accepts exactly the definition's strings -/
theorem c20_isotime : ∀ s, accepts Gen.val_isotime s = (isoTimeOpt .any).run s := c20_tmo_n

/-- the pattern the default `IsoTime()` exports is the validator's expression -/
theorem c20_isotime_pattern : ∀ s, accepts Gen.pat_isotime s = (isoTimeOpt .any).run s := c20_isotime

theorem c20_isotime_partial : ∀ s, isoTimeComma.run s = false → accepts Gen.val_isotime s = (isoTimeOpt .any).run s :=
  fun s _ => c20_isotime s

theorem c20_isotime_validator_vs_pattern :
    ∀ s, isoTimeComma.run s = false → accepts Gen.val_isotime s = accepts Gen.pat_isotime s := fun _ _ => rfl

example : isoTimeComma.run (b! "12:30:00,5") = true ∧ isoTimeComma.run (b! "12:30:00.5") = false ∧ isoTimeComma.run (b! "12:30") = false ∧
    (isoTimeOpt .any).run (b! "12:30:00.5") = true ∧ (isoTimeOpt .any).run (b! "12:30") = true ∧ (isoTimeOpt .any).run (b! "12:30:00,5") = false ∧
    accepts Gen.val_isotime (b! "12:30:00,5") = false ∧ accepts Gen.pat_isotime (b! "12:30:00,5") = false := by decide +kernel

end Gozod.C20
