/-
  C20 — `regex.IPv4` is four octet patterns separated by '.', and the IPv4 definition accepts four octets separated by '.'
  (`ipv4_split`, Proofs/C20Addr4.lean); the octet pattern is a decimal field (`decimal_field`, Proofs/C20Dec.lean: a finite fact).
-/
import Gozod.Proofs.C20Fields
import Gozod.Proofs.C20Addr4
import Gozod.Gen.Re_ipv4
namespace Gozod.C20
open Gozod Gozod.Re Gozod.Fmt

/-- `25[0-5]|2[0-4][0-9]|1[0-9][0-9]|[1-9][0-9]|[0-9]` is a decimal number 0–255 without leading zero -/
theorem octet255 (b : List Nat) : accepts Gen.ipv4.s3 b = Netip.prefixBits 255 b :=
  decimal_field _ 255 (by decide) (by decide) (by decide) (by decide) (by decide +kernel) b

theorem c20_ipv4 : ∀ s, accepts Gen.val_ipv4 s = Fmt.ipv4.run s := fun s => by
  rw [Bool.eq_iff_iff, ipv4_split, show accepts Gen.val_ipv4 s = true ↔ _ from accepts_dotted Gen.ipv4.s3 s]
  simp only [Dotted, octet255]

end Gozod.C20
