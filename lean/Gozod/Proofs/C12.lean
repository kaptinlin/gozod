/-
  C12 — ToJSONSchema is a pure, deterministic function of the schema.

  `c12_pure` … `c12_hist` and `today_*` are about the Bag-level definitions `Store.convert`, `Store.entriesOf`,
  `Store.applyBag` of `Model/Store.lean`.  No driver executes them, and their purity under `convScratch` holds by
  unfolding (`convert` is defined as `(σ, s, …)`): the statements that carry the property are in `Proofs/C12Doc.lean`,
  about the definitions the driver runs.  `Store.today` is, its name notwithstanding, the code BEFORE /repo 6cd8299
  (conversion on the live Bag, `size` assigned inside the loop) and 97c97c3 (`Clone`); /repo HEAD is `Store.fixed`.
  The registry part (`annotateEntry`, `convertReg`) IS executed by the driver.
-/
import Gozod.Proofs.C08
import Gozod.Proofs.Basics

namespace Gozod.C12
open Gozod.Store Gozod.C08

theorem convert_scratch (cfg : Cfg) (h : cfg.convScratch = true) (σ : Store) (s : Schema) :
    convert cfg σ s = (σ, s, entriesOf (obs σ.heap s)) := by
  simp [convert, h]

/-- the repaired conversion does not touch the store (nor re-point the schema). -/
theorem c12_pure (cfg : Cfg) (h : cfg.convScratch = true) (σ : Store) (s : Schema) :
    (convert cfg σ s).1 = σ ∧ (convert cfg σ s).2.1 = s := by
  rw [convert_scratch cfg h]
  exact ⟨rfl, rfl⟩

theorem c12_pure_obs (cfg : Cfg) (h : cfg.convScratch = true) (σ : Store) (s t : Schema) :
    obs (convert cfg σ s).1.heap t = obs σ.heap t := by
  rw [(c12_pure cfg h σ s).1]

/-- the annotated bag (hence the document) is a function of the schema's observation. -/
theorem c12_deterministic (cfg : Cfg) (h : cfg.convScratch = true) (σ₁ σ₂ : Store) (s : Schema)
    (he : obs σ₁.heap s = obs σ₂.heap s) :
    (convert cfg σ₁ s).2.2 = (convert cfg σ₂ s).2.2 := by
  rw [convert_scratch cfg h, convert_scratch cfg h, he]

theorem c12_twice (cfg : Cfg) (h : cfg.convScratch = true) (σ : Store) (s : Schema) :
    (convert cfg (convert cfg σ s).1 s).2.2 = (convert cfg σ s).2.2 := by
  rw [(c12_pure cfg h σ s).1]

/-- Go map keys are unique. -/
def KeysNodup (b : VBag) : Prop := (b.map (·.1)).Nodup

theorem vget_perm {a b : VBag} (hp : a.Perm b) (hn : KeysNodup a) (k : Nat) : vget b k = vget a k :=
  Assoc.lookup_perm hp hn k

/-- the codes of Model/Store.lean: keys 1 = minLength, 2 = maxLength, 4 = `partial`, 6 = `size`; fields 11 = minLength,
    12 = maxLength, 100 + k = the keyword of any other key k -/
theorem of_mem_fieldsOf {k f : Nat} (h : f ∈ fieldsOf k) :
    (k = 1 ∧ f = 11) ∨ (k = 2 ∧ f = 12) ∨ (k = 6 ∧ (f = 11 ∨ f = 12)) ∨ (k ≠ 1 ∧ k ≠ 2 ∧ k ≠ 4 ∧ k ≠ 6 ∧ f = 100 + k) := by
  unfold fieldsOf at h
  split at h
  · cases h
  split at h
  · have := List.mem_singleton.1 h; omega
  split at h
  · have := List.mem_singleton.1 h; omega
  split at h <;> simp only [List.mem_cons, List.not_mem_nil, or_false] at h <;> omega

/-- one round of the loop of the repaired `applyBag` (`size` is handled after the loop).  Written `if true && …` so that it is,
    letter for letter, the function `Store.applyBag true` folds: `c12_order_invariant` then needs no unfolding lemma. -/
abbrev loopStep (d : DocKw) (p : Nat × BagObs) : DocKw :=
  if true && p.1 == 6 then d else setFields d (fieldsOf p.1) p.2

/-- rounds for different keys commute: outside `size`, no two keys assign the same field -/
theorem loopStep_comm {x y : Nat × BagObs} (hxy : x.1 ≠ y.1) (d : DocKw) :
    loopStep (loopStep d x) y = loopStep (loopStep d y) x := by
  by_cases hx : x.1 = 6
  · simp [loopStep, hx]
  by_cases hy : y.1 = 6
  · simp [loopStep, hy]
  funext f
  have hdis : ¬ (f ∈ fieldsOf x.1 ∧ f ∈ fieldsOf y.1) := fun h => by
    have := of_mem_fieldsOf h.1
    have := of_mem_fieldsOf h.2
    omega
  by_cases h1 : f ∈ fieldsOf x.1 <;> by_cases h2 : f ∈ fieldsOf y.1 <;>
    simp [loopStep, hx, hy, setFields, h1, h2] at hdis ⊢

/-- the repaired `applyBag` yields the same keywords for every visiting order of the (unique-keyed) annotated bag:
    Go's map iteration order cannot show in the document. -/
theorem c12_order_invariant (e e' : VBag) (hn : KeysNodup e) (hp : e.Perm e') :
    applyBag true e' = applyBag true e := by
  -- a fold of commuting rounds does not depend on the order (`List.Perm.foldl_eq'`); entries with equal keys are equal
  have hloop := hp.foldl_eq' (f := loopStep) (fun x hx y hy d => by
    by_cases e : x = y
    · rw [e]
    · exact loopStep_comm (fun h => e (Assoc.key_inj hn x hx y hy h)) d) (fun _ => none)
  simp only [applyBag, if_true, vget_perm hp hn 6]
  rw [← hloop]

theorem vset_nodup (b : VBag) (k : Nat) (v : BagObs) (hn : KeysNodup b) : KeysNodup (vset b k v) :=
  vset_eq_set ▸ Assoc.set_nodup b k v hn

theorem onAttachV_nodup (b : VBag) (c : Nat) (hn : KeysNodup b) : KeysNodup (onAttachV b c) := by
  unfold onAttachV
  simp only
  split
  · exact hn
  split
  · split <;> exact vset_nodup _ _ _ hn
  split
  · split <;> exact vset_nodup _ _ _ hn
  split
  · -- `patterns`: whatever list was found, the value is appended unless present
    have keep : ∀ xs : List Nat,
        KeysNodup (if xs.contains (valOf c) then b else vset b (keyOf c) (.strs (xs ++ [valOf c]))) := fun xs => by
      split
      · exact hn
      · exact vset_nodup _ _ _ hn
    exact keep _
  · exact vset_nodup _ _ _ hn

theorem entriesOf_nodup (o : Obs) (hn : KeysNodup (o.bag.getD [])) : KeysNodup (entriesOf o) :=
  List.foldlRecOn o.checks onAttachV hn fun b hb c _ => onAttachV_nodup b c hb

/-- any two visiting orders of a schema's annotated bag give the same keywords. -/
theorem c12_doc_deterministic (o : Obs) (hn : KeysNodup (o.bag.getD [])) (ord ord' : VBag)
    (h1 : (entriesOf o).Perm ord) (h2 : (entriesOf o).Perm ord') :
    (docOfObs true o ord).kw = (docOfObs true o ord').kw := by
  have hk := entriesOf_nodup o hn
  simp only [docOfObs]
  rw [c12_order_invariant _ _ hk h1, c12_order_invariant _ _ hk h2]

/-- non-vacuity: the annotated bag of `File().Size(3).Min(1)` in two visiting orders -/
example : applyBag true [(1, .num 1), (6, .num 3)] 11 = applyBag true [(6, .num 3), (1, .num 1)] 11 := by decide

/-- Witness (`applyBag` before /repo 6cd8299): with `size` assigned inside the loop, `File().Size(3).Min(1)` converts to
    minLength 3 or 1 by map order. -/
theorem today_applyBag_order_dependent :
    applyBag false [(1, .num 1), (6, .num 3)] 11 ≠ applyBag false [(6, .num 3), (1, .num 1)] 11 := by decide

/-- a HISTORY op (likewise `hopsOK`, `runH`), not `StoreC08.HOp`, a holder's op (`C08.hopsOK`, `runHHist`); `HOpT` / `runHT`
    (C12Doc) give `conv` a Trace, `HOpO` / `runHO` (Model/ConvOpts) Options -/
inductive HOp
  | chain (i : Nat) (op : Op)
  | conv (i : Nat)                -- ToJSONSchema(live[i]) (any options: they do not enter the annotated bag)
  | parse (i : Nat)               -- reads the schema only; caller data is C15's matter

def runH (cfg : Cfg) : Store → List Schema → List HOp → Store × List Schema
  | σ, live, [] => (σ, live)
  | σ, live, .chain i op :: rest =>
    match live[i]? with
    | none => runH cfg σ live rest
    | some recv => let (σ', r) := applyOp cfg σ recv op; runH cfg σ' (live ++ [r]) rest
  | σ, live, .conv i :: rest =>
    match live[i]? with
    | none => runH cfg σ live rest
    | some s => runH cfg (convert cfg σ s).1 live rest
  | σ, live, .parse _ :: rest => runH cfg σ live rest

def hopsOK (ops : List HOp) : Prop :=
  ∀ o ∈ ops, match o with | .chain _ op => Op.ok op ∧ op.isMetaSelf = false | _ => True

theorem runH_chain (cfg : Cfg) (h1 : cfg.cloneBagAlways = true) (h2 : cfg.convScratch = true) : ∀ (ops : List HOp)
    (σ : Store) (live : List Schema), hopsOK ops → Chain WfS anyNew σ live (runH cfg σ live ops).1 (runH cfg σ live ops).2
  | [], _, _, _ => .nil
  | o :: rest, σ, live, hok => by
    have ih := fun σ live => runH_chain cfg h1 h2 rest σ live fun q hq => hok q (List.mem_cons_of_mem _ hq)
    cases o with
    | parse i => exact ih σ live
    | conv i =>
      unfold runH
      split
      · exact ih σ live
      · rw [(c12_pure cfg h2 σ _).1]; exact ih σ live
    | chain i op =>
      unfold runH
      split
      · exact ih σ live
      · next recv hl => exact chain_applyOp h1 (.base op) (List.mem_of_getElem? hl) (hok _ List.mem_cons_self) (ih _ _)

/-- along every interleaving of chaining calls, conversions and parses over a derivation family, every live schema
    keeps its observation, so it parses as before and converts to the same annotated bag as before. -/
theorem c12_hist (cfg : Cfg) (h1 : cfg.cloneBagAlways = true) (h2 : cfg.convScratch = true) (ops : List HOp) :
    ∀ (σ : Store) (live : List Schema), Inv σ live → hopsOK ops →
    Inv (runH cfg σ live ops).1 (runH cfg σ live ops).2 ∧ live <+: (runH cfg σ live ops).2 ∧
    ∀ s ∈ live, obs (runH cfg σ live ops).1.heap s = obs σ.heap s ∧
                (convert cfg (runH cfg σ live ops).1 s).2.2 = (convert cfg σ s).2.2 := fun σ live hi hok =>
  have ⟨a, b, c⟩ := hist_of_chain (runH_chain cfg h1 h2 ops σ live hok) hi
  ⟨a, b, fun s hs => ⟨c s hs, c12_deterministic cfg h2 _ _ s (c s hs)⟩⟩

/-- `String()` as the constructor builds it: empty check slice, empty non-nil Bag. -/
def baseString : Store × Schema := applyOp fixed σ0 dummy (.rebuild 1 0 [] 0 true false false)

/-- `String().Min(5)` with the `Clone` of `Store.today`: check id 41 = key 1 (minLength), value 5. -/
def childMin5 : Store × Schema := applyOp today baseString.1 baseString.2 (.derive 0 [41] none)

/-- Witness (`Store.today`, the code before /repo 6cd8299): converting the child `String().Min(5)` leaves minLength 5 in
    the Bag of the parent `String()`, which the parent's next conversion emits. -/
theorem today_convert_pollutes_parent :
    obs (convert today childMin5.1 childMin5.2).1.heap baseString.2 ≠ obs childMin5.1.heap baseString.2 ∧
    vget (convert today (convert today childMin5.1 childMin5.2).1 baseString.2).2.2 1 = some (.num 5) ∧
    vget (convert today childMin5.1 baseString.2).2.2 1 = none := by decide

/-- the same history on the repaired code -/
example :
    let child := applyOp fixed baseString.1 baseString.2 (.derive 0 [41] none)
    vget (convert fixed (convert fixed child.1 child.2).1 baseString.2).2.2 1 = none ∧
    vget (convert fixed child.1 child.2).2.2 1 = some (.num 5) := by decide

/-! ### the registry: Describe / Meta checks

  `annotatedInternals` runs the OnAttach of Describe/Meta checks against the live schema: the conversion writes the
  schema's GlobalRegistry entry.  What holds: the write touches only the converted (visited) schema's own entry, and it
  is idempotent, so after the first conversion the registry is a fixed point.  What does not hold: "a conversion leaves
  the registry as it was" (`c12_reg_full`, refuted by `conv_registers_meta_check`). -/

def combSet (a b : MetaSet) : MetaSet :=
  ⟨b.id.orElse (fun _ => a.id), b.title.orElse (fun _ => a.title), b.descr.orElse (fun _ => a.descr),
   b.examples.orElse (fun _ => a.examples)⟩

def noSet : MetaSet := ⟨.none, .none, .none, .none⟩

theorem getD_orElse {α} (a b : Option α) (x : α) : (b.orElse (fun _ => a)).getD x = b.getD (a.getD x) := by
  cases b <;> simp [Option.orElse]

theorem apply_apply (e : GMeta) (a b : MetaSet) : (e.apply a).apply b = e.apply (combSet a b) := by
  simp [GMeta.apply, combSet]

theorem apply_none (e : GMeta) : e.apply noSet = e := by
  simp [GMeta.apply, noSet]

theorem getD_getD {α} (o : Option α) (x : α) : o.getD (o.getD x) = o.getD x := by cases o <;> rfl

theorem apply_idem (e : GMeta) (s : MetaSet) : (e.apply s).apply s = e.apply s := by
  simp [GMeta.apply, getD_getD]

/-- all callbacks of a check list amount to one assignment (the last writer of each field wins) -/
def setsOf (cks : List MetaCheck) : MetaSet := cks.foldl (fun a c => combSet a c.sets) noSet

theorem foldl_attach_some (cks : List MetaCheck) (e : GMeta) (a : MetaSet) :
    cks.foldl attachMeta (some (e.apply a)) = some (e.apply (cks.foldl (fun a c => combSet a c.sets) a)) :=
  List.foldl_hom (fun a => some (e.apply a)) fun a c => by simp only [attachMeta, Option.getD_some, apply_apply]

theorem annotateEntry_eq (pre : Option GMeta) (cks : List MetaCheck) :
    annotateEntry pre cks = if cks = [] then pre else some ((pre.getD GMeta.empty).apply (setsOf cks)) := by
  cases cks with
  | nil => rfl
  | cons c cs =>
    have hc : combSet noSet c.sets = c.sets := by
      cases c.sets with
      | mk a b c d => cases a <;> cases b <;> cases c <;> cases d <;> rfl
    simp only [annotateEntry, List.foldl_cons, attachMeta, reduceCtorEq, ↓reduceIte, setsOf, hc]
    exact foldl_attach_some cs (pre.getD GMeta.empty) c.sets

/-- running the registry-writing callbacks of a schema a second time changes nothing. -/
theorem c12_annotate_idem (pre : Option GMeta) (cks : List MetaCheck) :
    annotateEntry (annotateEntry pre cks) cks = annotateEntry pre cks := by
  rw [annotateEntry_eq pre cks]
  by_cases h : cks = []
  · rw [if_pos h, h]; rfl
  · rw [if_neg h, annotateEntry_eq, if_neg h, Option.getD_some, apply_idem]

theorem convertReg_self (mc : Nat → Option MetaCheck) (σ : Store) (r : MReg) (s : Schema) :
    convertReg mc σ r s s.self = annotateEntry (r s.self) ((readArr σ.heap s.checks).filterMap mc) := if_pos rfl

/-- a conversion writes no other schema's registry entry. -/
theorem c12_reg_frame (mc : Nat → Option MetaCheck) (σ : Store) (r : MReg) (s : Schema) (l : Loc) (h : l ≠ s.self) :
    convertReg mc σ r s l = r l := if_neg h

def c12_reg_full : Prop :=
  ∀ (mc : Nat → Option MetaCheck) (σ : Store) (r : MReg) (s : Schema), convertReg mc σ r s = r

/-- where it holds: the entry already absorbs the schema's registry-writing checks -/
def Absorbed (mc : Nat → Option MetaCheck) (σ : Store) (r : MReg) (s : Schema) : Prop :=
  annotateEntry (r s.self) ((readArr σ.heap s.checks).filterMap mc) = r s.self

/-- with the entry absorbed (no Describe/Meta checks, or converted before) the conversion leaves the registry untouched. -/
theorem c12_reg_partial (mc : Nat → Option MetaCheck) (σ : Store) (r : MReg) (s : Schema)
    (h : Absorbed mc σ r s) : convertReg mc σ r s = r := by
  funext l
  by_cases hl : l = s.self
  · rw [hl, convertReg_self]; exact h
  · exact c12_reg_frame mc σ r s l hl

theorem absorbed_after_conversion (mc : Nat → Option MetaCheck) (σ : Store) (r : MReg) (s : Schema) :
    Absorbed mc σ (convertReg mc σ r s) s := by
  rw [Absorbed, convertReg_self, c12_annotate_idem]

/-- the registry after the first conversion is a fixed point of converting the same schema (the store is untouched,
    `c12_pure`, so the checks read are the same). -/
theorem c12_reg_twice (mc : Nat → Option MetaCheck) (cfg : Cfg) (h : cfg.convScratch = true) (σ : Store) (r : MReg)
    (s : Schema) :
    convertReg mc (convert cfg σ s).1 (convertReg mc σ r s) s = convertReg mc σ r s := by
  rw [(c12_pure cfg h σ s).1]
  exact c12_reg_partial mc σ _ s (absorbed_after_conversion mc σ r s)

/-- conversions of schemas with other identities in between do not disturb the fixed point of `s`'s entry. -/
theorem c12_reg_after_others (mc : Nat → Option MetaCheck) (σ : Store) (r : MReg) (s : Schema) (others : List Schema)
    (hne : ∀ t ∈ others, t.self ≠ s.self) :
    convertReg mc σ (others.foldl (convertReg mc σ) (convertReg mc σ r s)) s s.self = convertReg mc σ r s s.self := by
  have hk : (others.foldl (convertReg mc σ) (convertReg mc σ r s)) s.self = convertReg mc σ r s s.self :=
    List.foldlRecOn (motive := fun r' => r' s.self = convertReg mc σ r s s.self) others _ rfl fun r' hr' t ht =>
      (c12_reg_frame mc σ r' t s.self fun e => hne t ht e.symm).trans hr'
  rw [convertReg_self, hk]
  exact absorbed_after_conversion mc σ r s

/-- a schema without registry-writing checks is absorbed from the start -/
example (σ : Store) (r : MReg) (s : Schema) : Absorbed (fun _ => none) σ r s := by
  rw [Absorbed, List.filterMap_eq_nil_iff.2 fun _ _ => rfl]
  rfl

/-- `Tuple(...).Check(gozod.Meta(GlobalMeta{Title: "T"}))`: one check (id 15), no registry entry yet. -/
def tupleWithMetaCheck : Store × Schema := applyOp fixed σ0 dummy (.rebuild 1 0 [15] 1 true false false)
def metaTable : Nat → Option MetaCheck := fun c => if c = 15 then some (.gmeta ⟨0, 1, 0, [7, 8]⟩) else none

/-- Witness: the first conversion of a schema carrying a Meta check creates its registry entry:
    `GlobalRegistry.Get(schema)` answers differently before and after `ToJSONSchema(schema)`. -/
theorem conv_registers_meta_check :
    convertReg metaTable tupleWithMetaCheck.1 (fun _ => none) tupleWithMetaCheck.2 tupleWithMetaCheck.2.self
      = some ⟨0, 1, 0, [7, 8]⟩ ∧
    (fun _ => none : MReg) tupleWithMetaCheck.2.self = none := by decide

theorem c12_reg_full_false : ¬ c12_reg_full := by
  intro h
  have := congrFun (h metaTable tupleWithMetaCheck.1 (fun _ => none) tupleWithMetaCheck.2) tupleWithMetaCheck.2.self
  rw [conv_registers_meta_check.1] at this
  exact absurd this (by decide)

/-- What idempotence excludes: a callback that MERGES the examples instead of assigning them (appending those it
    cannot find; slices and maps can never be found) grows the entry on every run. -/
theorem merging_examples_not_idempotent :
    mergeExamples 5 (mergeExamples 5 [] [1, 7]) [1, 7] ≠ mergeExamples 5 [] [1, 7] := by decide

example : hopsOK [.chain 1 (.derive 0 [41] none), .conv 2, .conv 1, .parse 1, .chain 1 (.derive 0 [18] none), .conv 3, .conv 1] := by
  simp [hopsOK, Op.ok, Op.isMetaSelf]

end Gozod.C12
