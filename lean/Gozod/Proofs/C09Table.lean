/-
  C09 — the entry-point table regenerated from `types/*.go` (`Gen/EntryPoints.lean`) is the table the
  model was written against (`Gozod.EntryPoints.expected`), every `ParseAny` / `Must*` is the plain wrapper, and every
  (`Parse`, `StrictParse`) pair is covered by an agreement theorem or has a recorded disposition (finding / run only).
-/
import Gozod.Gen.EntryPoints
import Gozod.Proofs.Basics
namespace Gozod.C09
open Gozod.EntryPoints Gozod.Gen.EntryPoints

/-- The one evaluation of the rows: the three statements share every lookup `Table.find table ty ep`. -/
theorem table_facts :
    (Table.types table).map (fun ty => (ty, classify table ty)) = expected ∧
      wrapperOffenders table = [] ∧ baseOffenders table = [] := by
  decide +kernel

theorem table_classified : (Table.types table).map (fun ty => (ty, classify table ty)) = expected := table_facts.1

theorem table_types : Table.types table = expected.map (·.1) := by
  rw [← table_classified, List.map_map]; exact (List.map_id _).symm

theorem viaParseTypes_eq {t : Table}
    (h : (Table.types t).map (fun ty => (ty, classify t ty)) = expected) :
    viaParseTypes t = (expected.filter (·.2 == .viaParse)).map (·.1) := by
  rw [← h, List.filter_map, List.map_map]
  exact (List.map_id _).symm

/-- Whole table: the (`Parse`, `StrictParse`) mechanism of every schema type is the expected one; for a
    type whose `StrictParse` (or `Parse`) is re-routed, `tableOffenders table` names the type. -/
theorem c09_table_as_expected : tableOffenders table = [] := offenders_eq_nil table_classified _ _

/-- Whole table: on every schema type `ParseAny` is `return z.Parse(input, ctx...)` and each
    `Must<X>` is `r, err := z.X(input, ctx...); if err != nil { panic(err) }; return r` (or both are
    promoted from the same embedded schema). -/
theorem c09_table_wrappers : wrapperOffenders table = [] := table_facts.2.1

/-- These 15 types answer `StrictParse` by calling `Parse` — agreement by
    construction (the shape `ParseAny` has on every type). -/
theorem c09_table_via_parse : viaParseTypes table =
    ["ZodArray", "ZodDiscriminatedUnion", "ZodEnum", "ZodIntersection", "ZodLazy", "ZodLiteral", "ZodMap", "ZodNever", "ZodNil",
     "ZodObject", "ZodRecord", "ZodSet", "ZodTuple", "ZodUnion", "ZodXor"] := by
  rw [viaParseTypes_eq table_classified]; decide +kernel

/-- Exactly these five types are type-local (`ZodStringBool` is the one with a finding): every other type's
    agreement is a theorem — the bare primitive pair with a checks-only validator, the bare complex pair,
    `StrictParse = Parse`, or promoted from / forwarded to an embedded schema of one of these kinds. -/
theorem c09_table_type_local : notByTheorem table = ["ZodBigInt", "ZodFile", "ZodFunction", "ZodStringBool", "ZodStruct"] := by
  decide +kernel

/-- Every pair is a theorem of the engine model or has a disposition, and no disposition is stale. -/
theorem c09_table_covered : uncovered table = [] := by
  -- the types without a theorem are the five of `c09_table_type_local`; each has a disposition, and each disposition
  -- belongs to a `typeLocal` pair, which is no theorem whatever the table says
  have h : (expected.filter (fun e => !e.2.byTheorem table && (dispositions.lookup e.1).isNone)).map (·.1) =
      (notByTheorem table).filter (fun n => (dispositions.lookup n).isNone) := by
    simp only [notByTheorem, List.filter_map, List.filter_filter, Function.comp_def, Bool.and_comm]
  rw [uncovered, h, c09_table_type_local]
  decide +kernel

/-- Whole table, the method Go actually selects: following promotion through embedded schemas (a promoted
    method runs on the EMBEDDED value), `ParseAny`, `MustParse` and `MustParseAny` bottom out in the very implementation
    the type's `Parse` bottoms out in, and `MustStrictParse` in that of its `StrictParse`. A type that overrides `Parse`
    but keeps the promoted wrappers (seeded/C09d) fails this. -/
theorem c09_table_bases : baseOffenders table = [] := table_facts.2.2

/-- Non-vacuity: at least 20 types embed a schema AND declare entry points of their own. -/
theorem c09_table_mixed : 20 ≤ (mixedTypes table).length := by
  -- every type the expectation classifies as `embedded` is one of them, and there are 24 of those
  rw [mixedTypes, table_types, ← List.countP_eq_length_filter, List.countP_map]
  refine Nat.le_trans (by decide +kernel : 20 ≤ expected.countP (fun e => e.2 matches .embedded _))
    (List.countP_mono_left ?_)
  decide +kernel

theorem transcribedOk_of {t : Table} {s : List Stmts} {tr : Transcription}
    (h1 : t.find tr.ty "Parse" = some tr.parse) (h2 : t.find tr.ty "StrictParse" = some tr.strict)
    (h3 : stmtsOf s tr.ty "Parse" = some tr.parseStmts) (h4 : stmtsOf s tr.ty "StrictParse" = some tr.strictStmts) :
    transcribedOk t s tr = true := by
  simp only [transcribedOk, h1, h2, h3, h4, beq_self_eq_true, Bool.and_self]

/-- Transcribed pairs: the rows and every statement around the engine call of `ZodBigInt`, `ZodFile`, `ZodFunction`,
    `ZodStruct` are, text for text, what `Gozod.TypeLocal` transcribes. -/
theorem c09_table_transcribed : transcriptionOffenders table stmts = [] := by
  -- The lookups evaluate to the transcription syntactically, so the long source texts are never compared
  -- character by character (`x == x` holds by reflexivity).
  have ok : ∀ tr ∈ transcriptions, transcribedOk table stmts tr = true := by
    simp only [transcriptions, List.mem_cons, List.not_mem_nil, or_false, forall_eq_or_imp, forall_eq]
    refine ⟨?_, ?_, ?_, ?_⟩ <;> exact transcribedOk_of rfl rfl rfl rfl
  simp only [transcriptionOffenders, List.map_eq_nil_iff, List.filter_eq_nil_iff, Bool.not_eq_true',
    Bool.not_eq_false]
  exact ok

/-- Only `ZodStringBool` (different domains by design) is left to the run alone. -/
theorem c09_table_run_only : judgedByRunOnly table = ["ZodStringBool"] := by
  rw [judgedByRunOnly, c09_table_type_local]; decide +kernel

/-- Non-vacuity: at least 50 schema types, six rows each. -/
theorem c09_table_nonempty : 50 ≤ (Table.types table).length ∧ table.length = 6 * (Table.types table).length := by
  rw [table_types]; decide +kernel

end Gozod.C09
