/-
  C19 — the entry points.  Statements decided over the WHOLE table regenerated from gozod.go and
  internal/issues/errors.go on every run (lean/Gozod/Gen/C19Exports.lean, written by
  `harness/cmd/c19 -gen`): an edit that re-routes an exported formatter, gives a thin entry point a
  body of its own, or adds a function to errors.go changes one of these proof obligations.
-/
import Gozod.Gen.C19Exports
import Gozod.Model.Issues

namespace Gozod.C19
open Gozod.Issues Gozod.Gen.C19Exports

/-- the entry points of the property (observe_at) and the advanced variants gozod.go offers -/
def formatterEntryPoints : List String :=
  ["FlattenError", "TreeifyError", "FormatError", "PrettifyError",
   "FlattenErrorWithMapper", "FlattenErrorWithFormatter", "TreeifyErrorWithMapper",
   "PrettifyErrorWithFormatter", "ToDotPath"]

/-- the thin entry points of internal/issues/errors.go, as the transcription assumes them: each hands
    the error, unchanged, to the function the model transcribes, with `defaultIssueMapper` of the
    error's own (or the given) formatter — the `Issue.msg` of the model -/
def expectedWrappers : List (String × String × List String) := [
  ("FlattenError", "FlattenErrorWithMapper", ["zodErr", "defaultIssueMapper(zodErr.formatter)"]),
  ("FlattenErrorWithFormatter", "FlattenErrorWithMapper", ["zodErr", "defaultIssueMapper(formatter)"]),
  ("FormatError", "FormatErrorWithMapper", ["zodErr", "defaultIssueMapper(zodErr.formatter)"]),
  ("PrettifyError", "PrettifyErrorWithFormatter", ["zodErr", "zodErr.formatter"]),
  ("ToDotPath", "utils.ToDotPath", ["path"]),
  ("TreeifyError", "TreeifyErrorWithMapper", ["zodErr", "defaultIssueMapper(zodErr.formatter)"])]

/-- the guard a thin entry point may carry for a nil `*ZodError` (since e8b2b50): the
    transcribed function is called on nil, which it reads as an error without issues -/
def expectedGuard (callee : String) : String :=
  "if zodErr == nil { return " ++ callee ++ "(nil, nil) }"

/-- the functions of errors.go that Model/Issues.lean transcribes statement by statement -/
def transcribed : List String :=
  ["FlattenErrorWithMapper", "TreeifyErrorWithMapper", "processIssueInTree", "FormatErrorWithMapper",
   "PrettifyErrorWithFormatter"]

/-- functions of errors.go that build or inspect a ZodError and produce no report; `defaultIssueMapper`
    and `convertZodIssueToProperties` compute mapper(issue), which the model takes as `Issue.msg` -/
def noReport : List String :=
  ["NewZodError", "NewZodErrorWithFormatter", "IsZodError", "ZodError.Formatter", "ZodError.SetFormatter",
   "defaultIssueMapper", "convertZodIssueToProperties"]

/-- `func (e *ZodError) Error() string` as the source has it -/
def expectedErrorMethod : List String := [
  "if e == nil { return \"\" }",
  "if slicex.IsEmpty(e.Issues) { return \"Validation failed\" }",
  "return PrettifyErrorWithFormatter(e, e.formatter)"]

/-- One kernel evaluation for all statements about the tables: normalising a string literal is the
    slow step, and within one evaluation each literal is normalised once. -/
theorem exports_tables_decided :
    (reexports.all (fun r => r.1 == r.2.2.1 && (r.2.1 == "issues" || r.2.1 == "utils")) = true) ∧
    (formatterEntryPoints.all (fun n =>
      reexports.contains (n, (if n == "ToDotPath" then "utils" else "issues"), n, "var")) = true) ∧
    wrappers.map (fun w => (w.1, w.2.1, w.2.2.1)) = expectedWrappers ∧
    (wrappers.all (fun w => w.2.2.2 == "" || w.2.2.2 == expectedGuard w.2.1) = true) ∧
    (errorsGoFuncs.all (fun f => transcribed.contains f || (wrappers.map (·.1)).contains f
      || f == "ZodError.Error" || noReport.contains f) = true) ∧
    (transcribed.all (fun f => errorsGoFuncs.contains f) = true) ∧
    errorMethod = expectedErrorMethod := by decide +kernel

/-- every re-exported name of gozod.go IS the internal object of the same name (`X = issues.X`,
    `X = utils.X`), not a look-alike -/
theorem c19_exports_are_internal :
    reexports.all (fun r => r.1 == r.2.2.1 && (r.2.1 == "issues" || r.2.1 == "utils")) = true :=
  exports_tables_decided.1

/-- … and every formatter entry point is among them, as a package-level `var` bound to the function
    of internal/issues (ToDotPath: of internal/utils) -/
theorem c19_exports_cover :
    formatterEntryPoints.all (fun n =>
      reexports.contains (n, (if n == "ToDotPath" then "utils" else "issues"), n, "var")) = true :=
  exports_tables_decided.2.1

theorem c19_wrappers_as_expected : wrappers.map (fun w => (w.1, w.2.1, w.2.2.1)) = expectedWrappers :=
  exports_tables_decided.2.2.1

theorem c19_wrapper_guards_as_expected :
    wrappers.all (fun w => w.2.2.2 == "" || w.2.2.2 == expectedGuard w.2.1) = true :=
  exports_tables_decided.2.2.2.1

/-- every function of errors.go is accounted for; a new helper (a "fast path") would not be -/
theorem c19_errors_go_accounted :
    errorsGoFuncs.all (fun f => transcribed.contains f || (wrappers.map (·.1)).contains f
      || f == "ZodError.Error" || noReport.contains f) = true :=
  exports_tables_decided.2.2.2.2.1

theorem c19_transcribed_present : transcribed.all (fun f => errorsGoFuncs.contains f) = true :=
  exports_tables_decided.2.2.2.2.2.1

theorem c19_error_method_as_expected : errorMethod = expectedErrorMethod :=
  exports_tables_decided.2.2.2.2.2.2

def errorString (is : List Issue) : String :=
  if is.isEmpty then "Validation failed" else prettify is

/-- err.Error() is PrettifyError(err) for every (non-nil) error: the early return for an empty
    error yields what PrettifyErrorWithFormatter yields for it.  So everything proved of the pretty
    report holds of `err.Error()`. -/
theorem c19_error_eq_prettify (is : List Issue) : errorString is = prettify is := by
  cases is with
  | nil => simp [errorString, prettify, prettySegs]
  | cons i r => simp [errorString]

end Gozod.C19
