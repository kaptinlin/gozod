/-
  C20 — the RFC 4291 definition `Fmt.ipv6` read as: groups of one to four hex digits, each followed by ':' (`GC`), at most one
  "::", and a tail (a last group, a dotted quad, or nothing after a final "::").

  `ipv6_shape`: the strings the definition accepts, in that form (the step automaton walked field by field: `runV_field`).
-/
import Gozod.Proofs.C20Fields
import Gozod.Proofs.C20Addr6
import Gozod.Model.GoParsers
namespace Gozod.C20
open Gozod.Re Gozod.Fmt
open Gozod.Parsers (isHextet)

def GC (a : List Nat) : Prop := ∃ f, isHextet f = true ∧ a = f ++ [58]

/-- what stands before the second ':' of a "::" that `i` groups precede -/
def BeforeEll (i : Nat) (a : List Nat) : Prop := if i = 0 then a = [58] else Rep GC i a

/-- what may follow a "::" that `g` groups precede: nothing; or further groups, each followed by ':', and then a last group or,
    where two more groups would still fit, a dotted quad -/
def AfterEll (g : Nat) (r : List Nat) : Prop :=
  r = [] ∨ ∃ j b t, r = b ++ t ∧ Rep GC j b ∧ ((isHextet t = true ∧ g + j ≤ 6) ∨ (ipv4.run t = true ∧ g + j ≤ 5))

theorem all_prefix (p : Nat → Bool) : ∀ s : List Nat, ∃ h rest, s = h ++ rest ∧ h.all p = true ∧
    (rest = [] ∨ ∃ c r, rest = c :: r ∧ p c = false)
  | [] => ⟨[], [], rfl, rfl, Or.inl rfl⟩
  | c :: s => by
    cases hc : p c with
    | false => exact ⟨[], c :: s, rfl, rfl, Or.inr ⟨c, s, rfl, hc⟩⟩
    | true =>
      obtain ⟨h, rest, e, hh, hr⟩ := all_prefix p s
      exact ⟨c :: h, rest, by rw [e]; rfl, by rw [List.all_cons, hc, hh]; rfl, hr⟩

theorem isHextet_iff (f : List Nat) : isHextet f = true ↔ f ≠ [] ∧ f.length ≤ 4 ∧ f.all isHex = true := by
  simp only [isHextet, Bool.and_eq_true, decide_eq_true_eq, and_assoc]
  cases f <;> simp

theorem runV_append (o : Option V6St) (a b : List Nat) : runV o (a ++ b) = runV (a.foldl gV o) b := by
  unfold runV; rw [List.foldl_append]

theorem hex3_run (g ell k : Nat) : ∀ (f h : List Nat) (n v : Nat), f.all isHex = true → n ≤ 4 → VOk g ell h n v →
    (4 < n + f.length ∧ f.foldl gV (some ⟨3, g, ell, n, v, k⟩) = none) ∨
    (n + f.length ≤ 4 ∧ ∃ v', f.foldl gV (some ⟨3, g, ell, n, v, k⟩) = some ⟨3, g, ell, n + f.length, v', k⟩ ∧
      VOk g ell (h ++ f) (n + f.length) v')
  | [], h, n, v, _, hn, hv => Or.inr ⟨hn, v, rfl, by rw [List.append_nil]; exact hv⟩
  | c :: f, h, n, v, hf, _, hv => by
    rw [List.all_cons, Bool.and_eq_true] at hf
    rw [List.foldl_cons, gV_hex3 hf.1, List.length_cons]
    by_cases hn : n < 4
    · rw [if_pos hn]
      have := hex3_run g ell k f (h ++ [c]) (n + 1) _ hf.2 hn (VOk_step hf.1 (Or.inr hv))
      rw [List.append_assoc, Nat.add_assoc, Nat.add_comm 1] at this
      exact this
    · rw [if_neg hn, foldl_none (fun _ => rfl)]
      exact Or.inl ⟨by omega, rfl⟩

/-- a state in which a group may begin -/
def AtHead (ph g : Nat) : Prop := ph = 0 ∨ ph = 4 ∨ (ph = 2 ∧ g ≤ 6)

theorem AtHead.four {g : Nat} : AtHead 4 g := Or.inr (Or.inl rfl)

theorem AtHead.two {g : Nat} (h : g ≤ 6) : AtHead 2 g := Or.inr (Or.inr ⟨rfl, h⟩)

theorem head_hex {ph g ell : Nat} (hph : AtHead ph g) {f : List Nat} (hne : f ≠ []) (hf : f.all isHex = true) :
    (4 < f.length ∧ f.foldl gV (some ⟨ph, g, ell, 0, 0, 0⟩) = none) ∨
    (f.length ≤ 4 ∧ ∃ v, f.foldl gV (some ⟨ph, g, ell, 0, 0, 0⟩) = some ⟨3, g, ell, f.length, v, 0⟩ ∧ VOk g ell f f.length v) := by
  cases f with
  | nil => exact absurd rfl hne
  | cons c f =>
    rw [List.all_cons, Bool.and_eq_true] at hf
    rw [List.foldl_cons, gV_start hf.1 _ _ _ _ _ _ hph, List.length_cons, Nat.add_comm]
    exact hex3_run g ell 0 f [c] 1 _ hf.2 (by omega) (VOk_step hf.1 (Or.inl ⟨rfl, rfl, rfl⟩))

/-- a '.' after the group `h`: the group was the first octet of a dotted quad, and the IPv4 automaton reads on -/
theorem dot3_run {g ell n v : Nat} {h : List Nat} (hv : VOk g ell h n v) (r : List Nat) :
    runV (some ⟨3, g, ell, n, v, 0⟩) (46 :: r) = (quadMayStart g ell && ipv4.run (h ++ 46 :: r)) := by
  rw [runV_cons, gV_dot3, run4_spec, run4, List.foldl_append, List.foldl_cons]
  unfold VOk at hv
  cases hq : quadMayStart g ell with
  | false =>
    rw [if_neg (by rw [hq]; decide)] at hv
    rw [if_neg (by omega), runV_none]; rfl
  | true =>
    rw [if_pos hq] at hv
    obtain ⟨_, hn, _, hrun⟩ := hv
    rw [hrun, Bool.true_and]
    by_cases h255 : v ≤ 255
    · rw [if_pos h255, if_pos h255, sim5, g4_dot, if_pos ⟨hn, Nat.zero_lt_succ 2⟩]; rfl
    · rw [if_neg h255, if_neg h255, runV_none]; exact (run4_none r).symm

theorem acc3 (g ell n v k : Nat) : accV (some ⟨3, g, ell, n, v, k⟩) = (decide (ell = 1) || decide (g = 7)) := by
  simp [accV, ipv6Acc]

/-- one field, read where a group may begin: the last group; a group, ':' and more; a dotted quad; nothing (after "::"); or a
    ':' right away -/
theorem runV_field {ph g ell : Nat} (hph : AtHead ph g) (s : List Nat) :
    runV (some ⟨ph, g, ell, 0, 0, 0⟩) s = true ↔
      (isHextet s = true ∧ (ell = 1 ∨ g = 7)) ∨
      (∃ f r, s = f ++ 58 :: r ∧ isHextet f = true ∧ ((ell = 0 ∧ g + 1 ≤ 7) ∨ (ell = 1 ∧ g + 1 ≤ 6)) ∧
        runV (some ⟨4, g + 1, ell, 0, 0, 0⟩) r = true) ∨
      (quadMayStart g ell = true ∧ ipv4.run s = true) ∨
      (s = [] ∧ ph = 2) ∨
      (∃ r, s = 58 :: r ∧ runV (gV (some ⟨ph, g, ell, 0, 0, 0⟩) 58) r = true) := by
  constructor
  · intro hrun
    -- the hex digits `h` at the front of `s`; the byte after them (':' , '.', the end, another) decides
    obtain ⟨h, rest, rfl, hh, hrest⟩ := all_prefix isHex s
    by_cases hne : h = []
    · subst hne
      rcases hrest with rfl | ⟨c, r, rfl, hc⟩
      · refine Or.inr (Or.inr (Or.inr (Or.inl ⟨rfl, ?_⟩)))
        rcases hph with rfl | rfl | ⟨rfl, _⟩
        · cases hrun
        · cases hrun
        · rfl
      · by_cases h58 : c = 58
        · subst h58; exact Or.inr (Or.inr (Or.inr (Or.inr ⟨r, rfl, hrun⟩)))
        · rw [List.nil_append, runV_cons] at hrun
          by_cases h46 : c = 46
          · subst h46
            rw [gV_dot_head _ _ _ _ _ _ (by rcases hph with rfl | rfl | ⟨rfl, _⟩ <;> decide)
              (by rcases hph with rfl | rfl | ⟨rfl, _⟩ <;> decide), runV_none] at hrun
            cases hrun
          · rw [gV_other h58 h46 (by rw [hc]; decide), runV_none] at hrun; cases hrun
    · rw [runV_append] at hrun
      rcases head_hex (ell := ell) hph hne hh with ⟨_, hdead⟩ | ⟨h4, v, hst, hv⟩
      · rw [hdead, runV_none] at hrun; cases hrun
      · have hgrp : isHextet h = true := (isHextet_iff h).2 ⟨hne, h4, hh⟩
        rw [hst] at hrun
        rcases hrest with rfl | ⟨c, r, rfl, hc⟩
        · rw [List.append_nil]
          refine Or.inl ⟨hgrp, ?_⟩
          simpa [runV, acc3] using hrun
        · by_cases h58 : c = 58
          · subst h58
            rw [runV_cons, gV_colon3] at hrun
            split at hrun
            · next hb => exact Or.inr (Or.inl ⟨h, r, rfl, hgrp, hb, hrun⟩)
            · rw [runV_none] at hrun; cases hrun
          · by_cases h46 : c = 46
            · subst h46
              rw [dot3_run hv, Bool.and_eq_true] at hrun
              exact Or.inr (Or.inr (Or.inl hrun))
            · rw [runV_cons, gV_other h58 h46 (by rw [hc]; decide), runV_none] at hrun; cases hrun
  · rintro (⟨hgrp, hacc⟩ | ⟨f, r, rfl, hgrp, hb, hrun⟩ | ⟨hq, hrun⟩ | ⟨rfl, rfl⟩ | ⟨r, rfl, hrun⟩)
    · obtain ⟨hne, h4, hh⟩ := (isHextet_iff s).1 hgrp
      rcases head_hex (ell := ell) hph hne hh with ⟨h5, _⟩ | ⟨_, v, hst, _⟩
      · omega
      · rw [runV, hst, acc3]; simpa using hacc
    · obtain ⟨hne, h4, hh⟩ := (isHextet_iff f).1 hgrp
      rcases head_hex (ell := ell) hph hne hh with ⟨h5, _⟩ | ⟨_, v, hst, _⟩
      · omega
      · rw [runV_append, hst, runV_cons, gV_colon3, if_pos hb]; exact hrun
    · have hrun' := hrun
      rw [run4_spec] at hrun'
      obtain ⟨_, o, r, rfl, ho, _⟩ := ((run4_field 0 s).1 hrun').resolve_left (fun h => nomatch h.1)
      obtain ⟨hd, h1, h3⟩ := prefixBits_short (max := 255) (by decide) ho
      have hh : o.all isHex = true := List.all_eq_true.2 fun c hc => isHex_of_isDigit (List.all_eq_true.1 hd c hc)
      rcases head_hex (ell := ell) hph (by intro e; rw [e] at h1; cases h1) hh with ⟨h5, _⟩ | ⟨_, v, hst, hv⟩
      · omega
      · rw [runV_append, hst, dot3_run hv, hq, hrun]; rfl
    · rfl
    · exact hrun

/-- what ends the run of groups that `g` groups precede: the last group, a dotted quad, or (once) a "::" and what follows it -/
def Tail (g ell : Nat) (t : List Nat) : Prop :=
  (isHextet t = true ∧ (ell = 1 ∨ g = 7)) ∨ (quadMayStart g ell = true ∧ ipv4.run t = true) ∨
  (ell = 0 ∧ ∃ r, t = 58 :: r ∧ runV (some ⟨2, g, 1, 0, 0, 0⟩) r = true)

theorem ph4_step (g : Nat) {ell : Nat} (hell : ell ≤ 1) (s : List Nat) : runV (some ⟨4, g, ell, 0, 0, 0⟩) s = true ↔
    Tail g ell s ∨ (∃ f r, s = f ++ 58 :: r ∧ isHextet f = true ∧ g + 1 + ell ≤ 7 ∧
      runV (some ⟨4, g + 1, ell, 0, 0, 0⟩) r = true) := by
  rw [runV_field .four, gV_colon4]
  constructor
  · rintro (h | ⟨f, r, rfl, hf, hb, hr⟩ | h | ⟨_, h⟩ | ⟨r, rfl, hr⟩)
    · exact Or.inl (Or.inl h)
    · exact Or.inr ⟨f, r, rfl, hf, by omega, hr⟩
    · exact Or.inl (Or.inr (Or.inl h))
    · cases h
    · split at hr
      · next h0 => exact Or.inl (Or.inr (Or.inr ⟨h0, r, rfl, hr⟩))
      · rw [runV_none] at hr; cases hr
  · rintro ((h | h | ⟨h0, r, rfl, hr⟩) | ⟨f, r, rfl, hf, hb, hr⟩)
    · exact Or.inl h
    · exact Or.inr (Or.inr (Or.inl h))
    · exact Or.inr (Or.inr (Or.inr (Or.inr ⟨r, rfl, by rw [if_pos h0]; exact hr⟩)))
    · exact Or.inr (Or.inl ⟨f, r, rfl, hf, by omega, hr⟩)

theorem runV_groups {ell : Nat} (hell : ell ≤ 1) (s : List Nat) {g : Nat} (hg : g + ell ≤ 7) :
    runV (some ⟨4, g, ell, 0, 0, 0⟩) s = true ↔
      ∃ j b t, s = b ++ t ∧ Rep GC j b ∧ g + j + ell ≤ 7 ∧ Tail (g + j) ell t := by
  constructor
  · -- seven times a group and a ':' at most
    suffices H : ∀ (n g : Nat) (s : List Nat), 7 ≤ g + n → g + ell ≤ 7 → runV (some ⟨4, g, ell, 0, 0, 0⟩) s = true →
        ∃ j b t, s = b ++ t ∧ Rep GC j b ∧ g + j + ell ≤ 7 ∧ Tail (g + j) ell t from
      H 7 g s (Nat.le_add_left 7 g) hg
    intro n
    induction n with
    | zero =>
      intro g s hn hg h
      rcases (ph4_step g hell s).1 h with h | ⟨_, _, _, _, hb, _⟩
      · exact ⟨0, [], s, rfl, rfl, hg, h⟩
      · omega
    | succ n ih =>
      intro g s hn hg h
      rcases (ph4_step g hell s).1 h with h | ⟨f, r, rfl, hf, hb, hr⟩
      · exact ⟨0, [], s, rfl, rfl, hg, h⟩
      · obtain ⟨j, b, t, rfl, hb', hj, ht⟩ := ih (g + 1) r (by omega) hb hr
        refine ⟨j + 1, (f ++ [58]) ++ b, t, by simp, Rep.cons ⟨f, hf, rfl⟩ hb', by omega, ?_⟩
        rw [show g + (j + 1) = g + 1 + j by omega]; exact ht
  · rintro ⟨j, b, t, rfl, hb, hj, ht⟩
    induction j generalizing g b with
    | zero => rw [(hb : b = [])]; exact (ph4_step g hell _).2 (Or.inl ht)
    | succ j ih =>
      obtain ⟨_, b', rfl, ⟨f, hf, rfl⟩, hb'⟩ := hb
      refine (ph4_step g hell _).2 (Or.inr ⟨f, b' ++ t, by simp, hf, by omega, ?_⟩)
      exact ih (g := g + 1) (by omega) b' hb' (by omega) (by rw [show g + 1 + j = g + (j + 1) by omega]; exact ht)

theorem quadMayStart_zero (g : Nat) : quadMayStart g 0 = true ↔ g = 6 := by simp [quadMayStart]
theorem quadMayStart_one (g : Nat) : quadMayStart g 1 = true ↔ g ≤ 5 := by simp [quadMayStart]

/-- just after "::" a group may begin as after a group's ':' (while there is room); a third ':' is refused in both states -/
theorem gV_ph2 {g : Nat} (hg : g ≤ 6) (c : Nat) : gV (some ⟨2, g, 1, 0, 0, 0⟩) c = gV (some ⟨4, g, 1, 0, 0, 0⟩) c := by
  by_cases hx : isHex c = true
  · rw [gV_start hx _ _ _ _ _ _ (AtHead.two hg), gV_start hx _ _ _ _ _ _ AtHead.four]
  · by_cases h58 : c = 58
    · subst h58; rfl
    · by_cases h46 : c = 46
      · subst h46; rw [gV_dot_head _ _ _ _ _ _ (by decide) (by decide), gV_dot_head _ _ _ _ _ _ (by decide) (by decide)]
      · rw [gV_other h58 h46 hx, gV_other h58 h46 hx]

theorem afterEll_run {g : Nat} (hg : g ≤ 7) : ∀ r : List Nat, runV (some ⟨2, g, 1, 0, 0, 0⟩) r = true ↔ AfterEll g r
  | [] => ⟨fun _ => Or.inl rfl, fun _ => rfl⟩
  | c :: r => by
    by_cases h6 : g ≤ 6
    · rw [runV_cons, gV_ph2 h6, ← runV_cons, runV_groups (Nat.le_refl 1) _ (Nat.succ_le_succ h6)]
      constructor
      · rintro ⟨j, b, t, e, hb, hj, ht | ht | ⟨h, _⟩⟩
        · exact Or.inr ⟨j, b, t, e, hb, Or.inl ⟨ht.1, by omega⟩⟩
        · exact Or.inr ⟨j, b, t, e, hb, Or.inr ⟨ht.2, (quadMayStart_one _).1 ht.1⟩⟩
        · cases h
      · rintro (h | ⟨j, b, t, e, hb, ⟨ht, hj⟩ | ⟨ht, hj⟩⟩)
        · cases h
        · exact ⟨j, b, t, e, hb, by omega, Or.inl ⟨ht, Or.inl rfl⟩⟩
        · exact ⟨j, b, t, e, hb, by omega, Or.inr (Or.inl ⟨(quadMayStart_one _).2 hj, ht⟩)⟩
    · obtain rfl : g = 7 := by omega
      rw [runV_cons, gV_full, runV_none]
      constructor
      · intro h; cases h
      · rintro (h | ⟨j, _, _, _, _, ⟨_, hj⟩ | ⟨_, hj⟩⟩)
        · cases h
        · omega
        · omega

/-- the RFC 4291 text forms: eight groups; six groups and a dotted quad; or a "::" with at most seven groups around it -/
theorem ipv6_shape (s : List Nat) : ipv6.run s = true ↔
    (∃ a t, s = a ++ t ∧ ((Rep GC 7 a ∧ isHextet t = true) ∨ (Rep GC 6 a ∧ ipv4.run t = true))) ∨
    (∃ i a r, s = a ++ 58 :: r ∧ i ≤ 7 ∧ BeforeEll i a ∧ AfterEll i r) := by
  rw [runV_spec, runV_field (Or.inl rfl)]
  constructor
  · rintro (⟨_, h⟩ | ⟨f, r, rfl, hf, _, hr⟩ | ⟨h, _⟩ | ⟨_, h⟩ | ⟨r, rfl, hr⟩)
    · omega
    · obtain ⟨j, b, t, rfl, hb, hj, ht⟩ := (runV_groups (Nat.zero_le 1) r (g := 1) (by decide)).1 hr
      have hb1 : Rep GC (j + 1) ((f ++ [58]) ++ b) := Rep.cons ⟨f, hf, rfl⟩ hb
      rcases ht with ⟨ht, h7⟩ | ⟨hq, ht⟩ | ⟨_, r', rfl, hr'⟩
      · obtain rfl : j = 6 := by omega
        exact Or.inl ⟨(f ++ [58]) ++ b, t, by simp, Or.inl ⟨hb1, ht⟩⟩
      · obtain rfl : j = 5 := by have := (quadMayStart_zero _).1 hq; omega
        exact Or.inl ⟨(f ++ [58]) ++ b, t, by simp, Or.inr ⟨hb1, ht⟩⟩
      · have hj7 : j + 1 ≤ 7 := by omega
        refine Or.inr ⟨j + 1, (f ++ [58]) ++ b, r', by simp, hj7, by rw [BeforeEll, if_neg (Nat.succ_ne_zero j)]; exact hb1, ?_⟩
        rw [Nat.add_comm] at hr'
        exact (afterEll_run hj7 r').1 hr'
    · cases (quadMayStart_zero 0).1 h
    · cases h
    · rw [gV_colon0] at hr
      cases r with
      | nil => cases hr
      | cons c r =>
        by_cases h58 : c = 58
        · subst h58
          exact Or.inr ⟨0, [58], r, rfl, Nat.zero_le 7, by rw [BeforeEll, if_pos rfl], (afterEll_run (Nat.zero_le 7) r).1 hr⟩
        · rw [runV_cons, gV_ph1 h58, runV_none] at hr; cases hr
  · -- the first group and what follows it, in the shape of `runV_field`'s second case at `g = 0`, `ell = 0` (hence `0 + 1`, `0 = 0`)
    have first : ∀ (i : Nat) (a t : List Nat), Rep GC (i + 1) a → i + 1 ≤ 7 → Tail (i + 1) 0 t →
        ∃ f r, a ++ t = f ++ 58 :: r ∧ isHextet f = true ∧ ((0 = 0 ∧ 0 + 1 ≤ 7) ∨ (0 = 1 ∧ 0 + 1 ≤ 6)) ∧
          runV (some ⟨4, 0 + 1, 0, 0, 0, 0⟩) r = true := by
      rintro i _ t ⟨_, b, rfl, ⟨f, hf, rfl⟩, hb⟩ hi ht
      refine ⟨f, b ++ t, by simp, hf, Or.inl ⟨rfl, by omega⟩, (runV_groups (Nat.zero_le 1) _ (g := 1) (by decide)).2 ⟨i, b, t, rfl, hb, by omega, ?_⟩⟩
      rw [Nat.add_comm]; exact ht
    rintro (⟨a, t, rfl, ⟨ha, ht⟩ | ⟨ha, ht⟩⟩ | ⟨i, a, r, rfl, hi, ha, hr⟩)
    · exact Or.inr (Or.inl (first 6 a t ha (by omega) (Or.inl ⟨ht, Or.inr rfl⟩)))
    · exact Or.inr (Or.inl (first 5 a t ha (by omega) (Or.inr (Or.inl ⟨(quadMayStart_zero 6).2 rfl, ht⟩))))
    · cases i with
      | zero =>
        rw [BeforeEll, if_pos rfl] at ha
        subst ha
        exact Or.inr (Or.inr (Or.inr (Or.inr ⟨58 :: r, rfl, (afterEll_run (Nat.zero_le 7) r).2 hr⟩)))
      | succ i =>
        rw [BeforeEll, if_neg (Nat.succ_ne_zero i)] at ha
        exact Or.inr (Or.inl (first i a _ ha hi (Or.inr (Or.inr ⟨rfl, r, rfl, (afterEll_run hi r).2 hr⟩))))

/-- the hex part of an address that ends in a dotted quad -/
def QuadHex (p : List Nat) : Prop :=
  Rep GC 6 p ∨ ∃ i j a b, p = a ++ 58 :: b ∧ BeforeEll i a ∧ Rep GC j b ∧ i + j ≤ 5

theorem ipv6_run_quad {p q : List Nat} (hp : QuadHex p) (hq : ipv4.run q = true) : ipv6.run (p ++ q) = true := by
  rw [ipv6_shape]
  rcases hp with hp | ⟨i, j, a, b, rfl, ha, hb, hij⟩
  · exact Or.inl ⟨p, q, rfl, Or.inr ⟨hp, hq⟩⟩
  · exact Or.inr ⟨i, a, b ++ q, by simp, by omega, ha, Or.inr ⟨j, b, q, rfl, hb, Or.inr ⟨hq, hij⟩⟩⟩

end Gozod.C20
