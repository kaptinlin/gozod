/-
  C10 — one turn of any pass over the checks. `firstPassG` (Model/ChecksC.lean) is the loop with every variation
  point as a parameter; the regular loop `runFrom` is its instance at a cooked payload (`firstPassG_cooked`), so the
  one-turn equation is stated once, for `firstPassG`, and every induction over a check list goes through it.
-/
import Gozod.Model.ChecksC
namespace Gozod.C10

variable {P O T V : Type}

/-- A guarded check is skipped, its guard unevaluated, once an issue has been reported (`CheckAborted`). -/
def skipped : Check P O → List Nat → Bool
  | .pred _ _ (some _), _ :: _ => true
  | _, _ => false

def aborts : Check P O → Bool
  | .pred _ a _ => a
  | .overwrite _ => false

/-- The check reports an issue in the pass: its guard (if any) holds and, by its class, it reports without being
    evaluated (`issue`), cannot (`vac`), or is evaluated and false (`run`). On a cooked payload this is `checkFails`. -/
def failsG (env : Env P O T V) (rawB : P → RawB) (raw : Bool) : Check P O → V → Bool
  | .overwrite _, _ => false
  | .pred p _ w, x =>
    (match w with | none => true | some w => env.holds w x) &&
      (match effB rawB raw p with | .vac => false | .issue => true | .run => !env.holds p x)

/-- Value and rawness handed to the next check. -/
def stepG (env : Env P O T V) (ow : OwB) (raw : Bool) : Check P O → V → V × Bool
  | .overwrite o, x => if raw && !ow.applies then (x, raw) else (env.apply o x, raw && ow.staysRaw)
  | .pred .., x => (x, raw)

/-- One turn: the check reports (and the pass stops there when it carries abort), or hands on value and
    rawness; whatever it logs, it logs at its own position with the value it was given. -/
theorem firstPassG_turn (env : Env P O T V) (rawB : P → RawB) (ow : OwB) (i : Nat) (c : Check P O)
    (cs : List (Check P O)) (val : V) (raw : Bool) (iss : List Nat) (log : List (Ev V)) :
    ∃ evs, (∀ e ∈ evs, e.val = val ∧ e.pos = i) ∧
      firstPassG env rawB ow i (c :: cs) val raw iss log =
        if skipped c iss = false ∧ failsG env rawB raw c val = true then
          if aborts c then ⟨val, iss ++ [i], log ++ evs⟩
          else firstPassG env rawB ow (i + 1) cs val raw (iss ++ [i]) (log ++ evs)
        else firstPassG env rawB ow (i + 1) cs (stepG env ow raw c val).1 (stepG env ow raw c val).2 iss (log ++ evs) := by
  have h0 : ∀ e ∈ ([] : List (Ev V)), e.val = val ∧ e.pos = i := fun _ h => nomatch h
  have h1 : ∀ e₁ : Ev V, e₁.val = val ∧ e₁.pos = i → ∀ e ∈ [e₁], e.val = val ∧ e.pos = i :=
    fun _ h _ he => List.mem_singleton.mp he ▸ h
  have h2 : ∀ e ∈ [Ev.when i val, .check i val], e.val = val ∧ e.pos = i := by
    intro e he
    simp only [List.mem_cons, List.not_mem_nil, or_false] at he
    rcases he with rfl | rfl <;> exact ⟨rfl, rfl⟩
  cases c with
  | overwrite o =>
    simp only [firstPassG, skipped, failsG, stepG, Bool.false_eq_true, and_false, if_false]
    split
    · exact ⟨[], h0, by rw [List.append_nil]⟩
    · exact ⟨[.over i val], h1 _ ⟨rfl, rfl⟩, rfl⟩
  | pred p a w =>
    cases w with
    | none =>
      simp only [firstPassG, skipped, failsG, stepG, aborts]
      cases effB rawB raw p
      · exact ⟨[], h0, by simp⟩
      · exact ⟨[], h0, by cases a <;> simp⟩
      · cases env.holds p val <;> exact ⟨[.check i val], h1 _ ⟨rfl, rfl⟩, by cases a <;> simp⟩
    | some w =>
      cases iss with
      | cons k iss => exact ⟨[], h0, by simp [firstPassG, skipped, stepG]⟩
      | nil =>
        simp only [firstPassG, skipped, failsG, stepG, aborts]
        cases env.holds w val
        · exact ⟨[.when i val], h1 _ ⟨rfl, rfl⟩, by simp⟩
        · cases effB rawB raw p
          · exact ⟨[.when i val], h1 _ ⟨rfl, rfl⟩, by simp⟩
          · exact ⟨[.when i val], h1 _ ⟨rfl, rfl⟩, by cases a <;> simp⟩
          · cases env.holds p val <;> exact ⟨[.when i val, .check i val], h2, by cases a <;> simp⟩

theorem firstPassG_cooked (env : Env P O T V) (rawB : P → RawB) (ow : OwB) (cs : List (Check P O)) :
    ∀ (i : Nat) (val : V) (iss : List Nat) (log : List (Ev V)),
      firstPassG env rawB ow i cs val false iss log = runFrom env i cs val iss log := by
  induction cs with
  | nil => intros; rfl
  | cons c cs ih =>
    intro i val iss log
    cases c with
    | overwrite o => simp only [firstPassG, runFrom, Bool.false_and, Bool.false_eq_true, if_false, ih]
    | pred p abort w => cases w <;> simp only [firstPassG, runFrom, effB, Bool.false_eq_true, if_false, ih]

theorem failsG_of_run (env : Env P O T V) {rawB : P → RawB} {raw : Bool} (h : ∀ p, effB rawB raw p = .run)
    (c : Check P O) (x : V) : failsG env rawB raw c x = checkFails env c x := by
  cases c with
  | overwrite o => rfl
  | pred p a w => cases w <;> simp [failsG, checkFails, h]

theorem stepG_cooked (env : Env P O T V) (ow : OwB) (c : Check P O) (x : V) :
    stepG env ow false c x = (stepSeen env c x, false) := by
  cases c <;> rfl

theorem runFrom_turn (env : Env P O T V) (i : Nat) (c : Check P O) (cs : List (Check P O)) (val : V)
    (iss : List Nat) (log : List (Ev V)) :
    ∃ evs, (∀ e ∈ evs, e.val = val ∧ e.pos = i) ∧
      runFrom env i (c :: cs) val iss log =
        if skipped c iss = false ∧ checkFails env c val = true then
          if aborts c then ⟨val, iss ++ [i], log ++ evs⟩
          else runFrom env (i + 1) cs val (iss ++ [i]) (log ++ evs)
        else runFrom env (i + 1) cs (stepSeen env c val) iss (log ++ evs) := by
  obtain ⟨evs, hl, e⟩ := firstPassG_turn env (fun _ => RawB.run) .cook i c cs val false iss log
  simp only [firstPassG_cooked, failsG_of_run env (raw := false) (fun _ => rfl), stepG_cooked] at e
  exact ⟨evs, hl, e⟩

theorem skipped_nil (c : Check P O) : skipped c [] = false := by
  cases c with
  | overwrite o => rfl
  | pred p a w => cases w <;> rfl

end Gozod.C10
