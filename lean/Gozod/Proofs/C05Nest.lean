/-
  C05 — paths at any nesting depth, with the member ASKED at each position as part of the structure.

  `c05_from_asked` is the per-container law `c05_from_asked_cfg` for the code of /repo HEAD; everything else follows by
  induction over the fuel of `Cont.parseF`: resolution at any depth (`c05_resolves_nested`), one fault at a location of
  any depth (`c05_fault_nested`, `c05_single_fault_nested`: every path is the location or a prefix of it).
-/
import Gozod.Proofs.C05

namespace Gozod.C05
open Gozod.Cont

set_option linter.unusedVariables false in
/-- `hs` is not used (`c05_from_asked_cfg` files the slice without `slicePrepend` under `FromA.elem`); it stands in the
    statement, and in those of the theorems below, which hand it on, to say which code is meant. -/
theorem c05_from_asked (cfg : Cfg) (env : Env) (n : Node) (v : V)
    (hs : cfg.slicePrepend = true) (hr : cfg.recordKeyPath = true) :
    ∀ i ∈ (run cfg env n v).issues, FromA env n v i :=
  c05_from_asked_cfg cfg env n v (by cases n <;> first | exact hr | trivial)

def hasKeys : V → Bool
  | .map .. => true
  | .strct .. => true
  | .ptr _ (some (.map ..)) => true
  | .ptr _ (some (.strct ..)) => true
  | _ => false

/-- stated with the computable `Cont.step` (see `Reach` in C05.lean). -/
def NoKey (w : V) (k : Nat) : Prop := hasKeys w = true ∧ step w (.key k) = none

theorem IsMap.noKey {v : V} {es : List (V × V)} {k : Nat} (h : IsMap v es) (hk : lookupKey k es = none) :
    NoKey v k := by
  obtain ⟨kt, e, o, rfl | ⟨t, rfl⟩, rfl⟩ := h <;> cases o <;> first | exact ⟨rfl, hk⟩ | exact ⟨rfl, rfl⟩

theorem lookupKey_none_of_not_contains {k : Nat} {es : List (V × V)}
    (h : (es.map (fun e => keyId e.1)).contains k = false) : lookupKey k es = none := by
  induction es with
  | nil => rfl
  | cons e es ih =>
    simp only [List.map_cons, List.contains_cons, Bool.or_eq_false_iff, beq_eq_false_iff_ne, ne_eq] at h
    simp only [lookupKey]
    rw [if_neg (fun hh => h.1 hh.symm)]
    exact ih h.2

theorem ownFault_where {n : Node} {v : V} {s : Seg} (h : OwnFault n v s) :
    (∃ x, Child v s x) ∨ ∃ k, s = .key k ∧ NoKey v k := by
  cases n <;> try (simp only [OwnFault] at h; done)
  case object m shape mode c p cs =>
    simp only [OwnFault] at h
    obtain ⟨es, hx, f, _, rfl, h | ⟨x, hk, _, _⟩⟩ := h
    · exact Or.inr ⟨f.name, rfl, (extractObject_map hx).noKey h.1⟩
    · exact Or.inl ⟨x, (extractObject_map hx).child_lookup hk⟩
  case struct m pc sid shape =>
    simp only [OwnFault] at h
    obtain ⟨fs, hx, f, _, rfl, hk, _⟩ := h
    obtain ⟨s, rfl | ⟨t, rfl⟩⟩ := extractStruct_holds hx <;> exact Or.inr ⟨f.name, rfl, rfl, hk⟩
  case record m ks vm loose part cs =>
    cases ks <;> simp only [OwnFault] at h
    obtain ⟨es, hx, k, _, rfl, _, hc⟩ := h
    exact Or.inr ⟨k, rfl, (extractRecord_map hx).noKey (lookupKey_none_of_not_contains hc)⟩

/-- the issue's path reaches a value of the input — or, for a MISSING-KEY issue only (`invalid_type` whose last
    segment is a key), reaches a keyed container that lacks that key. -/
def RoPk (v : V) (i : Issue) : Prop :=
  (∃ w, Reach v i.path w) ∨
  (i.code = .invalidType ∧ ∃ q k w, i.path = q ++ [.key k] ∧ Reach v q w ∧ NoKey w k)

theorem ropk_root {v : V} {i : Issue} (h : i.path = []) : RoPk v i := Or.inl ⟨v, h ▸ .here v⟩

theorem ropk_cons {v x : V} {s : Seg} {c i : Issue} (hc : Child v s x) (h : RoPk x c)
    (hp : i.path = s :: c.path) (hcode : i.code = c.code) : RoPk v i := by
  rcases h with ⟨w, hw⟩ | ⟨hk, q, k, w, hq, hw, hn⟩
  · exact Or.inl ⟨w, hp ▸ .step hc hw⟩
  · exact Or.inr ⟨hcode ▸ hk, s :: q, k, w, by rw [hp, hq]; rfl, .step hc hw, hn⟩

theorem reach_atom {t : Ty} {a : Nat} {p : List Seg} {w : V} (h : Reach (.atom t a) p w) : p = [] := by
  cases h with
  | here => rfl
  | step hc _ => rcases hc with hc | hc <;> simp [ChildD] at hc

theorem ropk_atom {t : Ty} {a : Nat} {c : Issue} (h : RoPk (.atom t a) c) : c.path = [] := by
  rcases h with ⟨w, hw⟩ | ⟨_, q, k, w, hq, hw, hn⟩
  · exact reach_atom hw
  · have := reach_atom hw; subst this
    cases hw
    simp [NoKey, hasKeys] at hn

/-- resolution, one level, hypotheses about the members ASKED only. -/
theorem c05_resolves_level (cfg : Cfg) (env : Env) (n : Node) (v : V)
    (hs : cfg.slicePrepend = true) (hr : cfg.recordKeyPath = true)
    (hset : SetOnMap n v)
    (hatom : ∀ k m, AskedKey n v k m → ∃ t a, k = .atom t a)
    (hm : ∀ s m x c, Asked n v s m x → c ∈ errs env m x → RoPk x c)
    (hk : ∀ k m c, AskedKey n v k m → c ∈ errs env m k → RoPk k c)
    (hsame : ∀ m c, AskedSame n v m → c ∈ errs env m v → RoPk v c) :
    ∀ i ∈ (run cfg env n v).issues, RoPk v i := by
  intro i hi
  cases c05_from_asked cfg env n v hs hr i hi with
  | root h => exact ropk_root h
  | elem s m x ha _ hp => exact Or.inl ⟨x, hp ▸ .step (asked_child ha) (.here x)⟩
  | own s ho hp hcode =>
    rcases ownFault_where ho with ⟨x, hx⟩ | ⟨k, rfl, hn⟩
    · exact Or.inl ⟨x, hp ▸ .step hx (.here x)⟩
    · exact Or.inr ⟨hcode, [], k, v, hp, .here v, hn⟩
  | child s m x c ha hc hp hcode => exact ropk_cons (asked_child ha) (hm s m x c ha hc) hp hcode
  | keyed k m c ha hc hp _ =>
    obtain ⟨t, a, rfl⟩ := hatom k m ha
    have hnil := ropk_atom (hk _ m c ha hc)
    obtain ⟨u, hu⟩ := askedKey_child hset ha
    rw [hnil] at hp
    exact Or.inl ⟨u, hp ▸ .step hu (.here u)⟩
  | same m c ha hc hp hcode =>
    rcases hsame m c ha hc with ⟨w, hw⟩ | ⟨hk', q, k, w, hq, hw, hn⟩
    · exact Or.inl ⟨w, hp ▸ hw⟩
    · exact Or.inr ⟨hcode ▸ hk', q, k, w, hp ▸ hq, hw, hn⟩

section nested
variable (cfg : Cfg) (defs : Mid → Def) (env : Env) (resv : Mid → V → V)

/-- (used by nothing; its siblings are in C05.lean.) -/
theorem errs_parseF_zero (id : Mid) (v : V) : errs (parseF cfg defs env resv 0) id v = errs env id v := rfl

/-- the side conditions of resolution along everything the nested parse visits: no Set schema is asked about a slice,
    the keys a key schema is asked about are atoms (Go map keys of the generated inputs: strings, ints). -/
def VisitOK : Nat → Mid → V → Prop
  | 0, _, _ => True
  | k + 1, id, v =>
    match defs id with
    | .leaf => True
    | .node nd =>
      SetOnMap nd v ∧
      (∀ kk m, AskedKey nd v kk m → (∃ t a, kk = .atom t a) ∧ VisitOK k m kk) ∧
      (∀ s m x, Asked nd v s m x → VisitOK k m x) ∧
      (∀ m, AskedSame nd v m → VisitOK k m v)

/-- C05, resolution at any nesting depth: only the LEAVES are assumed to report paths that resolve in what they were
    asked about. -/
theorem c05_resolves_nested (hs : cfg.slicePrepend = true) (hr : cfg.recordKeyPath = true)
    (hleaf : ∀ m x c, c ∈ errs env m x → RoPk x c) :
    ∀ (k : Nat) (id : Mid) (v : V), VisitOK defs k id v →
      ∀ c ∈ errs (parseF cfg defs env resv k) id v, RoPk v c := by
  refine parseF_induction cfg defs env resv (fun _ id v e _ => e ▸ hleaf id v) fun k id v nd hd e ih hv => ?_
  rw [e]
  simp only [VisitOK, hd] at hv
  obtain ⟨h1, h2, h3, h4⟩ := hv
  exact c05_resolves_level cfg (parseF cfg defs env resv k) nd v hs hr h1
    (fun kk m ha => (h2 kk m ha).1)
    (fun s m x c' ha hc' => ih m x (h3 s m x ha) c' hc')
    (fun kk m c' ha hc' => ih m kk (h2 kk m ha).2 c' hc')
    (fun m c' ha hc' => ih m v (h4 m ha) c' hc')

/-- "nothing but the location `L` is at fault" in the nested parse of `id` on `v`: at every container on the way, every
    member asked at ANOTHER segment accepts what it is asked, no other own key is missing or explicitly nil, and the
    member asked at the next segment of `L` satisfies the same below.  `At` is what is known at the location itself. -/
def OffFault (At : Nat → Mid → V → Prop) : Nat → Mid → V → List Seg → Prop
  | 0, id, v, L =>
    (match L with
     | [] => At 0 id v
     | _ :: _ => True)
  | k + 1, id, v, L =>
    (match L with
     | [] => At (k + 1) id v
     | s₀ :: L' =>
       match defs id with
       | .leaf => True
       | .node nd =>
         (∀ s m x, Asked nd v s m x → s ≠ s₀ → errs (parseF cfg defs env resv k) m x = []) ∧
         (∀ kk m, AskedKey nd v kk m → kk.seg ≠ s₀ → errs (parseF cfg defs env resv k) m kk = []) ∧
         (∀ s, OwnFault nd v s → s = s₀) ∧
         (∀ m x, Asked nd v s₀ m x → OffFault At k m x L') ∧
         (∀ kk m, AskedKey nd v kk m → kk.seg = s₀ → OffFault At k m kk L') ∧
         (∀ m, AskedSame nd v m → OffFault At k m v (s₀ :: L')))

def Near (At : Nat → Mid → V → Prop) (L p : List Seg) : Prop :=
  p <+: L ∨ ∃ k id x c, At k id x ∧ c ∈ errs (parseF cfg defs env resv k) id x ∧ p = L ++ c.path

theorem near_cons {At : Nat → Mid → V → Prop} {L p : List Seg} (s : Seg) (h : Near cfg defs env resv At L p) :
    Near cfg defs env resv At (s :: L) (s :: p) := by
  rcases h with h | ⟨k, id, x, c, ha, hc, rfl⟩
  · exact Or.inl (List.prefix_cons_inj s |>.2 h)
  · exact Or.inr ⟨k, id, x, c, ha, hc, rfl⟩

/-- C05, one fault at a location `L` of any depth (`hleaf`: leaves report at their own root, i.e. are primitives): every
    path reported is `L`, a prefix of it, or `L` followed by a path the schema asked AT `L` reports there (`Near`). -/
theorem c05_fault_nested (At : Nat → Mid → V → Prop) (hs : cfg.slicePrepend = true) (hr : cfg.recordKeyPath = true)
    (hleaf : ∀ m x c, c ∈ errs env m x → c.path = []) :
    ∀ (k : Nat) (id : Mid) (v : V) (L : List Seg), OffFault cfg defs env resv At k id v L →
      ∀ i ∈ errs (parseF cfg defs env resv k) id v, Near cfg defs env resv At L i.path := by
  -- at the location itself (`L = []`) the schema asked there is the witness, whatever it is
  have here : ∀ k id v, OffFault cfg defs env resv At k id v [] → ∀ i ∈ errs (parseF cfg defs env resv k) id v,
      Near cfg defs env resv At [] i.path :=
    fun k id v h i hi => Or.inr ⟨k, id, v, i, by cases k <;> exact h, hi, rfl⟩
  refine fun k id v L => parseF_induction cfg defs env resv
    (P := fun k id v => ∀ L, OffFault cfg defs env resv At k id v L →
      ∀ i ∈ errs (parseF cfg defs env resv k) id v, Near cfg defs env resv At L i.path)
    (fun k id v e L h i hi => ?_) (fun k id v nd hd e ih L h i hi => ?_) k id v L
  · cases L with
    | nil => exact here k id v h i hi
    | cons s L => exact Or.inl (by rw [hleaf id v i (e ▸ hi)]; exact List.nil_prefix)
  · cases L with
    | nil => exact here (k + 1) id v h i hi
    | cons s₀ L' =>
      rw [e] at hi
      simp only [OffFault, hd] at h
      obtain ⟨h1, h2, h3, h4, h5, h6⟩ := h
      have one : ([s₀] : List Seg) <+: s₀ :: L' := ⟨L', rfl⟩
      cases c05_from_asked cfg (parseF cfg defs env resv k) nd v hs hr i hi with
      | root hp => exact Or.inl (by rw [hp]; exact List.nil_prefix)
      | elem s m x ha hne hp =>
        by_cases hss : s = s₀
        · subst hss; exact Or.inl (by rw [hp]; exact one)
        · exact absurd (h1 s m x ha hss) hne
      | own s ho hp _ =>
        have := h3 s ho; subst this
        exact Or.inl (by rw [hp]; exact one)
      | child s m x c ha hc hp _ =>
        by_cases hss : s = s₀
        · subst hss
          rw [hp]; exact near_cons cfg defs env resv s (ih m x L' (h4 m x ha) c hc)
        · rw [h1 s m x ha hss] at hc; cases hc
      | keyed kk m c ha hc hp _ =>
        by_cases hss : kk.seg = s₀
        · rw [hp, hss]; exact near_cons cfg defs env resv s₀ (ih m kk L' (h5 kk m ha hss) c hc)
        · rw [h2 kk m ha hss] at hc; cases hc
      | same m c ha hc hp _ =>
        rw [hp]; exact ih m v (s₀ :: L') (h6 m ha) c hc

/-- the clause's reading of the fault: the schema asked at the location rejects the value planted there AS A WHOLE. -/
def RootOnly : Nat → Mid → V → Prop :=
  fun k id x => ∀ c ∈ errs (parseF cfg defs env resv k) id x, c.path = []

/-- C05, single fault (the clause): only the location `L` is at fault, the value there being rejected as a whole by the
    schema asked there: EVERY reported path is `L` or a prefix of `L`. -/
theorem c05_single_fault_nested (hs : cfg.slicePrepend = true) (hr : cfg.recordKeyPath = true)
    (hleaf : ∀ m x c, c ∈ errs env m x → c.path = [])
    (k : Nat) (id : Mid) (v : V) (L : List Seg)
    (h : OffFault cfg defs env resv (RootOnly cfg defs env resv) k id v L) :
    ∀ i ∈ errs (parseF cfg defs env resv k) id v, i.path <+: L := by
  intro i hi
  rcases c05_fault_nested cfg defs env resv _ hs hr hleaf k id v L h i hi with h | ⟨k', id', x, c, ha, hc, hp⟩
  · exact h
  · rw [hp, ha c hc, List.append_nil]; exact List.prefix_refl L

end nested

/-! The hypotheses are inhabited: a HETEROGENEOUS object `{a: String(), b: Int()}` and a corrupted input. -/

/-- leaves: schema 1 = a string schema, schema 2 = an int schema, both reporting `invalid_type` at their own root. -/
def exEnv : Env := fun m x =>
  match m, x with
  | 1, .atom .str _ => .ok x
  | 2, .atom .int _ => .ok x
  | _, _ => .err (mk .invalidType []) []

/-- schema 0 = `Object{a: String(), b: Int()}` (field names interned: a = 1, b = 2); schema 5 = `Object{p: <schema 0>}` (p = 3). -/
def exDefs : Mid → Def := fun id =>
  if id = 0 then .node (.object {} [{ name := 1, m := 1 }, { name := 2, m := 2 }] .strip none {} [])
  else if id = 5 then .node (.object {} [{ name := 3, m := 0 }] .strip none {} [])
  else .leaf

/-- `{a: "x", b: "oops"}`: the valid `{a: "x", b: 7}` corrupted at `b`. -/
def exInput : V := .map .str .any (some [(.atom .str 1, .atom .str 10), (.atom .str 2, .atom .str 11)])

theorem exEnv_root (m : Mid) (x : V) (c : Issue) (hc : c ∈ errs exEnv m x) : c.path = [] := by
  have h : exEnv m x = .ok x ∨ exEnv m x = .err (mk .invalidType []) [] := by
    unfold exEnv; split <;> simp
  unfold errs at hc
  rcases h with h | h <;> rw [h] at hc
  · cases hc
  · simp only [List.mem_singleton] at hc; subst hc; rfl

/-- `OffFault` at a plain object (strip mode, no catch-all), read off the shape. -/
theorem offFault_object {cfg : Cfg} {defs : Mid → Def} {env : Env} {resv : Mid → V → V} {At : Nat → Mid → V → Prop}
    {k : Nat} {id : Mid} {m : Mods} {shape : List Field} {p : Partial} {cs : List SizeCk} {es : List (V × V)}
    {k₀ : Nat} {L' : List Seg} (hd : defs id = .node (.object m shape .strip none p cs))
    (hother : ∀ f ∈ shape, f.name ≠ k₀ → ∃ x, lookupKey f.name es = some x ∧ (x.isNil && f.exactOptional) = false ∧
      errs (parseF cfg defs env resv k) f.m x = [])
    (hat : ∀ f ∈ shape, f.name = k₀ → ∀ x, lookupKey f.name es = some x → OffFault cfg defs env resv At k f.m x L') :
    OffFault cfg defs env resv At (k + 1) id (.map .str .any (some es)) (.key k₀ :: L') := by
  simp only [OffFault, hd]
  refine ⟨?_, fun kk mm h => by simp [AskedKey] at h, ?_, ?_, fun kk mm h => by simp [AskedKey] at h,
    fun mm h => by simp [AskedSame] at h⟩
  · rintro s mm x ⟨es', he, ⟨f, hf, hk, rfl, rfl⟩ | ⟨_, _, _, _, hn, _⟩⟩ hs
    · cases he
      obtain ⟨x', hx', _, hacc⟩ := hother f hf fun h => hs (h ▸ rfl)
      cases hk.symm.trans hx'; exact hacc
    · cases hn
  · rintro s ⟨es', he, f, hf, rfl, h⟩
    cases he
    refine congrArg Seg.key (Decidable.byContradiction fun hne => ?_)
    obtain ⟨x', hx', hnil, _⟩ := hother f hf hne
    rcases h with ⟨h, _⟩ | ⟨x, hx, h1, h2⟩
    · rw [hx'] at h; cases h
    · cases hx.symm.trans hx'; simp [h1, h2] at hnil
  · rintro mm x ⟨es', he, ⟨f, hf, hk, hs, rfl⟩ | ⟨_, _, _, _, hn, _⟩⟩
    · cases he; exact hat f hf (Seg.key.inj hs).symm x hk
    · cases hn

theorem exOff : OffFault {} exDefs exEnv (fun _ v => v) (RootOnly {} exDefs exEnv (fun _ v => v)) 1 0 exInput [.key 2] := by
  refine offFault_object (m := {}) (shape := [{ name := 1, m := 1 }, { name := 2, m := 2 }]) (p := {}) (cs := []) rfl ?_ ?_
  · simp only [List.mem_cons, List.not_mem_nil, or_false, forall_eq_or_imp, forall_eq]
    exact ⟨fun _ => ⟨_, rfl, rfl, rfl⟩, fun h => absurd rfl h⟩
  · simp only [List.mem_cons, List.not_mem_nil, or_false, forall_eq_or_imp, forall_eq]
    refine ⟨fun h => absurd h (by decide), fun _ x _ c hc => exEnv_root _ _ c hc⟩

example : ∀ i ∈ errs (parseF {} exDefs exEnv (fun _ v => v) 1) 0 exInput, i.path <+: [.key 2] :=
  c05_single_fault_nested {} exDefs exEnv (fun _ v => v) rfl rfl
    exEnv_root 1 0 exInput [.key 2] exOff

example : (errs (parseF {} exDefs exEnv (fun _ v => v) 1) 0 exInput).map (·.path) = [[.key 2]] := by decide


/-- two levels: `{p: {a: "x", b: "oops"}}` under `Object{p: Object{a: String(), b: Int()}}`, the fault at `[p, b]`. -/
def exInput2 : V := .map .str .any (some [(.atom .str 3, exInput)])

theorem exOff2 : OffFault {} exDefs exEnv (fun _ v => v) (RootOnly {} exDefs exEnv (fun _ v => v)) 2 5 exInput2
    [.key 3, .key 2] := by
  refine offFault_object (m := {}) (shape := [{ name := 3, m := 0 }]) (p := {}) (cs := []) rfl ?_ ?_
  · simp only [List.mem_cons, List.not_mem_nil, or_false, forall_eq]
    exact fun h => absurd rfl h
  · simp only [List.mem_cons, List.not_mem_nil, or_false, forall_eq]
    intro _ x hx
    cases Option.some.inj hx
    exact exOff

example : ∀ i ∈ errs (parseF {} exDefs exEnv (fun _ v => v) 2) 5 exInput2, i.path <+: [.key 3, .key 2] :=
  c05_single_fault_nested {} exDefs exEnv (fun _ v => v) rfl rfl exEnv_root 2 5 exInput2 [.key 3, .key 2] exOff2

example : (errs (parseF {} exDefs exEnv (fun _ v => v) 2) 5 exInput2).map (·.path) = [[.key 3, .key 2]] := by decide

example : ∀ c ∈ errs (parseF {} exDefs exEnv (fun _ v => v) 1) 0 exInput, RoPk exInput c :=
  c05_resolves_nested {} exDefs exEnv (fun _ v => v) rfl rfl
    (fun m x c hc => ropk_root (exEnv_root m x c hc)) 1 0 exInput
    (by simp only [VisitOK, exDefs, ↓reduceIte]
        exact ⟨trivial, fun kk m h => by simp [AskedKey] at h, fun _ _ _ _ => trivial, fun m h => by simp [AskedSame] at h⟩)

/-- Witness for the exclusion `SetOnMap`: `Set[string](String().Min(3)).Parse([]string{"ab"})` — a Set given a SLICE —
    files the element's issue under the element's VALUE (`["ab"]`): the path does not resolve, and the issue is no
    missing-key issue. Stated with `Cont.resolve`; in the terms of the theorems: `Child (.slice ..) (.key k) x` is `False` by
    definition, so no `Reach` along `[.key 5]` either. -/
theorem c05_set_on_slice_false :
    let r := run {} (fun _ _ => .err (mk .tooSmall []) []) (.set {} .str 0 []) (.slice .str (some [.atom .str 5]))
    r.issues.map (fun i => (i.path, i.code)) = [([.key 5], .tooSmall)]
      ∧ resolve (.slice .str (some [.atom .str 5])) [.key 5] = none := by decide

/-- the missing-key escape is real and restricted: `Object{a: String()}.Parse({})` reports `invalid_type` at `[a]`, a key
    the input lacks (`NoKey`); the same path on an issue of any other code would not satisfy `RoPk`. -/
example : RoPk (.map .str .any (some [])) (mk .invalidType [.key 1]) :=
  Or.inr ⟨rfl, [], 1, _, rfl, .here _, rfl, rfl⟩

example : ¬ RoPk (.map .str .any (some [])) (mk .tooSmall [.key 1]) := by
  rintro (⟨w, hw⟩ | ⟨hc, _⟩)
  · cases hw with
    | step hc _ => rcases hc with hc | hc <;> simp [ChildD] at hc
  · cases hc

end Gozod.C05
