/-
  C18 — multi-issue checks: the message of EVERY issue a check reported is the first non-empty answer FOR THAT ISSUE.
-/
import Gozod.Model.MsgMulti
import Gozod.Proofs.C18
namespace Gozod.C18
open Gozod.Msg

/-- For any number of issues, any chain of positions, arbitrary message functions (the check's own included), with the
    sources of the raiser's listed gap unconfigured: per issue, the first non-empty answer of check, schema, per-parse,
    custom, locale, else built-in -/
theorem multi_per_issue {ρ : Type} (drops : SrcSet) (chain : List String) (fs : FnSources ρ) (issues : List ρ)
    (h : ∀ iss ∈ issues, fs.dflt iss ≠ "")
    (hc : drops.check = true → fs.check = none) (hs : drops.schema = true → fs.inst = none)
    (hp : drops.parse = true → fs.parse = none) (hg : drops.custom = true → fs.custom = none)
    (hl : drops.locale = true → fs.locale = none) :
    multiMessages drops chain fs issues = multiSpec fs issues := by
  apply List.map_congr_left
  intro iss hi
  exact expected_message_unconfigured chain iss (h iss hi) ⟨fun hd => congrArg (app · iss) (hc hd), hs, hp, hg, hl⟩

/-- the `multi` cells of the run are instances: `depSources` (what the driver hands to `expectedMessage`) is `depFnSources … .at` -/
theorem dep_fn_sources_at (spec : List Char) (f : RawFeat) : (depFnSources spec).at f = depSources spec f := rfl

theorem multi_spec_dep (spec : List Char) (fs : List RawFeat) :
    multiSpec (depFnSources spec) fs = fs.map (specDep spec) := by
  unfold multiSpec
  apply List.map_congr_left
  intro f _
  simp only [depFnSources, specDep, app_depMap]

-- a check message that answers for too_small only, a global map that answers always
example : multiMessages SrcSet.empty ["object-field"] (depFnSources ['Z', '-', '-', 'K', '-'])
    [⟨"too_small", true, true⟩, ⟨"invalid_format", true, false⟩] = ["c", "g"] := by decide

/-- What the seeded patch C18e makes the library do: resolving the check message once, from the first issue,
    gives the second issue the check's text although the check's function declines it -/
theorem stamped_first_breaks_multi :
    multiMessagesStamped SrcSet.empty [] (depFnSources ['Z', '-', '-', 'K', '-'])
        [⟨"too_small", true, true⟩, ⟨"invalid_format", true, false⟩] = ["c", "c"] ∧
    multiSpec (depFnSources ['Z', '-', '-', 'K', '-'])
        [⟨"too_small", true, true⟩, ⟨"invalid_format", true, false⟩] = ["c", "g"] := by decide

end Gozod.C18
