/-
  C20 — `regex.IPv6` / `regex.CIDRv6` on all strings without a zone outside the excluded region, and the corollaries.

  `Fmt.ipv6QuadDefect` (Model/FormatSpecV6E.lean) is the excluded region: addresses with the outline of an RFC 4291 dotted-quad
  form that have an octet with a leading zero, or whose hex part is not one of the four outlines the pattern knows.  The two
  dotted-quad defect classes of `c20_ipv6_witnesses` lie in it (`c20_ipv6_defects_excluded`); the third class, the zone, is
  excluded by the hypothesis "no '%'".

  `c20_ipv6_pattern_nozone`: the definition accepts the strings of `ipv6_shape`, the nine alternatives without a dotted quad
  accept the same shapes (`pat_hex`), the two with one accept a known hex part and four octet patterns, which outside the excluded
  region is an address and conversely, and the zone alternative needs a '%'.  CIDRv6 follows because the
  excluded region of CIDRv6 contains the excluded addresses followed by a prefix length (`quadDefect_slash`).
-/
import Gozod.Proofs.C20V6Quad
import Gozod.Proofs.C20Cidr
namespace Gozod.C20
open Gozod Gozod.Re Gozod.Fmt

/-- the zone alternative `fe80:(:[0-9a-fA-F]{0,4}){0,4}%[0-9a-zA-Z]{1,}` needs a '%' -/
theorem pat_s49 {s : List Nat} (h : accepts Gen.ipv6.s49 s = true) : 37 ∈ s := by
  rw [show accepts Gen.ipv6.s49 s = _ from accepts_seqs_append
    [.cls [(102, 102)], .cls [(101, 101)], .cls [(56, 56)], .cls [(48, 48)], colon, Gen.ipv6.s48] _ (List.cons_ne_nil _ _) s] at h
  obtain ⟨a, r, rfl, _, _⟩ := (accepts_seq_byte _ _ 37 s).1 h
  exact List.mem_append_right a List.mem_cons_self

/-- on every string without '%' and outside the dotted-quad defect region, `regex.IPv6` accepts exactly the RFC 4291 addresses:
    alternative by alternative against the shapes of `ipv6_shape` -/
theorem c20_ipv6_pattern_nozone :
    ∀ s, avoids [37] s = true → ipv6QuadDefect.run s = false → accepts Gen.pat_ipv6 s = ipv6.run s := fun s hs he => by
  rw [Bool.eq_iff_iff]
  simp only [Gen.pat_ipv6, Gen.ipv6.s63, altsOf, accepts_alt]
  rw [pat_hex, ipv6_shape]
  constructor
  · rintro ((⟨a, t, e, h⟩ | ⟨i, a, r, e, hi, ha, hr⟩) | h | h)
    · exact Or.inl ⟨a, t, e, Or.inl h⟩
    · refine Or.inr ⟨i, a, r, e, hi, ha, hr.imp_right ?_⟩
      rintro ⟨j, b, t, e, hb, ht, h6⟩
      exact ⟨j, b, t, e, hb, Or.inl ⟨ht, h6⟩⟩
    · cases (avoids_iff.1 hs 37 (pat_s49 h))
    · exact (ipv6_shape s).1 (quad_pattern_sound h he)
  · rintro (⟨a, t, rfl, h | ⟨ha, ht⟩⟩ | ⟨i, a, r, rfl, hi, ha, rfl | ⟨j, b, t, rfl, hb, ⟨ht, h6⟩ | ⟨ht, h5⟩⟩⟩)
    · exact Or.inl (Or.inl ⟨a, t, rfl, h⟩)
    · exact Or.inr (Or.inr (quad_pattern_complete (Or.inl ha) ht he))
    · exact Or.inl (Or.inr ⟨i, a, [], rfl, hi, ha, Or.inl rfl⟩)
    · exact Or.inl (Or.inr ⟨i, a, _, rfl, hi, ha, Or.inr ⟨j, b, t, rfl, hb, ht, h6⟩⟩)
    · have e : a ++ 58 :: (b ++ t) = (a ++ 58 :: b) ++ t := by simp
      rw [e] at he ⊢
      exact Or.inr (Or.inr (quad_pattern_complete (Or.inr ⟨i, j, a, b, rfl, ha, hb, h5⟩) ht he))

/-- on an address the two excluded regions run alike.  The relation along the runs is not equality: a '/' is foreign to the address
    region and a step of the CIDR one, so once the first has refused nothing is said of the second (`o = none ∨ o' = o`). -/
theorem quadDefect_addr (a : List Nat) (q : V6ESt) (h : a.foldl ipv6QuadDefect.gstep (some V6ESt.init) = some q) :
    a.foldl cidrv6QuadDefect.gstep (some V6ESt.init) = some q := by
  have hstep : ∀ c : Nat, c ∈ a → ∀ o o' : Option V6ESt, (o = none ∨ o' = o) →
      (ipv6QuadDefect.gstep o c = none ∨ cidrv6QuadDefect.gstep o' c = ipv6QuadDefect.gstep o c) := by
    intro c _ o o' h
    rcases h with rfl | rfl
    · exact Or.inl rfl
    · cases o' with
      | none => exact Or.inl rfl
      | some q =>
        show (if ipv6Support.elem c then quadDefectStep false q c else none) = none ∨
          (if (47 :: ipv6Support).elem c then quadDefectStep true q c else none) = (if ipv6Support.elem c then quadDefectStep false q c else none)
        by_cases hc : ipv6Support.elem c = true
        · have h47 : c ≠ 47 := by rintro rfl; revert hc; decide
          have hc' : (47 :: ipv6Support).elem c = true := by simp only [List.elem, hc]; split <;> rfl
          rw [if_pos hc, if_pos hc']
          right; simp only [quadDefectStep, if_neg h47]
        · rw [if_neg hc]; exact Or.inl rfl
  have := List.foldl_rel (l := a) (f := ipv6QuadDefect.gstep) (g := cidrv6QuadDefect.gstep) (a := some V6ESt.init) (b := some V6ESt.init)
    (r := fun o o' => o = none ∨ o' = o) (Or.inr rfl) hstep
  rw [h] at this
  exact this.resolve_left (fun e => nomatch e)

theorem quadDefect_digits : ∀ (b : List Nat) (q : V6ESt), q.ph = 6 → b.all isDigit = true → q.n + b.length ≤ 3 →
    ∃ q', b.foldl cidrv6QuadDefect.gstep (some q) = some q' ∧ q'.ph = 6 ∧ q'.n = q.n + b.length ∧ q'.lz = q.lz
  | [], q, h6, _, _ => ⟨q, rfl, h6, rfl, rfl⟩
  | c :: b, q, h6, hall, hlen => by
    simp only [List.all_cons, Bool.and_eq_true] at hall
    simp only [List.length_cons] at hlen
    have hc : (47 :: ipv6Support).elem c = true := by
      simp only [ipv6Support, elem_cons_iff, hexDigits_elem, isHex_of_isDigit hall.1, or_true]
    have hstep : cidrv6QuadDefect.gstep (some q) c = some { q with n := q.n + 1 } := by
      show (if (47 :: ipv6Support).elem c then quadDefectStep true q c else none) = _
      rw [if_pos hc]
      simp only [quadDefectStep, if_pos h6]
      exact if_pos ⟨hall.1, by omega⟩
    obtain ⟨q', hq', h6', hn', hlz'⟩ := quadDefect_digits b { q with n := q.n + 1 } h6 hall.2 (by simp only; omega)
    exact ⟨q', by rw [List.foldl_cons, hstep, hq'], h6', by rw [hn']; simp only [List.length_cons]; omega, hlz'⟩

theorem quadDefect_slash {a b : List Nat} (ha : ipv6QuadDefect.run a = true) (hb : b.all isDigit = true)
    (h1 : 1 ≤ b.length) (h3 : b.length ≤ 3) : cidrv6QuadDefect.run (a ++ 47 :: b) = true := by
  obtain ⟨q, hr, hacc⟩ := ipv6QuadDefect.run_state ha
  replace hacc : (decide (q.ph = 5) && decide (q.k = 3) && decide (q.n ≥ 1) && q.lz) = true := hacc
  simp only [Bool.and_eq_true, decide_eq_true_eq] at hacc
  obtain ⟨⟨⟨h5, hk⟩, hn⟩, hlz⟩ := hacc
  have hslash : cidrv6QuadDefect.gstep (some q) 47 = some { q with ph := 6, n := 0 } := by
    show (if (47 :: ipv6Support).elem 47 then quadDefectStep true q 47 else none) = _
    rw [if_pos (by decide)]
    simp [quadDefectStep, h5, hk, hn]
    rfl
  obtain ⟨q', hq', h6', hn', hlz'⟩ := quadDefect_digits b { q with ph := 6, n := 0 } rfl hb (by simp only; omega)
  have hrun : (a ++ 47 :: b).foldl cidrv6QuadDefect.gstep (some V6ESt.init) = some q' := by
    rw [List.foldl_append, quadDefect_addr a q hr]
    exact (congrArg (fun o => b.foldl cidrv6QuadDefect.gstep o) hslash).trans hq'
  show cidrv6QuadDefect.accO ((a ++ 47 :: b).foldl cidrv6QuadDefect.gstep (some V6ESt.init)) = true
  rw [hrun]
  show (decide (q'.ph = 6) && decide (q'.n ≥ 1) && q'.lz) = true
  simp only at hn' hlz'
  rw [h6', hlz', hlz, hn']
  simp only [decide_true, Bool.true_and, Bool.and_true, decide_eq_true_eq]
  omega

/-- `regex.CIDRv6` is `regex.IPv6`, '/', the prefix length: the two generated terms unfold to one expression.  (Should the two Go
    patterns come apart, this is the line that fails.) -/
theorem cidrv6_addr_part : Gen.pat_cidrv6 = seq Gen.pat_ipv6 (seq (.cls [(47, 47)]) Gen.cidrv6.s66) := rfl

/-- the same for `regex.CIDRv6`, from `c20_ipv6_pattern_nozone` on the address -/
theorem c20_cidrv6_pattern_nozone :
    ∀ s, avoids [37] s = true → cidrv6QuadDefect.run s = false → accepts Gen.pat_cidrv6 s = cidrv6.run s := fun s hs he =>
  cidrv6_addr_part ▸ cidr_of_addr Gen.pat_ipv6 Gen.cidrv6.s66 cidrv6 ipv6 128 cidrv6_split prefix128 s fun a b hc hb => by
    obtain rfl := cutLast_some hc
    have hb' := prefixBits_short (max := 128) (by decide) hb
    refine c20_ipv6_pattern_nozone a (avoids_iff.2 fun c hc => avoids_iff.1 hs c (List.mem_append_left _ hc)) ?_
    cases hd : ipv6QuadDefect.run a with
    | false => rfl
    | true => rw [quadDefect_slash hd hb'.1 hb'.2.1 hb'.2.2] at he; cases he

/-- the excluded region contains only strings with a '.': its automaton enters the dotted-quad phase on a '.' only -/
theorem quadDefectStep_ph (pl : Bool) {q q' : V6ESt} {c : Nat} (hq : q.ph ≠ 5 ∧ q.ph ≠ 6) (hc : c ≠ 46)
    (h : quadDefectStep pl q c = some q') : q'.ph ≠ 5 ∧ q'.ph ≠ 6 := by
  have ph : ∀ {q' : V6ESt} (k : Nat), q'.ph = k → k ≠ 5 ∧ k ≠ 6 → AllSome (fun q' : V6ESt => q'.ph ≠ 5 ∧ q'.ph ≠ 6) (some q') :=
    fun _ e h => .some (e ▸ h)
  refine (?_ : AllSome (fun q' : V6ESt => q'.ph ≠ 5 ∧ q'.ph ≠ 6) (quadDefectStep pl q c)) q' h
  simp only [quadDefectStep, if_neg hq.2, if_neg hq.1, if_neg hc, V6ESt.startGroup]
  -- '/' is taken in the dotted-quad phase only; ':' and a hex digit lead to the phases 1 to 4
  refine .ite (fun _ => .ite (fun h => absurd h.2.1 hq.1) .none) (.ite (fun _ => ?_) (.ite (fun _ => ?_) .none))
  · exact .ite (fun _ => ph 1 rfl (by decide)) (.ite (fun _ => ph 2 rfl (by decide))
      (.ite (fun _ => .ite (fun _ => ph 4 rfl (by decide)) .none) (.ite (fun _ => .ite (fun _ => ph 2 rfl (by decide)) .none) .none)))
  · exact .ite (fun _ => ph 3 rfl (by decide)) (.ite (fun _ => .ite (fun _ => ph 3 rfl (by decide)) .none)
      (.ite (fun _ => .ite (fun _ => .some hq) .none) .none))

theorem ipv6QuadDefect_nodot : ∀ s, avoids [46] s = true → ipv6QuadDefect.run s = false := fun s hs =>
  run_false_of_inv ipv6QuadDefect (fun q => q.ph ≠ 5 ∧ q.ph ≠ 6) (fun c => c ≠ 46) (by decide)
    (fun _ _ _ hc hq h => quadDefectStep_ph false hq hc h)
    (fun q hq => by show (decide (q.ph = 5) && decide (q.k = 3) && decide (q.n ≥ 1) && q.lz) = false; simp [hq.1])
    s fun c hc h46 => by subst h46; cases avoids_iff.1 hs 46 hc

theorem cidrv6QuadDefect_nodot : ∀ s, avoids [46] s = true → cidrv6QuadDefect.run s = false := fun s hs =>
  run_false_of_inv cidrv6QuadDefect (fun q => q.ph ≠ 5 ∧ q.ph ≠ 6) (fun c => c ≠ 46) (by decide)
    (fun _ _ _ hc hq h => quadDefectStep_ph true hq hc h)
    (fun q hq => by show (decide (q.ph = 6) && decide (q.n ≥ 1) && q.lz) = false; simp [hq.2])
    s fun c hc h46 => by subst h46; cases avoids_iff.1 hs 46 hc

/-- on every string without '.' and '%' the exported patterns accept exactly the RFC 4291 addresses / prefixes
    (corollaries: the excluded region contains only strings with a '.') -/
theorem c20_ipv6_pattern_partial : ∀ s, avoids [46, 37] s = true → accepts Gen.pat_ipv6 s = ipv6.run s := fun s hs =>
  c20_ipv6_pattern_nozone s (avoids_mono rfl hs) (ipv6QuadDefect_nodot s (avoids_mono rfl hs))
theorem c20_cidrv6_pattern_partial : ∀ s, avoids [46, 37] s = true → accepts Gen.pat_cidrv6 s = cidrv6.run s := fun s hs =>
  c20_cidrv6_pattern_nozone s (avoids_mono rfl hs) (cidrv6QuadDefect_nodot s (avoids_mono rfl hs))

/-- all strings: outside the dotted-quad defect region `regex.IPv6` accepts exactly the RFC 4291 addresses, except that it
    takes some strings with a '%' (the zone defect: no string with a '%' is an address) -/
theorem c20_ipv6_pattern_partial_all :
    ∀ s, ipv6QuadDefect.run s = false → (avoids [37] s = true ∨ accepts Gen.pat_ipv6 s = false) → accepts Gen.pat_ipv6 s = ipv6.run s :=
  partial_all_of_nozone (by decide) c20_ipv6_pattern_nozone

theorem c20_cidrv6_pattern_partial_all :
    ∀ s, cidrv6QuadDefect.run s = false → (avoids [37] s = true ∨ accepts Gen.pat_cidrv6 s = false) → accepts Gen.pat_cidrv6 s = cidrv6.run s :=
  partial_all_of_nozone (by decide) c20_cidrv6_pattern_nozone

/-- the dotted-quad defects of `c20_ipv6_witnesses` lie in the excluded regions (that the hypotheses of the theorems above are
    satisfiable by dotted-quad strings, well-formed or not, is the `example` below) -/
theorem c20_ipv6_defects_excluded :
    ipv6QuadDefect.run (b! "::01.2.3.4") = true ∧ ipv6QuadDefect.run (b! "1:2:3:4:5:6:1.2.3.4") = true ∧
    ipv6QuadDefect.run (b! "1:2:3:4:5::1.2.3.4") = true ∧ ipv6QuadDefect.run (b! "::FFFF:1.2.3.4") = true ∧
    ipv6QuadDefect.run (b! "::1:1.2.3.4") = true ∧
    cidrv6QuadDefect.run (b! "::01.2.3.4/120") = true ∧ cidrv6QuadDefect.run (b! "1:2:3:4:5:6:1.2.3.4/64") = true := by
  decide +kernel

example : avoids [37] (b! "::ffff:1.2.3.4") = true ∧ ipv6QuadDefect.run (b! "::ffff:1.2.3.4") = false ∧ ipv6.run (b! "::ffff:1.2.3.4") = true ∧
    ipv6QuadDefect.run (b! "::1.2.3.4") = false ∧ ipv6.run (b! "::1.2.3.4") = true ∧
    ipv6QuadDefect.run (b! "::ffff:0:255.255.255.255") = false ∧ ipv6.run (b! "::ffff:0:255.255.255.255") = true ∧
    ipv6QuadDefect.run (b! "1:2:3:4::1.2.3.4") = false ∧ ipv6.run (b! "1:2:3:4::1.2.3.4") = true ∧
    ipv6QuadDefect.run (b! "::1.2.3.256") = false ∧ ipv6.run (b! "::1.2.3.256") = false ∧
    ipv6QuadDefect.run (b! "::1.2.3") = false ∧ ipv6.run (b! "::1.2.3") = false ∧
    ipv6QuadDefect.run (b! "1:2:3:4:5:6:7:1.2.3.4") = false ∧ ipv6.run (b! "1:2:3:4:5:6:7:1.2.3.4") = false ∧
    ipv6QuadDefect.run (b! "1.2.3.4") = false ∧ ipv6.run (b! "1.2.3.4") = false ∧
    ipv6QuadDefect.run (b! "2001:db8::1") = false ∧
    cidrv6QuadDefect.run (b! "::ffff:1.2.3.4/96") = false ∧ cidrv6.run (b! "::ffff:1.2.3.4/96") = true := by
  decide +kernel

end Gozod.C20
