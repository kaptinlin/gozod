/-
  What `ParsePrimitive`'s `Prim.checked` sees of the check run: the verdict of the regular loop and nothing else
  (`checked_eq_run`; the pointer pass of `validatePointer` changes neither issues nor value, `c10_generic_all`).
  C01 (acceptance), C09 (`StrictParse` = `Parse`) and C17 (coercing schemas) read `checked` through this file.
-/
import Gozod.Model.Prim
import Gozod.Proofs.C10G
namespace Gozod.C10
open Gozod.Prim

variable {P O T V : Type}

/-- `Prim.checked` runs `runChecksOn`, the STRING instance of `validatePointer`'s pass, for every primitive type. That is
    harmless: the classification of a type's wrappers changes the callback log only (`c10_generic_all`), and `Prim.Out` has no log. -/
theorem checked_eq_run (env : Env P O T V) (i : Internals P O V) (pin : Bool) (v : V) :
    checked env i pin v =
      if (runChecks env i.checks v).issues = [] then .okVal (runChecks env i.checks v).val
      else .errChecks (runChecks env i.checks v).issues := by
  simp only [checked, ← runChecksG_string, c10_generic_all]

theorem checked_okVal_iff (env : Env P O T V) (i : Internals P O V) (pin : Bool) (v r : V) :
    checked env i pin v = .okVal r ↔
      (∀ k, k < i.checks.length → failsAt env i.checks k v = false) ∧ r = seenAt env i.checks i.checks.length v := by
  rw [checked_eq_run, ← c10_ok_iff_no_fail]
  split
  next hi => rw [Out.okVal.injEq, c10_ok_value env _ v hi]; exact ⟨fun h => ⟨hi, h.symm⟩, fun h => h.2.symm⟩
  next hi => exact ⟨nofun, fun h => absurd h.1 hi⟩

theorem checked_cases (env : Env P O T V) (i : Internals P O V) (pin : Bool) (v : V) :
    checked env i pin v = .okVal (seenAt env i.checks i.checks.length v) ∨
      ∃ ps, ps ≠ [] ∧ checked env i pin v = .errChecks ps := by
  rw [checked_eq_run]
  split
  next hi => rw [c10_ok_value env _ v hi]; exact .inl rfl
  next hi => exact .inr ⟨_, hi, rfl⟩

end Gozod.C10
