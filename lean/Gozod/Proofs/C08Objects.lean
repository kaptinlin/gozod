/-
  C08 at the level of CONTENT for object schemas (types/object.go, types/struct.go): Shape, PartialExceptions,
  UnknownKeys, Catchall, IsPartial are modelled with their contents (`Model/StoreC08.lean` §5), the derivations
  Extend / SafeExtend / Merge / Pick / Omit / Partial / Required / Strict / Strip / Passthrough / WithCatchall (and every
  common chaining call) as store operations.

  One derivation leaves every live object schema its whole observation (`c08o_step`), hence its verdict on every input
  and the object part of its JSON Schema (`c08o_behaviour`, for every member oracle); `c08o_hist` is the same along
  histories, failing Pick/Omit included.  The `*_content` theorems say what the RESULT of each derivation contains.
-/
import Gozod.Proofs.C08Rows

namespace Gozod.C08
open Gozod.Store Gozod.StoreC08

def WfO (σ : Store) (x : OSchema) : Prop :=
  WfS σ x.s ∧ (∀ l ∈ optLoc x.exc, l < σ.next) ∧ (∀ l ∈ optLoc x.req, l < σ.next)

theorem obsO_frame {σ σ' : Store} (x : OSchema) (hw : WfO σ x) (he : ExtFrom σ.next σ σ') :
    obsO σ'.heap x = obsO σ.heap x := by
  simp only [obsO, obs_frame x.s hw.1 he, readVals_frame x.exc hw.2.1 he, readVals_frame x.req hw.2.2 he]

theorem wfo_frame {σ σ' : Store} (x : OSchema) (hw : WfO σ x) (he : ExtFrom σ.next σ σ') : WfO σ' x :=
  ⟨wfs_frame x.s hw.1 he, Below.mono hw.2.1 he.1, Below.mono hw.2.2 he.1⟩

theorem framedO : Framed WfO obsO (·.s.self) := ⟨obsO_frame, wfo_frame, fun h => h.1.self_lt⟩

theorem objConstruct_spec (σ : Store) (kind : Nat) (sh : ShapeV) (cks : List Nat) (hc : BagClosed σ) :
    Made WfO (·.s.self) σ (objConstruct σ kind sh cks) := by
  have t1 : Keeps σ.next σ (alloc σ (.arr cks)).1 := .alloc (Nat.le_refl _) fun _ => trivial
  have t2 : Keeps σ.next _ (alloc (alloc σ (.arr cks)).1 (.bag [])).1 := .alloc t1.le fun _ => nofun
  have t3 : Keeps σ.next _ (alloc (alloc (alloc σ (.arr cks)).1 (.bag [])).1 (.shape sh)).1 :=
    .alloc (t1.trans t2).le fun _ => trivial
  have t13 := t1.trans (t2.trans t3)
  have up := @Nat.lt_succ_of_lt
  have h := made_of_keeps (r := (objConstruct σ kind sh cks).2.s)
    (t13.trans (.alloc (c := .reg none) t13.le fun _ => trivial)) hc
    ⟨Nat.lt_succ_self _, up (up (up (Nat.lt_succ_self _))), forall_optLoc_some.2 (up (up (Nat.lt_succ_self _))), nofun,
      forall_optLoc_some.2 (up (Nat.lt_succ_self _)), nofun⟩
    id t13.le
  exact h.lift (fun _ hw => ⟨hw, nofun, nofun⟩) rfl

theorem objDerive_spec (cfg : Cfg) (hcfg : cfg.cloneBagAlways = true) (σ : Store) (recv : OSchema) (v : ObjV)
    (exc req : SlotAct) (hc : BagClosed σ) (hw : WfO σ recv) : Made WfO (·.s.self) σ (objDerive cfg σ recv v exc req) := by
  obtain ⟨he, hb, hws, hs⟩ := applyOp_spec cfg hcfg σ recv.s (.derive recv.s.flags [] none) hc hw.1 trivial rfl
  obtain ⟨t1, l1⟩ := applySlot_spec _ _ recv.exc exc (Nat.le_refl _) (Below.mono hw.2.1 he.1)
  obtain ⟨t2, l2⟩ := applySlot_spec _ _ recv.req req (Nat.le_refl _) (Below.mono hw.2.2 (he.step t1.1).1)
  exact ⟨he.step (t1.1.step t2.1), t2.2 (t1.2 hb), ⟨wfs_frame _ (wfs_frame _ hws t1.1) t2.1, Below.mono l1 t2.le, l2⟩, hs⟩

def _root_.Gozod.StoreC08.ObjOp.ok : ObjOp → Prop
  | .common op => Op.ok op ∧ op.isMetaSelf = false
  | _ => True

theorem applyObjOp_spec (cfg : Cfg) (hcfg : cfg.cloneBagAlways = true) (σ : Store) (recv : OSchema) (o : ObjOp)
    (r : Store × OSchema) (hc : BagClosed σ) (hw : WfO σ recv) (hok : o.ok) (hr : applyObjOp cfg σ recv o = some r) :
    Made WfO (·.s.self) σ r := by
  cases o with
  | extend aug keep => cases hr; exact objConstruct_spec σ _ _ _ hc
  | pick ks | omitKeys ks =>
    obtain ⟨sh, _, rfl⟩ := Option.map_eq_some_iff.1 hr
    exact objConstruct_spec σ _ _ _ hc
  | partialAll | requiredAll | mode m | catchall c => cases hr; exact objDerive_spec cfg hcfg σ recv _ _ _ hc hw
  | partialKeys ks | requiredKeys ks =>
    simp only [applyObjOp] at hr
    split at hr <;> cases hr <;> exact objDerive_spec cfg hcfg σ recv _ _ _ hc hw
  | common op =>
    cases hr
    exact (applyOp_spec cfg hcfg σ recv.s op hc hw.1 hok.1 hok.2).lift
      (fun he hws => ⟨hws, Below.mono hw.2.1 he.1, Below.mono hw.2.2 he.1⟩) rfl

structure InvO (σ : Store) (live : List OSchema) : Prop where
  closed : BagClosed σ
  wf : ∀ x ∈ live, WfO σ x

/-- a derivation leaves the whole observation — Shape CONTENT, exception set, unknown-keys mode, catchall,
    partial flag, and the common part — of every live object schema unchanged; its result is a new, well-formed schema. -/
theorem c08o_step (cfg : Cfg) (hcfg : cfg.cloneBagAlways = true) (σ : Store) (live : List OSchema) (recv : OSchema)
    (o : ObjOp) (r : Store × OSchema) (hi : InvO σ live) (hrv : recv ∈ live) (hok : o.ok)
    (hr : applyObjOp cfg σ recv o = some r) :
    InvO r.1 (live ++ [r.2]) ∧ (∀ x ∈ live, obsO r.1.heap x = obsO σ.heap x) ∧ (∀ x ∈ live, x.s.self ≠ r.2.s.self) := by
  obtain ⟨he, hb, hw, hs⟩ := applyObjOp_spec cfg hcfg σ recv o r hi.closed (hi.wf recv hrv) hok hr
  obtain ⟨hl, ho⟩ := framedO.step hi.wf he hw
  exact ⟨⟨hb, hl⟩, ho, fun x hx e => framedO.new hi.wf hs x hx e.symm⟩

/-- … hence the same verdict on every input and the same JSON-Schema object part, whatever the member
    schemas do (`memberOk`, `memberOpt` are arbitrary). -/
theorem c08o_behaviour (cfg : Cfg) (hcfg : cfg.cloneBagAlways = true) (σ : Store) (live : List OSchema) (recv : OSchema)
    (o : ObjOp) (r : Store × OSchema) (hi : InvO σ live) (hrv : recv ∈ live) (hok : o.ok)
    (hr : applyObjOp cfg σ recv o = some r) (memberOk : Loc → Nat → Bool) (memberOpt : Loc → Bool) :
    ∀ x ∈ live,
      (∀ inp, objParse (obsO r.1.heap x) memberOk memberOpt inp = objParse (obsO σ.heap x) memberOk memberOpt inp) ∧
      objDoc (obsO r.1.heap x) memberOpt = objDoc (obsO σ.heap x) memberOpt := by
  intro x hx
  rw [(c08o_step cfg hcfg σ live recv o r hi hrv hok hr).2.1 x hx]
  exact ⟨fun _ => rfl, rfl⟩

def objOpsOK (ops : List (Nat × ObjOp)) : Prop := ∀ p ∈ ops, p.2.ok

theorem runObjHist_chain (cfg : Cfg) (hcfg : cfg.cloneBagAlways = true) : ∀ (ops : List (Nat × ObjOp)) (σ : Store)
    (live : List OSchema), objOpsOK ops →
    Chain WfO (fun _ _ => True) σ live (runObjHist cfg σ live ops).1 (runObjHist cfg σ live ops).2
  | [], _, _, _ => .nil
  | (i, o) :: rest, σ, live, hok => by
    have ih := fun σ live => runObjHist_chain cfg hcfg rest σ live fun q hq => hok q (List.mem_cons_of_mem _ hq)
    unfold runObjHist
    split
    · exact ih σ live
    · next recv hl =>
      split
      · exact ih σ live
      · next r ha =>
        refine .one (fun hc hw => ?_) (ih _ _)
        have h := applyObjOp_spec cfg hcfg σ recv o r hc (hw recv (List.mem_of_getElem? hl)) (hok _ List.mem_cons_self) ha
        exact ⟨h.1, h.2.1, h.2.2.1, trivial⟩

/-- along every history of object derivations every schema live at the start is observed unchanged at the
    end (failing Pick / Omit calls included: they produce nothing and change nothing). -/
theorem c08o_hist (cfg : Cfg) (hcfg : cfg.cloneBagAlways = true) (ops : List (Nat × ObjOp)) :
    ∀ (σ : Store) (live : List OSchema), InvO σ live → objOpsOK ops →
    InvO (runObjHist cfg σ live ops).1 (runObjHist cfg σ live ops).2 ∧
    live <+: (runObjHist cfg σ live ops).2 ∧
    ∀ x ∈ live, obsO (runObjHist cfg σ live ops).1.heap x = obsO σ.heap x := fun σ live hi hok =>
  have ⟨h1, ⟨extra, h2, _⟩, _, h4⟩ :=
    (runObjHist_chain cfg hcfg ops σ live hok).frame framedO (fun _ h => h) hi.closed hi.wf
  ⟨⟨h1.1, h1.2⟩, ⟨extra, h2⟩, h4⟩

theorem objConstruct_content (σ : Store) (kind : Nat) (sh : ShapeV) (cks : List Nat) :
    (obsO (objConstruct σ kind sh cks).1.heap (objConstruct σ kind sh cks).2).base.shape = some sh ∧
    (obsO (objConstruct σ kind sh cks).1.heap (objConstruct σ kind sh cks).2).exc = none ∧
    (obsO (objConstruct σ kind sh cks).1.heap (objConstruct σ kind sh cks).2).req = none ∧
    (obsO (objConstruct σ kind sh cks).1.heap (objConstruct σ kind sh cks).2).v = ⟨0, none, false⟩ := by
  refine ⟨?_, rfl, rfl, rfl⟩
  simp [objConstruct, obsO, obs, readShape, alloc, upd]

/-- Extend / SafeExtend / Merge: the receiver's Shape with the augmentation copied over it; default mode, not partial,
    no exceptions, no required keys, no catchall. -/
theorem extend_content (cfg : Cfg) (σ : Store) (recv : OSchema) (aug : ShapeV) (keep : Bool) (r : Store × OSchema)
    (hr : applyObjOp cfg σ recv (.extend aug keep) = some r) :
    (obsO r.1.heap r.2).base.shape = some (shapeCopy ((obsO σ.heap recv).base.shape.getD []) aug) ∧
    (obsO r.1.heap r.2).exc = none ∧ (obsO r.1.heap r.2).req = none ∧ (obsO r.1.heap r.2).v = ⟨0, none, false⟩ := by
  cases hr
  exact objConstruct_content _ _ _ _

theorem pick_content (cfg : Cfg) (σ : Store) (recv : OSchema) (ks : List Nat) (r : Store × OSchema)
    (hr : applyObjOp cfg σ recv (.pick ks) = some r) :
    ∃ sh, shapePick ((obsO σ.heap recv).base.shape.getD []) ks = some sh ∧ (obsO r.1.heap r.2).base.shape = some sh ∧
      (obsO r.1.heap r.2).exc = none ∧ (obsO r.1.heap r.2).req = none ∧ (obsO r.1.heap r.2).v = ⟨0, none, false⟩ := by
  obtain ⟨sh, hsh, rfl⟩ := Option.map_eq_some_iff.1 hr
  exact ⟨sh, hsh, objConstruct_content _ _ _ _⟩

theorem omit_content (cfg : Cfg) (σ : Store) (recv : OSchema) (ks : List Nat) (r : Store × OSchema)
    (hr : applyObjOp cfg σ recv (.omitKeys ks) = some r) :
    (∀ k ∈ ks, (shapeGet ((obsO σ.heap recv).base.shape.getD []) k).isSome = true) ∧
    (obsO r.1.heap r.2).base.shape = some (((obsO σ.heap recv).base.shape.getD []).filter (fun p => !ks.contains p.1)) := by
  obtain ⟨sh, hsh, rfl⟩ := Option.map_eq_some_iff.1 hr
  unfold shapeOmit at hsh
  split at hsh <;> cases hsh
  next hall => exact ⟨fun k hk => List.all_eq_true.1 hall k hk, (objConstruct_content _ _ _ _).1⟩

/-- a key set the call made itself reads back: RequiredKeys (allocated last) … -/
theorem objDerive_req (cfg : Cfg) (σ : Store) (recv : OSchema) (v : ObjV) (exc : SlotAct) (ks : List Nat) :
    (obsO (objDerive cfg σ recv v exc (.fresh ks)).1.heap (objDerive cfg σ recv v exc (.fresh ks)).2).req = some ks :=
  readVals_alloc _ ks

/-- … and PartialExceptions, whatever is done to RequiredKeys afterwards -/
theorem objDerive_exc (cfg : Cfg) (σ : Store) (recv : OSchema) (v : ObjV) (req : SlotAct) (ks : List Nat) :
    (obsO (objDerive cfg σ recv v (.fresh ks) req).1.heap (objDerive cfg σ recv v (.fresh ks) req).2).exc = some ks :=
  (readVals_frame _ (forall_optLoc_some.2 (Nat.lt_succ_self _)) (applySlot_ext _ recv.req req)).trans (readVals_alloc _ ks)

/-- `Partial(keys)`: the exceptions are the Shape keys not listed; the object is partial; the Shape reference is kept -/
theorem partialKeys_content (cfg : Cfg) (σ : Store) (recv : OSchema) (ks : List Nat) (hne : ks ≠ []) (r : Store × OSchema)
    (hr : applyObjOp cfg σ recv (.partialKeys ks) = some r) :
    (obsO r.1.heap r.2).exc = some ((shapeKeys ((obsO σ.heap recv).base.shape.getD [])).filter (fun k => !ks.contains k)) ∧
    (obsO r.1.heap r.2).v = { recv.v with isPartial := true } ∧ r.2.s.shape = recv.s.shape := by
  simp only [applyObjOp, List.isEmpty_eq_false_iff.2 hne, Bool.false_eq_true, if_false] at hr
  cases hr
  exact ⟨objDerive_exc _ _ _ _ _ _, rfl, rfl⟩

/-- `Required(fields)` (since /repo 75cf747): RequiredKeys = the receiver's ∪ the fields, in a map the call made; the
    partial flag, the exceptions REFERENCE and the Shape reference are the receiver's -/
theorem requiredKeys_content (cfg : Cfg) (σ : Store) (recv : OSchema) (ks : List Nat) (hne : ks ≠ []) (r : Store × OSchema)
    (hr : applyObjOp cfg σ recv (.requiredKeys ks) = some r) :
    (obsO r.1.heap r.2).req = some (keyUnion ((obsO σ.heap recv).req.getD []) ks) ∧ r.2.v = recv.v ∧
    r.2.exc = recv.exc ∧ r.2.s.shape = recv.s.shape := by
  simp only [applyObjOp, List.isEmpty_eq_false_iff.2 hne, Bool.false_eq_true, if_false] at hr
  cases hr
  exact ⟨objDerive_req _ _ _ _ _ _, rfl, rfl, rfl⟩

/-- `Required()`: every Shape key -/
theorem requiredAll_content (cfg : Cfg) (σ : Store) (recv : OSchema) (r : Store × OSchema)
    (hr : applyObjOp cfg σ recv .requiredAll = some r) :
    (obsO r.1.heap r.2).req = some (shapeKeys ((obsO σ.heap recv).base.shape.getD [])) ∧ r.2.v = recv.v ∧ r.2.exc = recv.exc := by
  cases hr
  exact ⟨objDerive_req _ _ _ _ _ _, rfl, rfl⟩

theorem mode_content (cfg : Cfg) (σ : Store) (recv : OSchema) (m : Nat) (r : Store × OSchema)
    (hr : applyObjOp cfg σ recv (.mode m) = some r) :
    r.2.v = { recv.v with mode := m } ∧ r.2.s.shape = recv.s.shape ∧ r.2.exc = recv.exc ∧ r.2.req = recv.req := by
  cases hr
  exact ⟨rfl, rfl, rfl, rfl⟩

theorem catchall_content (cfg : Cfg) (σ : Store) (recv : OSchema) (c : Loc) (r : Store × OSchema)
    (hr : applyObjOp cfg σ recv (.catchall c) = some r) :
    r.2.v = { recv.v with catchall := some c } ∧ r.2.s.shape = recv.s.shape ∧ r.2.exc = recv.exc ∧ r.2.req = recv.req := by
  cases hr
  exact ⟨rfl, rfl, rfl, rfl⟩

/-- a field that `Required` recorded may not be absent, whatever its member schema or the partial state says -/
theorem required_is_required (o : OObs) (memberOpt : Loc → Bool) (k : Nat) (m : Loc) (rq : List Nat)
    (hr : o.req = some rq) (hk : rq.contains k = true) : fieldOptional o memberOpt k m = false := by
  unfold fieldOptional
  rw [hr, Option.getD_some, hk]
  rfl

/-- after `Partial(keys)` a listed key may be absent, unless `Required` recorded it -/
theorem partial_makes_optional (o : OObs) (memberOpt : Loc → Bool) (ks : List Nat) (k : Nat) (m : Loc) (keys : List Nat)
    (hp : o.v.isPartial = true) (he : o.exc = some (keys.filter (fun x => !ks.contains x))) (hk : ks.contains k = true)
    (hq : (o.req.getD []).contains k = false) :
    fieldOptional o memberOpt k m = true := by
  have hx : (keys.filter (fun x => !ks.contains x)).contains k = false := by
    simpa using fun _ => List.contains_iff_mem.1 hk
  simp only [fieldOptional, hq, hp, he, Option.getD_some, hx]
  simp

theorem partial_keeps_required (o : OObs) (memberOpt : Loc → Bool) (ks : List Nat) (k : Nat) (m : Loc) (keys : List Nat)
    (he : o.exc = some (keys.filter (fun x => !ks.contains x))) (hin : k ∈ keys) (hk : ks.contains k = false)
    (hm : memberOpt m = false) : fieldOptional o memberOpt k m = false := by
  have hx : (keys.filter (fun x => !ks.contains x)).contains k = true := by
    simpa using ⟨hin, by simpa using hk⟩
  simp only [fieldOptional, hm, he, Option.getD_some, hx]
  simp

/-- non-vacuity: a two-field object, Partial on one key, then Strict on the result; the base keeps its verdicts -/
def oBase : Store × OSchema := objConstruct σ0 3 [(1, 100), (2, 101)] []

example :
    let r1 := (applyObjOp fixed oBase.1 oBase.2 (.partialKeys [1])).getD oBase
    let r2 := (applyObjOp fixed r1.1 r1.2 (.mode 1)).getD oBase
    let r3 := (applyObjOp fixed r2.1 r1.2 (.requiredKeys [1])).getD oBase
    obsO r3.1.heap oBase.2 = obsO oBase.1.heap oBase.2 ∧ obsO r3.1.heap r1.2 = obsO r1.1.heap r1.2 ∧
    (obsO r3.1.heap r3.2).req = some [1] ∧
    objParse (obsO r3.1.heap r3.2) (fun _ _ => true) (fun _ => false) ⟨[2]⟩ = none ∧
    (obsO r2.1.heap r1.2).exc = some [2] ∧
    objParse (obsO r2.1.heap r1.2) (fun _ _ => true) (fun _ => false) ⟨[2]⟩ = some [2] ∧
    objParse (obsO r2.1.heap oBase.2) (fun _ _ => true) (fun _ => false) ⟨[2]⟩ = none ∧
    objParse (obsO r2.1.heap r1.2) (fun _ _ => true) (fun _ => false) ⟨[2, 9]⟩ = some [2] ∧
    objParse (obsO r2.1.heap r2.2) (fun _ _ => true) (fun _ => false) ⟨[2, 9]⟩ = none := by decide

end Gozod.C08
