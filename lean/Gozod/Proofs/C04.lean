/-
  C04 — a failure is a well-formed ZodError: at least one issue, each with a known issue code, a
  non-empty message and a non-nil path.

  Issues carry `code`, `hasMsg` (Message ≠ ""), `hasPath` (Path ≠ nil); the creators + `FinalizeIssue` are `mk`,
  `prepend`, `replacePath`, `dropPath` (FinalizeIssue sets path `[]` when nil and a default message when empty).
  Relative to the members: IF every member's own error is well-formed THEN so is every error a composite builds from
  them (`C05.run_issues_ind`: each way a validator raises an issue keeps well-formedness).

  PARTIAL: panic-freedom has no counterpart in a total Lean model; it is decided by the
  correspondence (harness/cmd/c04: schema × Go-kind cross product under recover()).
-/
import Gozod.Proofs.C05

namespace Gozod.C04
open Gozod.Cont

def Issue.wf (i : Issue) : Bool := i.code.known && i.hasMsg && i.hasPath

def Res.wf : Res → Bool
  | .ok => true
  | .err is => !is.isEmpty && is.all Issue.wf

abbrev AllWf (is : List Issue) : Prop := is.all Issue.wf = true

theorem allWf_nil : AllWf [] := rfl

/-- `prepend`, `replacePath` and `dropPath` all build this record. -/
theorem refiled_wf (c : Issue) (p : List Seg) (h : Issue.wf c = true) :
    Issue.wf { code := c.code, path := p, keys := [], expLazy := c.expLazy } = true := by
  simp only [Issue.wf, Bool.and_eq_true] at h ⊢; simp [h.1.1]

theorem wf_issues {r : Res} (h : Res.wf r = true) : AllWf r.issues := by
  cases r with
  | ok => rfl
  | err is => simp only [Res.wf, Bool.and_eq_true] at h; exact h.2

theorem mergeUnrec_wf (cfg : Cfg) (hp : cfg.interPath = true) (l r : List Issue) (hl : AllWf l) (hr : AllWf r) :
    AllWf (mergeUnrec cfg l r) := by
  refine List.all_eq_true.2 fun i hi => ?_
  rcases mem_mergeUnrec hi with h | h | ⟨ks, rfl⟩
  · exact List.all_eq_true.1 hl i h
  · exact List.all_eq_true.1 hr i h
  · simp [Issue.wf, Code.known, hp]

theorem ofIssues_ne (is : List Issue) : ofIssues is ≠ .err [] := by cases is <;> simp [ofIssues]

/-- so the arm `.err [] => .ok` of `Cont.parseF` is dead. -/
theorem run_ne_err_nil (cfg : Cfg) (env : Env) (n : Node) (v : V) : run cfg env n v ≠ .err [] := by
  have eng : ∀ {α : Type} (m : Mods) (ex : V → Option α) (va : α → Res), (∀ a, va a ≠ .err []) →
      engine m ex va v ≠ .err [] := by
    intro α m ex va h
    unfold engine
    split
    · unfold nilPath; cases m.nonOptional <;> cases (m.optional || m.nilable) <;> simp
    · cases ex v with
      | none => simp
      | some a => exact h a
  have ends : ∀ {r : Res} {is : List Issue}, OwnOrExactly r is → r ≠ .err [] := by
    rintro r is (rfl | ⟨i, _, rfl⟩ | ⟨hne, rfl⟩)
    · simp
    · simp
    · simpa using hne
  cases n with
  | slice | struct => exact eng _ _ _ fun _ => ofIssues_ne _
  | array => exact eng _ _ _ fun _ => validateArray_eq .. ▸ ofIssues_ne _
  | tuple => exact eng _ _ _ fun _ => validateTuple_eq .. ▸ ofIssues_ne _
  | map => exact eng _ _ _ fun _ => validateMap_eq .. ▸ ofIssues_ne _
  | record => exact eng _ _ _ fun _ => validateRecord_eq .. ▸ ofIssues_ne _
  | set => exact eng _ _ _ fun _ => validateSet_eq .. ▸ ofIssues_ne _
  | object => exact eng _ _ _ fun _ => validateObject_eq .. ▸ ofIssues_ne _
  | union m opts => exact eng m some _ fun a => ends (validateUnion_ends env opts a)
  | xor m opts => exact eng m some _ fun a => ends (validateXor_ends env opts a)
  | inter m l r => exact eng m some _ fun a => ends (validateInter_ends cfg env l r a)
  | du m disc dmap opts => obtain ⟨is, he, -⟩ := parseDU_ends env m disc dmap opts v; exact ends he
  | lazy m direct t => exact ends (parseLazy_ends cfg env m direct t v)

/-- C04 (error shape): if the members' own errors are well-formed, every composite returns `ok` or an error with at least
    one issue, each with a known code, a message and a non-nil path. `hp`: the intersection's merged issue is built with
    a path (`c04_inter_nil_path` is the code before). -/
theorem c04_error_wf (cfg : Cfg) (env : Env) (n : Node) (v : V) (hp : cfg.interPath = true)
    (hm : ∀ m x, AllWf (errs env m x)) : Res.wf (run cfg env n v) = true := by
  have mem : ∀ {m x c}, c ∈ errs env m x → Issue.wf c = true := fun hc => List.all_eq_true.1 (hm _ _) _ hc
  have all : ∀ i ∈ (run cfg env n v).issues, Issue.wf i = true :=
    C05.run_issues_ind (root := fun i _ h1 h2 h3 => by simp [Issue.wf, h1, h2, h3 hp])
      (own := fun _ _ => rfl) (elem := fun _ _ _ _ _ => rfl)
      (child := fun _ _ _ c _ hc => refiled_wf c _ (mem hc)) (keyed := fun _ _ c _ hc => refiled_wf c _ (mem hc))
      (same := fun _ _ _ hc => mem hc) (oldSlice := fun _ _ _ _ c _ hc => refiled_wf c _ (mem hc))
      (oldRecord := fun _ _ _ _ c hc => ⟨mem hc, refiled_wf c _ (mem hc)⟩)
  cases hr : run cfg env n v with
  | ok => rfl
  | err is =>
    rw [hr] at all
    have : is ≠ [] := fun h => run_ne_err_nil cfg env n v (h ▸ hr)
    simpa [Res.wf, Res.issues, this] using all

/-- a success carries no error — a fact about the type `Res`; nothing about `run` enters. -/
theorem c04_ok_no_error (cfg : Cfg) (env : Env) (n : Node) (v : V) (h : (run cfg env n v).isOk = true) :
    (run cfg env n v).issues = [] := by
  cases hr : run cfg env n v with
  | ok => rfl
  | err is => rw [hr] at h; cases h

/-- `c04_error_wf` without `hp`: false (`c04_inter_nil_path`). -/
def c04_error_wf_full : Prop :=
  ∀ (cfg : Cfg) (env : Env) (n : Node) (v : V), (∀ m x, AllWf (errs env m x)) → Res.wf (run cfg env n v) = true

/-- The code before /repo 8768453 (`interPath = false`): `Intersection(StrictObject{a}, StrictObject{b}).Parse({a, b, c})`
    yielded an unrecognized_keys issue whose Path is nil. -/
theorem c04_inter_nil_path : ¬ c04_error_wf_full := by
  intro h
  have := h { interPath := false }
    (fun _ _ => .err { code := .unrecognizedKeys, path := [], keys := [3] } []) (.inter {} 0 1)
    (.map .str .any (some [])) (by intro m x; rfl)
  revert this; decide

-- a slice that fails its size check AND whose element fails: two issues, both well-formed
example : Res.wf (run {} (fun _ _ => .err (mk .invalidType []) []) (.slice {} .any 0 [.min 3])
    (.slice .any (some [.nil]))) = true := by decide

/-- Any nesting depth (`k`: levels of `defs` unfolded): only the LEAVES' errors are assumed well-formed. -/
theorem c04_error_wf_nested (cfg : Cfg) (defs : Mid → Def) (env : Env) (resv : Mid → V → V)
    (hp : cfg.interPath = true) (hleaf : ∀ m x, AllWf (errs env m x)) :
    ∀ (k : Nat) (id : Mid) (v : V), AllWf (errs (parseF cfg defs env resv k) id v) :=
  C05.parseF_induction cfg defs env resv (fun _ id v e => e ▸ hleaf id v)
    fun k _ v nd _ e ih => e ▸ wf_issues (c04_error_wf cfg (parseF cfg defs env resv k) nd v hp ih)

theorem c04_nested_outcome (cfg : Cfg) (defs : Mid → Def) (env : Env) (resv : Mid → V → V)
    (hp : cfg.interPath = true) (hleaf : ∀ m x, AllWf (errs env m x)) (k : Nat) (id : Mid) (v : V) :
    (∃ r, parseF cfg defs env resv k id v = .ok r) ∨
    (∃ i t, parseF cfg defs env resv k id v = .err i t ∧ AllWf (i :: t)) := by
  have h := c04_error_wf_nested cfg defs env resv hp hleaf k id v
  unfold errs at h
  cases hr : parseF cfg defs env resv k id v with
  | ok r => exact Or.inl ⟨r, rfl⟩
  | err i t => rw [hr] at h; exact Or.inr ⟨i, t, rfl, h⟩

/-- hypotheses inhabited, two levels deep: a slice of slices over a failing leaf -/
example : AllWf (errs (parseF {} (fun id => if id = 0 then .node (.slice {} .any 1 []) else if id = 1 then .node (.slice {} .any 2 [.min 1]) else .leaf)
    (fun _ _ => .err (mk .invalidType []) []) (fun _ v => v) 3) 0 (.slice .any (some [.slice .any (some [.nil])]))) := by decide

end Gozod.C04
