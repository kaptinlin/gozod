/-
  C20 — validator side of IPv6 / CIDRv6: the transcription of `netip.parseIPv6` (Model/GoNetip.lean: the outer loop over 16-bit
  fields with its look-ahead, the ellipsis bookkeeping, the embedded IPv4 re-parsed by `parseIPv4Fields` from the start of the
  field) accepts exactly the strings of the RFC 4291 definition `Fmt.ipv6`, for all strings (`c20_ipv6_netip`).

  The Go loop works field by field and finds some errors late (too many fields: at the end); the automaton refuses eagerly.  The
  proof is a simulation at the loop heads (`head_sim`, induction over the remaining iterations).  Inside a field the inner hex
  loop runs against the automaton's phase 3 (`in_group`), in which the automaton also reads the group as a decimal octet, as
  `parseIPv4Fields` started at the field does (`oct_step`); after the hex digits Go's `afterField` and phase 3 look at the same
  byte (`dispatch`); the dotted-quad phase is the IPv4 automaton (`sim5`), hence `parseIPv4Fields` (`ipv4Fields_run`); once seven
  fields and an ellipsis are there, the Go loop refuses whatever follows (`doomed14`).

  CIDRv6 (`c20_cidrv6_netip`): the definition's cut at the last '/' (`cidr6_split`, Proofs/C20Addr6.lean) is `ParsePrefix`'s.
-/
import Gozod.Proofs.C20Netip
import Gozod.Proofs.C20Addr6
namespace Gozod.C20
open Gozod Gozod.Fmt

/-- one iteration left at `i = 14` with an ellipsis: every exit of the loop body has `i = 16` (refused by `final6`, the "::" must
    stand for a group) or is an error -/
theorem doomed14 (e : Nat) (s : List Nat) : Netip.final6 (Netip.loop6 1 14 (some e) s) = false := by
  simp only [Netip.loop6]
  cases hsc : Netip.scanHex 0 s with
  | none => rfl
  | some p =>
    obtain ⟨off, rest⟩ := p
    simp only [Netip.afterField]
    by_cases h0 : off = 0
    · simp [h0, Netip.final6]
    · rw [if_neg h0]
      rcases rest with _ | ⟨c, _ | ⟨c', r⟩⟩
      · simp [Netip.final6]
      · by_cases h46 : c = 46
        · simp [h46, Netip.final6]
        · by_cases h58 : c = 58 <;> simp [h46, h58, Netip.final6]
      · by_cases h46 : c = 46
        · simp [h46, Netip.final6]
        · by_cases h58 : c = 58
          · by_cases h58' : c' = 58
            · simp [h58, h58', Netip.final6]
            · simp [h58, h58', Netip.final6]
          · simp [h46, h58, Netip.final6]

/-- Go's `ellipsis` variable against the automaton's flag -/
def EllRel (ellG : Option Nat) (ell : Nat) : Prop := (ellG.isSome = true ↔ ell = 1) ∧ ell ≤ 1

theorem EllRel.of_none {ell : Nat} (he : EllRel none ell) : ell = 0 := by
  have : ¬ ell = 1 := fun h => Bool.noConfusion (he.1.2 h)
  have := he.2
  omega

theorem EllRel.of_some {e ell : Nat} (he : EllRel (some e) ell) : ell = 1 := he.1.1 rfl

/-- at a loop head: `i` bytes are filled, `fuel` iterations may follow; the automaton is in `q` -/
def HeadRel (fuel i : Nat) (ellG : Option Nat) (s : List Nat) (q : V6St) : Prop :=
  i = 2 * q.g ∧ i + 2 * fuel = 16 ∧ EllRel ellG q.ell ∧ q.n = 0 ∧ q.v = 0 ∧ q.k = 0 ∧
  ((q.ph = 0 ∧ q.g = 0 ∧ q.ell = 0 ∧ (∀ r, s ≠ 58 :: 58 :: r)) ∨
   (q.ph = 4 ∧ 1 ≤ q.g ∧ (q.ell = 0 → q.g ≤ 7) ∧ (q.ell = 1 → q.g ≤ 6) ∧ (∃ c r, s = c :: r ∧ c ≠ 58)) ∨
   (q.ph = 2 ∧ q.ell = 1 ∧ q.g ≤ 7 ∧ s ≠ []))

def HeadOK (fuel : Nat) : Prop :=
  ∀ (i : Nat) (ellG : Option Nat) (s : List Nat) (q : V6St), HeadRel fuel i ellG s q →
    Netip.final6 (Netip.loop6 fuel i ellG s) = runV (some q) s

/-- Go's tests on `i` and `ellipsis` at an embedded IPv4 (with the length test at the end) against the automaton's `quadMayStart` -/
theorem final6_quad {i g ell : Nat} {ellG : Option Nat} (hi : i = 2 * g) (he : EllRel ellG ell)
    (hr0 : ell = 0 → g ≤ 7) (hr1 : ell = 1 → g ≤ 6) (b : Bool) :
    Netip.final6 (if ellG = none ∧ i ≠ 12 then none else if i + 4 > 16 then none
      else if b = true then some (i + 4, ellG, []) else none) = (quadMayStart g ell && b) := by
  subst hi
  unfold quadMayStart
  cases ellG with
  | none =>
    have hell := he.of_none
    have hg := hr0 hell
    subst hell
    by_cases h6 : g = 6
    · subst h6; cases b <;> rfl
    · have : (none : Option Nat) = none ∧ 2 * g ≠ 12 := ⟨rfl, by omega⟩
      rw [if_pos this]
      simp [h6, Netip.final6]
  | some e =>
    have hell := he.of_some
    have hg := hr1 hell
    subst hell
    have h1 : ¬ ((some e : Option Nat) = none ∧ 2 * g ≠ 12) := by simp
    rw [if_neg h1]
    by_cases h5 : g ≤ 5
    · have h16 : ¬ 2 * g + 4 > 16 := by omega
      have hlt : 2 * g + 4 < 16 := by omega
      cases b <;> simp [h5, h16, hlt, Netip.final6]
    · have h6 : g = 6 := by omega
      subst h6
      cases b <;> rfl

/-- Go's `afterField` against phase 3 on the byte after the hex digits of a field (the end; '.'; ':' and then the end, ':' or the
    next field; another), the next loop head by `IH` -/
theorem dispatch (fuel i : Nat) (ellG : Option Nat) (g ell : Nat) (IH : HeadOK fuel)
    (hi : i = 2 * g) (hf : i + 2 * (fuel + 1) = 16) (he : EllRel ellG ell) (hr0 : ell = 0 → g ≤ 7) (hr1 : ell = 1 → g ≤ 6)
    (h : List Nat) (n v : Nat) (hv : VOk g ell h n v) (rest : List Nat) (hrest : ∀ c r, rest = c :: r → isHex c = false) :
    Netip.final6 (Netip.afterField (Netip.loop6 fuel) i ellG (h ++ rest) n rest) = runV (some ⟨3, g, ell, n, v, 0⟩) rest := by
  have hn1 : n ≥ 1 := by
    unfold VOk at hv; split at hv
    · exact hv.2.1
    · exact hv.2.2
  have hn0 : ¬ n = 0 := by omega
  unfold Netip.afterField
  rw [if_neg hn0]
  cases rest with
  | nil =>
    -- end of the string: Go's length test against the automaton's
    simp only [Netip.final6, List.isEmpty_nil, Bool.true_and, runV, List.foldl_nil, accV, ipv6Acc]
    cases ellG with
    | none =>
      have hell := he.of_none
      have hg := hr0 hell
      by_cases h7 : g = 7
      · have : ¬ i + 2 < 16 := by omega
        simp [this, hell, h7]
      · have : i + 2 < 16 := by omega
        simp [this, hell, h7]
    | some e =>
      have hell := he.of_some
      have hg := hr1 hell
      have : i + 2 < 16 := by omega
      simp [this, hell]
  | cons c r =>
    have hcx : ¬ isHex c = true := by rw [hrest c r rfl]; decide
    rw [runV_cons]
    simp only []
    by_cases h46 : c = 46
    · -- embedded IPv4: at the right place Go re-reads the group as an octet, as `OInv` has it; elsewhere `v = 256`
      subst h46
      rw [if_pos rfl, final6_quad hi he hr0 hr1, gV_dot3]
      unfold VOk at hv
      by_cases hq : quadMayStart g ell = true
      · rw [if_pos hq] at hv
        obtain ⟨_, _, _, hfold⟩ := hv
        rw [hq, Bool.true_and, ipv4Fields_run (h ++ 46 :: r) 0 0 0 none (FInv0 _), run4, List.foldl_append, hfold]
        by_cases hv255 : v ≤ 255
        · rw [if_pos hv255, if_pos hv255, List.foldl_cons, g4_dot, if_pos ⟨hn1, Nat.zero_lt_succ 2⟩, sim5]; rfl
        · rw [if_neg hv255, if_neg hv255, foldl_g4_none, runV_none]; rfl
      · rw [if_neg hq] at hv
        have hv255 : ¬ v ≤ 255 := by omega
        rw [Bool.eq_false_iff.2 hq, Bool.false_and, if_neg hv255, runV_none]
    · rw [if_neg h46]
      by_cases h58 : c = 58
      · subst h58
        rw [if_neg (by simp), gV_colon3]
        by_cases hroom : (ell = 0 ∧ g + 1 ≤ 7) ∨ (ell = 1 ∧ g + 1 ≤ 6)
        · rw [if_pos hroom]
          cases r with
          | nil => rfl
          | cons c' r'' =>
            simp only []
            by_cases h58' : c' = 58
            · subst h58'
              rw [if_pos rfl, runV_cons, gV_colon4]
              cases ellG with
              | some e =>
                have hell : ¬ ell = 0 := by have := he.of_some; omega
                rw [if_neg hell, runV_none]; rfl
              | none =>
                have hell := he.of_none
                have hg7 : g + 1 ≤ 7 := by rcases hroom with h | h <;> omega
                rw [if_pos hell]
                simp only [Option.isSome_none, Bool.false_eq_true, if_false]
                cases r'' with
                | nil =>
                  have : i + 2 < 16 := by omega
                  simp [Netip.final6, this, runV, accV, ipv6Acc]
                | cons c'' r3 =>
                  simp only [List.isEmpty_cons, Bool.false_eq_true, if_false]
                  refine IH (i + 2) (some (i + 2)) (c'' :: r3) ⟨2, g + 1, 1, 0, 0, 0⟩
                    ⟨?_, ?_, ⟨⟨fun _ => rfl, fun _ => rfl⟩, Nat.le_refl 1⟩, rfl, rfl, rfl, Or.inr (Or.inr ⟨rfl, rfl, hg7, by simp⟩)⟩
                  · show i + 2 = 2 * (g + 1); omega
                  · omega
            · rw [if_neg h58']
              refine IH (i + 2) ellG (c' :: r'') ⟨4, g + 1, ell, 0, 0, 0⟩
                ⟨?_, ?_, he, rfl, rfl, rfl, Or.inr (Or.inl ⟨rfl, ?_, ?_, ?_, c', r'', rfl, h58'⟩)⟩
              · show i + 2 = 2 * (g + 1); omega
              · omega
              · show 1 ≤ g + 1; omega
              · intro h0; have h0 : ell = 0 := h0; show g + 1 ≤ 7; rcases hroom with h' | h' <;> omega
              · intro h1; have h1 : ell = 1 := h1; show g + 1 ≤ 6; rcases hroom with h' | h' <;> omega
        · -- no room for another field: the automaton refuses now, Go later
          rw [if_neg hroom, runV_none]
          cases r with
          | nil => rfl
          | cons c' r'' =>
            simp only []
            cases ellG with
            | none =>
              have hell := he.of_none
              have hg : g = 7 := by
                have := hr0 hell
                have : ¬ g + 1 ≤ 7 := fun h => hroom (Or.inl ⟨hell, h⟩)
                omega
              have hfuel : fuel = 0 := by omega
              subst hfuel
              by_cases h58' : c' = 58
              · simp only [h58', if_true, Option.isSome_none, Bool.false_eq_true, if_false]
                cases r'' with
                | nil =>
                  have : ¬ i + 2 < 16 := by omega
                  simp [Netip.final6, this]
                | cons c'' r3 => simp [Netip.loop6, Netip.final6]
              · simp [h58', Netip.loop6, Netip.final6]
            | some e =>
              have hell := he.of_some
              have hg : g = 6 := by
                have := hr1 hell
                have : ¬ g + 1 ≤ 6 := fun h => hroom (Or.inr ⟨hell, h⟩)
                omega
              have hfuel : fuel = 1 := by omega
              subst hfuel
              have hi14 : i + 2 = 14 := by omega
              by_cases h58' : c' = 58
              · simp [h58', Netip.final6]
              · simp only [h58', if_false]
                rw [hi14]; exact doomed14 e _
      · rw [if_pos h58, gV_other h58 h46 hcx, runV_none]; rfl

theorem in_group (fuel i : Nat) (ellG : Option Nat) (g ell : Nat) (IH : HeadOK fuel)
    (hi : i = 2 * g) (hf : i + 2 * (fuel + 1) = 16) (he : EllRel ellG ell) (hr0 : ell = 0 → g ≤ 7) (hr1 : ell = 1 → g ≤ 6) :
    ∀ (s h : List Nat) (n v : Nat), VOk g ell h n v → n ≤ 4 →
      Netip.final6 (match Netip.scanHex n s with
        | none => none
        | some (off, rest) => Netip.afterField (Netip.loop6 fuel) i ellG (h ++ s) off rest) = runV (some ⟨3, g, ell, n, v, 0⟩) s
  | [], h, n, v, hv, _ => by
    simp only [Netip.scanHex]
    exact dispatch fuel i ellG g ell IH hi hf he hr0 hr1 h n v hv [] (fun c r hcr => by cases hcr)
  | c :: r, h, n, v, hv, hn4 => by
    by_cases hx : isHex c = true
    · rw [runV_cons, gV_hex3 hx]
      simp only [Netip.scanHex, hx, if_true]
      by_cases hn3 : n > 3
      · have : ¬ n < 4 := by omega
        rw [if_pos hn3, if_neg this, runV_none]; rfl
      · have hlt : n < 4 := by omega
        rw [if_neg hn3, if_pos hlt]
        have := in_group fuel i ellG g ell IH hi hf he hr0 hr1 r (h ++ [c]) (n + 1) _ (VOk_step hx (Or.inr hv)) (by omega)
        rw [List.append_assoc] at this
        exact this
    · simp only [Bool.not_eq_true] at hx
      simp only [Netip.scanHex, hx, Bool.false_eq_true, if_false]
      exact dispatch fuel i ellG g ell IH hi hf he hr0 hr1 h n v hv (c :: r) (fun c' r' hcr => by cases hcr; exact hx)

theorem head_nonhex (q : V6St) (c : Nat) (r : List Nat) (hx : isHex c = false)
    (hq : (q.ph = 0 ∧ (∀ r', c :: r ≠ 58 :: 58 :: r')) ∨ (q.ph = 4 ∧ c ≠ 58) ∨ q.ph = 2) : runV (some q) (c :: r) = false := by
  obtain ⟨ph, g, ell, n, v, k⟩ := q
  have hx' : ¬ isHex c = true := by rw [hx]; decide
  rw [runV_cons]
  by_cases h58 : c = 58
  · subst h58
    rcases hq with ⟨hp, hns⟩ | ⟨_, hne⟩ | hp
    · -- a single leading ':' must be followed by a second one
      simp only at hp; subst hp
      rw [gV_colon0]
      cases r with
      | nil => rfl
      | cons c2 r2 =>
        have hc2 : c2 ≠ 58 := by intro e; subst e; exact hns r2 rfl
        rw [runV_cons, gV_ph1 hc2, runV_none]
    · exact absurd rfl hne
    · simp only at hp; subst hp
      rw [gV_colon2, runV_none]
  · by_cases h46 : c = 46
    · subst h46
      have hp3 : ph ≠ 3 := by rcases hq with ⟨hp, _⟩ | ⟨hp, _⟩ | hp <;> simp only at hp <;> omega
      have hp5 : ph ≠ 5 := by rcases hq with ⟨hp, _⟩ | ⟨hp, _⟩ | hp <;> simp only at hp <;> omega
      rw [gV_dot_head ph g ell n v k hp3 hp5, runV_none]
    · rw [gV_other h58 h46 hx', runV_none]

theorem head_sim : ∀ fuel, HeadOK fuel
  | 0 => by
    intro i ellG s q ⟨h1, h2, ⟨_, he2⟩, _, _, _, hk⟩
    rcases hk with ⟨_, hg, _, _⟩ | ⟨_, _, h0, h1', _⟩ | ⟨_, _, hg, _⟩
    · omega
    · have : q.ell = 0 ∨ q.ell = 1 := by omega
      rcases this with h | h
      · have := h0 h; omega
      · have := h1' h; omega
    · omega
  | fuel + 1 => by
    have IH := head_sim fuel
    intro i ellG s q hrel
    obtain ⟨h1, h2, he, hn, hv, hk0, hk⟩ := hrel
    obtain ⟨ph, g, ell, n, v, k⟩ := q
    simp only at h1 h2 he hn hv hk0 hk
    subst hn hv hk0
    -- seven fields and an ellipsis: both refuse whatever follows
    by_cases hdoom : ph = 2 ∧ g = 7
    · obtain ⟨hp, hg⟩ := hdoom
      subst hp hg
      rcases hk with ⟨hp, _⟩ | ⟨hp, _⟩ | ⟨_, hell, _, hs⟩
      · cases hp
      · cases hp
      · have hfuel : fuel = 0 := by omega
        subst hfuel
        have hi : i = 14 := by omega
        subst hi
        cases ellG with
        | none => have := he.of_none; omega
        | some e =>
          rw [doomed14]
          cases s with
          | nil => exact absurd rfl hs
          | cons c r => rw [runV_cons, gV_full, runV_none]
    · have hr0 : ell = 0 → g ≤ 7 := by
        intro h0
        rcases hk with ⟨_, hg, _⟩ | ⟨_, _, h, _⟩ | ⟨_, hell, _⟩
        · omega
        · exact h h0
        · omega
      have hr1 : ell = 1 → g ≤ 6 := by
        intro h1e
        rcases hk with ⟨_, _, hell, _⟩ | ⟨_, _, _, h, _⟩ | ⟨hp, _, hg, _⟩
        · omega
        · exact h h1e
        · have : ¬ g = 7 := fun h => hdoom ⟨hp, h⟩
          omega
      cases s with
      | nil =>
        rcases hk with ⟨hp, _⟩ | ⟨_, _, _, _, c, r, hs, _⟩ | ⟨_, _, _, hs⟩
        · subst hp; rfl
        · cases hs
        · exact absurd rfl hs
      | cons c r =>
        by_cases hx : isHex c = true
        · have hstart : ph = 0 ∨ ph = 4 ∨ (ph = 2 ∧ g ≤ 6) := by
            rcases hk with ⟨hp, _⟩ | ⟨hp, _⟩ | ⟨hp, _, hg, _⟩
            · exact Or.inl hp
            · exact Or.inr (Or.inl hp)
            · exact Or.inr (Or.inr ⟨hp, by have : ¬ g = 7 := fun h => hdoom ⟨hp, h⟩; omega⟩)
          rw [runV_cons, gV_start hx ph g ell 0 0 0 hstart]
          have := in_group fuel i ellG g ell IH h1 h2 he hr0 hr1 r [c] 1 _ (VOk_step (h := []) hx (Or.inl ⟨rfl, rfl, rfl⟩)) (by omega)
          simp only [Netip.loop6, Netip.scanHex, hx, if_true]
          rw [if_neg (by decide)]
          exact this
        · simp only [Bool.not_eq_true] at hx
          have hgo : Netip.final6 (Netip.loop6 (fuel + 1) i ellG (c :: r)) = false := by
            simp [Netip.loop6, Netip.scanHex, hx, Netip.afterField, Netip.final6]
          rw [hgo]
          refine (head_nonhex _ c r hx ?_).symm
          rcases hk with ⟨hp, _, _, hns⟩ | ⟨hp, _, _, _, c0, r0, hs, hne⟩ | ⟨hp, _⟩
          · exact Or.inl ⟨hp, hns⟩
          · cases hs; exact Or.inr (Or.inl ⟨hp, hne⟩)
          · exact Or.inr (Or.inr hp)

theorem parseIPv6_run (s : List Nat) : Netip.parseIPv6 s = runV (some ⟨0, 0, 0, 0, 0, 0⟩) s := by
  have plain : (∀ r, s ≠ 58 :: 58 :: r) → Netip.final6 (Netip.loop6 8 0 none s) = runV (some ⟨0, 0, 0, 0, 0, 0⟩) s := fun hns =>
    head_sim 8 0 none s ⟨0, 0, 0, 0, 0, 0⟩
      ⟨rfl, rfl, ⟨⟨fun h => absurd h (by decide), fun h => absurd h (by decide)⟩, by decide⟩, rfl, rfl, rfl, Or.inl ⟨rfl, rfl, rfl, hns⟩⟩
  unfold Netip.parseIPv6
  rcases s with _ | ⟨c0, _ | ⟨c1, s'⟩⟩
  · exact plain (fun r h => by cases h)
  · exact plain (fun r h => by cases h)
  · simp only []
    by_cases hcc : c0 = 58 ∧ c1 = 58
    · rw [if_pos hcc]
      obtain ⟨h0, h1⟩ := hcc
      subst h0 h1
      have e2 : runV (some ⟨0, 0, 0, 0, 0, 0⟩) (58 :: 58 :: s') = runV (some ⟨2, 0, 1, 0, 0, 0⟩) s' := rfl
      rw [e2]
      cases s' with
      | nil => rfl
      | cons c r =>
        simp only [List.isEmpty_cons, Bool.false_eq_true, if_false]
        exact head_sim 8 0 (some 0) (c :: r) ⟨2, 0, 1, 0, 0, 0⟩
          ⟨rfl, rfl, ⟨⟨fun _ => rfl, fun _ => rfl⟩, by decide⟩, rfl, rfl, rfl, Or.inr (Or.inr ⟨rfl, rfl, by decide, by simp⟩)⟩
    · rw [if_neg hcc]
      exact plain (fun r h => by cases h; exact hcc ⟨rfl, rfl⟩)

theorem runV_no_pct : ∀ (s : List Nat) (o : Option V6St), runV o s = true → s.elem 37 = false
  | [], _, _ => rfl
  | c :: s, o, h => by
    rw [runV_cons] at h
    by_cases hc : c = 37
    · subst hc
      rw [gV_other (by decide) (by decide) (by decide), runV_none] at h; cases h
    · have hb : ((37 : Nat) == c) = false := by simp; omega
      simp only [List.elem, hb]
      exact runV_no_pct s _ h

/-- what the automaton accepts has a ':' before any '.': `ParseAddr` hands it to `parseIPv6` -/
theorem addrKind6_of_run : ∀ (s : List Nat) (q : V6St), ((q.ph = 0 ∧ q.g = 0 ∧ q.ell = 0) ∨ (q.ph = 3 ∧ q.g = 0 ∧ q.ell = 0 ∧ q.v = 256)) →
    runV (some q) s = true → Netip.addrKind s = 6
  | [], q, hq, h => by
    obtain ⟨ph, g, ell, n, v, k⟩ := q
    rcases hq with ⟨hp, _, _⟩ | ⟨hp, hg, hell, _⟩
    · simp only at hp; subst hp; simp [runV, accV, ipv6Acc] at h
    · simp only at hp hg hell; subst hp hg hell; simp [runV, accV, ipv6Acc] at h
  | c :: s, q, hq, h => by
    obtain ⟨ph, g, ell, n, v, k⟩ := q
    rw [runV_cons] at h
    -- in the first group (`g = 0`, no "::") the octet accumulator stays 256: no dotted quad may begin here
    have hacc : ∀ x, (if quadMayStart 0 0 = true then x else 256) = 256 := fun _ => rfl
    by_cases h58 : c = 58
    · simp [Netip.addrKind, h58]
    · by_cases h46 : c = 46
      · subst h46
        exfalso
        rcases hq with ⟨hp, _, _⟩ | ⟨hp, _, _, hv⟩
        · simp only at hp; subst hp
          rw [gV_dot_head 0 g ell n v k (by decide) (by decide), runV_none] at h; cases h
        · simp only at hp hv; subst hp hv
          rw [gV_dot3, if_neg (by decide), runV_none] at h; cases h
      · by_cases hx : isHex c = true
        · have h37 : c ≠ 37 := (isHex_ne hx).2.2
          simp only [Netip.addrKind, h46, h58, h37, if_false]
          rcases hq with ⟨hp, hg, hell⟩ | ⟨hp, hg, hell, hv⟩
          · simp only at hp hg hell; subst hp hg hell
            rw [gV_start hx 0 0 0 n v k (Or.inl rfl), hacc] at h
            exact addrKind6_of_run s _ (Or.inr ⟨rfl, rfl, rfl, rfl⟩) h
          · simp only at hp hg hell hv; subst hp hg hell hv
            rw [gV_hex3 hx, hacc] at h
            by_cases hn : n < 4
            · rw [if_pos hn] at h
              exact addrKind6_of_run s _ (Or.inr ⟨rfl, rfl, rfl, rfl⟩) h
            · rw [if_neg hn, runV_none] at h; cases h
        · rw [gV_other h58 h46 hx, runV_none] at h; cases h

/-- validate.IPv6 (`netip.ParseAddr` ∧ `Is6` ∧ no zone, transcribed from the Go source) accepts exactly the RFC 4291 addresses —
    for all strings -/
theorem c20_ipv6_netip : ∀ s, Netip.ipv6 s = Fmt.ipv6.run s := by
  intro s
  rw [runV_spec]
  unfold Netip.ipv6
  rw [parseIPv6_run]
  cases hr : runV (some ⟨0, 0, 0, 0, 0, 0⟩) s with
  | false => simp
  | true => rw [addrKind6_of_run s _ (Or.inl ⟨rfl, rfl, rfl⟩) hr, runV_no_pct s _ hr]; rfl

/-- validate.CIDRv6 (`netip.ParsePrefix` ∧ `Is6`, transcribed from the Go source) accepts exactly the strings of the definition:
    an RFC 4291 address, '/', a canonical decimal 0–128 — for all strings -/
theorem c20_cidrv6_netip : ∀ s, Netip.cidrv6 s = Fmt.cidrv6.run s := by
  intro s
  rw [cidrv6_split]
  unfold Netip.cidrv6
  cases Netip.cutLastSlash s with
  | none => rfl
  | some p => simp only [c20_ipv6_netip]

end Gozod.C20
