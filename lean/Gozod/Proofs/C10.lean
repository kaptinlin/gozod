/-
  C10 — the hypotheses of the main theorems are inhabited (an `example` per clause, over `demoEnv`), and the
  two witnesses over the same environment: value threading over the whole callback log fails for pointer inputs
  (`c10_first_pass_witness`, open finding), and the code before /repo 49e6e91 invoked an overwrite attached after an
  aborting failure (`c10_legacy_first_pass_witness`).
-/
import Gozod.Proofs.C10G

namespace Gozod.C10

private def demoEnv : Env Nat Nat Nat Nat where
  holds := fun p v => v ≥ p
  apply := fun o v => v + o
  trans := fun t v => v * t

private def demoChain : List (Check Nat Nat) :=
  [.pred 5 false none, .overwrite 10, .pred 12 false none, .pred 100 true none, .pred 0 false none]

-- `demoChain` spelt out, all reference notions at once
example :
    let cs : List (Check Nat Nat) :=
      [.pred 5 false none, .overwrite 10, .pred 12 false none, .pred 100 true none, .pred 0 false none]
    (runChecks demoEnv cs 3).issues = [0, 3] ∧
    failsAt demoEnv cs 0 3 = true ∧ failsAt demoEnv cs 2 3 = false ∧
    abortAt cs 3 = true ∧ seenAt demoEnv cs 2 3 = 13 := by decide

-- `c10_first_failing`
example : failsAt demoEnv demoChain 0 3 = true ∧ (∀ j, j < 0 → failsAt demoEnv demoChain j 3 = false) ∧
    (runChecks demoEnv demoChain 3).issues.head? = some 0 :=
  ⟨by decide, fun j h => absurd h (Nat.not_lt_zero j), by decide⟩

-- `c10_first_failing` with a non-zero least failing position
example : failsAt demoEnv demoChain 3 7 = true ∧ failsAt demoEnv demoChain 0 7 = false ∧ failsAt demoEnv demoChain 2 7 = false ∧
    (runChecks demoEnv demoChain 7).issues.head? = some 3 := by decide

-- `c10_abort_stops`
example : 3 ∈ (runChecks demoEnv demoChain 3).issues ∧ abortAt demoChain 3 = true ∧
    (runChecks demoEnv demoChain 3).log.all (fun e => e.pos ≤ 3) = true ∧ (runChecks demoEnv demoChain 3).issues = [0, 3] := by decide

-- `c10_ok_iff_no_fail` / `c10_ok_value`: a chain with an overwrite that accepts
example : (runChecks demoEnv [.pred 5 false none, .overwrite 10, .pred 12 false none] 7).issues = [] ∧
    (runChecks demoEnv [.pred 5 false none, .overwrite 10, .pred 12 false none] 7).val = 17 ∧
    seenAt demoEnv [.pred 5 false none, .overwrite 10, .pred 12 false none] 3 7 = 17 := by decide

-- `c10_value_threading`: the check after the overwrite sees the overwritten value
example : Ev.check 2 17 ∈ (runChecks demoEnv [.pred 5 false none, .overwrite 10, .pred 12 false none] 7).log := by decide

-- a false when-guard: the check does not fail (`checkFails`)
example : failsAt demoEnv [.pred 100 false (some 50)] 0 7 = false ∧ (runChecks demoEnv [.pred 100 false (some 50)] 7).issues = [] := by decide

-- `c10_runOn_ok_iff` / `c10_abort_stops_all`: pointer input of a pointer schema with an overwrite attached
example : (runChecksOn demoEnv true true [.overwrite 10, .pred 12 false none] 7).issues = [] ∧
    (runChecksOn demoEnv true true [.overwrite 10, .pred 12 true none, .overwrite 1] 1).issues = [1] ∧
    (runChecksOn demoEnv true true [.overwrite 10, .pred 12 true none, .overwrite 1] 1).log.all (fun e => e.pos ≤ 1) = true := by decide

-- `c10_transform_once`: success, failure
example : (parsePipeline demoEnv (.transform (.base 0 false [.pred 5 false none]) 1 3) 7 false).log =
      [.chk 0 (.check 0 7), .tr 1 7] ∧
    (match (parsePipeline demoEnv (.transform (.base 0 false [.pred 5 false none]) 1 3) 7 false).out with | .ok x => x = 21 | _ => False) ∧
    (parsePipeline demoEnv (.transform (.base 0 false [.pred 5 false none]) 1 3) 2 false).log = [.chk 0 (.check 0 2)] := by
  refine ⟨by decide, ?_, by decide⟩
  show (21 : Nat) = 21
  rfl

-- `c10_pipe_ok_iff`: both stages accept / the second rejects
example : (match (parsePipeline demoEnv (.pipe (.base 0 false [.overwrite 10]) (.base 1 false [.pred 15 false none])) 7 false).out with
      | .ok x => x = 17 | _ => False) ∧
    (match (parsePipeline demoEnv (.pipe (.base 0 false [.overwrite 10]) (.base 1 false [.pred 15 false none])) 2 false).out with
      | .error e => e = (1, [0]) | _ => False) := by
  constructor
  · show (17 : Nat) = 17; rfl
  · show ((1, [0]) : Nat × List Nat) = (1, [0]); rfl

/-- Known finding: with a pointer input and an overwrite attached, the pointer pass of
    `validatePointer` (run after an accepting regular loop) evaluates a when-guard on a value that has *not*
    gone through the overwrite attached before it. -/
theorem c10_first_pass_witness : ¬ c10_value_threading_full demoEnv := by
  intro h
  -- value schema, pointer input: [overwrite(+10), pred(≥0) when(≥0)] on 3: the guard of check 1 sees 3, not 13
  have := h false true [.overwrite 10, .pred 0 false (some 0)] 3 (.when 1 3) (by decide)
  revert this; decide

/-- The code up to /repo 49e6e91: with the pointer pass first, an overwrite attached after an aborting failure was invoked. -/
theorem c10_legacy_first_pass_witness : ¬ c10_legacy_abort_stops_full demoEnv := by
  intro h
  -- pointer schema, pointer input: [pred(≥0), pred(≥5) abort when(≥0), overwrite(+1)] on 3:
  -- the pointer pass "fails" check 0, so skips the guarded check 1 and invokes overwrite 2;
  -- the regular loop then fails check 1 with abort.
  have := h true true [.pred 0 false none, .pred 5 true (some 0), .overwrite 1] 3 1
    (by decide) (by decide) (.over 2 3) (by decide)
  revert this; decide

end Gozod.C10
