/-
  C19 — PrettifyError at the strength of the clause, about the definition the driver runs
  (`prettifyGo`, Model/IssuesGo.lean: every path element type).

  The report is one string, so "exactly one message per issue, filed under the position its path
  denotes" is stated as what a reader of the string can recover (`c19_go_prettify_…`): cutting the
  report at every "; " gives back one segment per issue when no segment contains ';' — and not
  otherwise (the report shape cannot tell; the messages are the user's).

  `prettifyGo_eq` relates the driver's definition to the position-level `prettify` of
  Model/Issues.lean — outside negative ints, which the pretty report writes `[-1]` while the tree
  files them as the key "-1"; the `c19_go_prettify_…` statements do not go through it: they hold
  for every error.
-/
import Gozod.Proofs.C19Parse
import Gozod.Proofs.C19Go

namespace Gozod.C19
open Gozod.Issues

def segsGo (is : List IssueGo) : List String := is.map (prettySegWith dotPathGo)

theorem segsGo_length (is : List IssueGo) : (segsGo is).length = is.length := by simp [segsGo]

/-- Prettify, shape: the report is the "; "-join of exactly one segment per issue, in the order of the issues -/
theorem c19_go_prettify_join (is : List IssueGo) (h : is ≠ []) :
    prettifyGo is = "; ".intercalate (segsGo is) ∧ (segsGo is).length = is.length :=
  ⟨prettifyWith_ne_empty_segs dotPathGo is h, segsGo_length is⟩

/-- Prettify, placement: the segment is the message, preceded by the path in dot notation (which
    identifies the position: `c19_dotpath_go_injective`) when the path is not empty -/
theorem c19_go_prettify_seg (i : IssueGo) :
    prettySegWith dotPathGo i = if i.path = [] then i.msg else dotPathGo i.path ++ ": " ++ i.msg := by
  unfold prettySegWith
  cases h : i.path <;> simp

theorem mem_infix_intercalate (sep : List Char) (xs : List (List Char)) (x : List Char) (h : x ∈ xs) :
    x <:+: sep.intercalate xs := by
  induction xs with
  | nil => cases h
  | cons a r ih =>
    cases r with
    | nil => simp at h; subst h; simp [List.intercalate]
    | cons b r =>
      rw [List.intercalate_cons_cons]
      rcases List.mem_cons.mp h with rfl | h
      · exact ⟨[], sep ++ sep.intercalate (b :: r), by simp⟩
      · obtain ⟨s, t, e⟩ := ih h
        exact ⟨a ++ sep ++ s, t, by simp [← e]⟩

/-- Prettify loses nothing: the segment of every issue — its path and its message — occurs in the report -/
theorem c19_go_prettify_accounts (is : List IssueGo) (i : IssueGo) (hi : i ∈ is) :
    (prettySegWith dotPathGo i).toList <:+: (prettifyGo is).toList := by
  have hne : is ≠ [] := by intro e; rw [e] at hi; cases hi
  rw [(c19_go_prettify_join is hne).1, String.toList_intercalate]
  exact mem_infix_intercalate _ _ _ (List.mem_map.mpr ⟨_, List.mem_map.mpr ⟨i, hi, rfl⟩, rfl⟩)

/-- … in particular its message does -/
theorem c19_go_prettify_msg_occurs (is : List IssueGo) (i : IssueGo) (hi : i ∈ is) :
    i.msg.toList <:+: (prettifyGo is).toList := by
  refine List.IsInfix.trans ?_ (c19_go_prettify_accounts is i hi)
  rw [c19_go_prettify_seg]
  split
  · exact List.infix_rfl
  · exact ⟨(dotPathGo i.path ++ ": ").toList, [], by simp⟩

def splitSemi : List Char → List (List Char)
  | [] => [[]]
  | ';' :: ' ' :: r => [] :: splitSemi r
  | c :: r =>
    match splitSemi r with
    | [] => [[c]]
    | s :: ss => (c :: s) :: ss

theorem splitSemi_cons_ne (c : Char) (hc : c ≠ ';') (r : List Char) :
    splitSemi (c :: r) = match splitSemi r with | [] => [[c]] | s :: ss => (c :: s) :: ss := by
  rw [splitSemi]
  intro r' h; exact absurd h hc

theorem splitSemi_free (x : List Char) (hx : ';' ∉ x) : splitSemi x = [x] := by
  induction x with
  | nil => rfl
  | cons c r ih =>
    have hc : c ≠ ';' := fun e => hx (by simp [e])
    rw [splitSemi_cons_ne c hc, ih (fun m => hx (by simp [m]))]

theorem splitSemi_free_sep (x : List Char) (hx : ';' ∉ x) (rest : List Char) :
    splitSemi (x ++ ';' :: ' ' :: rest) = x :: splitSemi rest := by
  induction x with
  | nil => simp [splitSemi]
  | cons c r ih =>
    have hc : c ≠ ';' := fun e => hx (by simp [e])
    rw [List.cons_append, splitSemi_cons_ne c hc, ih (fun m => hx (by simp [m]))]

theorem splitSemi_intercalate (xs : List (List Char)) (hne : xs ≠ []) (hx : ∀ x ∈ xs, ';' ∉ x) :
    splitSemi ([';', ' '].intercalate xs) = xs := by
  induction xs with
  | nil => exact absurd rfl hne
  | cons a r ih =>
    cases r with
    | nil => simpa [List.intercalate] using splitSemi_free a (hx a (by simp))
    | cons b r =>
      rw [List.intercalate_cons_cons]
      have : a ++ [';', ' '] ++ [';', ' '].intercalate (b :: r) = a ++ ';' :: ' ' :: [';', ' '].intercalate (b :: r) := by simp
      rw [this, splitSemi_free_sep a (hx a (by simp)), ih (by simp) (fun x m => hx x (by simp [m]))]

def semiFree (is : List IssueGo) : Bool := is.all (fun i => !(prettySegWith dotPathGo i).toList.contains ';')

/-- Prettify carries exactly one segment per issue, PARTIAL (excluded: errors with a ';' in a
    message or in a quoted key): cutting the report at every "; " gives back the segments of the
    issues, one each, in order. -/
theorem c19_go_prettify_split_partial (is : List IssueGo) (h : is ≠ []) (hs : semiFree is = true) :
    splitSemi (prettifyGo is).toList = (segsGo is).map String.toList ∧
    (splitSemi (prettifyGo is).toList).length = is.length := by
  have key : splitSemi (prettifyGo is).toList = (segsGo is).map String.toList := by
    rw [(c19_go_prettify_join is h).1, String.toList_intercalate]
    have : "; ".toList = [';', ' '] := by decide
    rw [this]
    apply splitSemi_intercalate
    · cases is with
      | nil => exact absurd rfl h
      | cons i r => simp [segsGo]
    · intro x hx
      obtain ⟨sg, hsg, rfl⟩ := List.mem_map.mp hx
      obtain ⟨i, hi, rfl⟩ := List.mem_map.mp hsg
      have := (List.all_eq_true.mp hs) i hi
      simpa using this
  exact ⟨key, by rw [key]; simp [segsGo]⟩

example : semiFree [.mk .tooBig [.str "users", .int 0, .str "first-name"] "Too big: expected <= 5" [] [],
    .mk .custom [.int (-1), .other "1.5"] "m2" [] [], .mk .custom [] "" [] []] = true := by decide +kernel

def c19_go_prettify_split_full : Prop :=
  ∀ is : List IssueGo, is ≠ [] → (splitSemi (prettifyGo is).toList).length = is.length

/-- witness: one issue whose message is "a; b" reads as two segments (and so does a key `"a; b"`) -/
theorem c19_go_prettify_split_full_false : ¬ c19_go_prettify_split_full := by
  intro h
  exact absurd (h [.mk .custom [] "a; b" [] []] (by simp)) (by decide +kernel)

/-- no negative int in a path of the error's own issues (PrettifyError does not descend into nested issues) -/
def noNegTop (is : List IssueGo) : Bool := is.all (fun i => !i.path.any El.isNeg)

theorem segDotGo_pos (first : Bool) (e : El) (h : e.isNeg = false) :
    segDotEsc first (El.pos e) = segDotGo first e := by
  rcases e with k | (n | n) | k
  · rfl
  · simp [El.pos, segDotGo, bracketed, itoa, segDotEsc]
  · cases h
  · rfl

theorem dotPathGo_pos (p : List El) (h : p.any El.isNeg = false) : dotPathEsc (p.map El.pos) = dotPathGo p := by
  unfold dotPathEsc dotPathGo dotCharsGo
  rw [dotCharsEsc_eq, dotCharsWith_eq, renderPath_map El.pos p
    (fun e he first => segDotGo_pos first e (by simpa using List.any_eq_false.mp h e he))]

theorem prettySegGo_norm (i : IssueGo) (h : i.path.any El.isNeg = false) :
    prettySeg i.norm = prettySegWith dotPathGo i := by
  unfold prettySeg prettySegWith
  rw [norm_path, norm_msg]
  cases hp : i.path with
  | nil => rfl
  | cons e r => exact congrArg (· ++ ": " ++ i.msg) (dotPathGo_pos (e :: r) (hp ▸ h))

/-- the PrettifyError the driver runs is the position-level transcription (the subject of
    `c19_prettify_*`, `c19_dotpath_esc_injective`) on the positions — PARTIAL: outside negative ints -/
theorem prettifyGo_eq (is : List IssueGo) (h : noNegTop is = true) : prettifyGo is = prettify (normList is) := by
  cases is with
  | nil => rfl
  | cons i r =>
    show "; ".intercalate ((i :: r).map (prettySegWith dotPathGo))
      = "; ".intercalate ((normList (i :: r)).map prettySeg)
    rw [normList_eq_map, List.map_map]
    congr 1
    exact List.map_congr_left fun j hj =>
      (prettySegGo_norm j (by simpa using List.all_eq_true.mp h j hj)).symm

example : noNegTop [.mk .tooBig [.str "a", .int 3, .other "1.5"] "m" [] []] = true := by decide +kernel

/-- witness: a negative int is written `[-1]` by PrettifyError, while the position it denotes
    (TreeifyError / FormatError: the key "-1") would be written `["-1"]` -/
theorem prettifyGo_neg_differs :
    prettifyGo [.mk .custom [.int (-1)] "m" [] []] = "[-1]: m" ∧
    prettify (normList [.mk .custom [.int (-1)] "m" [] []]) = "[\"-1\"]: m" := by decide +kernel

end Gozod.C19
