/-
  C20 — validator side of the formats that are not (only) one regular expression.

  * ISO date: `validate.ISODate` = `time.Parse("2006-01-02", s)`, transcribed as `Parsers.goDate` (Model/GoParsers.lean), is the
    definition `isoDate` (`c20_isodate`): both are characterised by the arithmetic shape of the ten bytes (`dateShape`),
    and other lengths are refused by both.
  * `gozod.UUID("v4"|"v6"|"v7")`: two checks (regex.UUID, then regex.UUID<n>), exported as `allOf` of two patterns.  Their
    conjunction is `uuid (some n)` (`c20_uuidp<n>`), by the inclusion `uuid (some v) ⊆ uuid none` (`uuid_incl`: position by position,
    from the closed form `uuid_run` of Proofs/C20Fixed.lean).
-/
import Gozod.Proofs.C20
import Gozod.Proofs.C20Date
import Gozod.Gen.Re_uuidp4
import Gozod.Gen.Re_uuidp6
import Gozod.Gen.Re_uuidp7
namespace Gozod.C20
open Gozod Gozod.Re Gozod.Fmt Gozod.Parsers

theorem td1 (a : Nat) (r : List Nat) : takeDigits 1 (a :: r) = if isDigit a then some (a - 48, r) else none := by
  simp [takeDigits]
theorem td2 (a b : Nat) (r : List Nat) : takeDigits 2 (a :: b :: r) = if isDigit a ∧ isDigit b then some ((a - 48) * 10 + (b - 48), r) else none := by
  simp only [takeDigits]
  by_cases ha : isDigit a = true <;> by_cases hb : isDigit b = true <;> simp [ha, hb]
theorem td4 (a b c d : Nat) (r : List Nat) : takeDigits 4 (a :: b :: c :: d :: r) =
    if isDigit a ∧ isDigit b ∧ isDigit c ∧ isDigit d then some ((((a - 48) * 10 + (b - 48)) * 10 + (c - 48)) * 10 + (d - 48), r) else none := by
  simp only [takeDigits]
  by_cases ha : isDigit a = true <;> by_cases hb : isDigit b = true <;> by_cases hc : isDigit c = true <;> by_cases hd : isDigit d = true <;> simp [ha, hb, hc, hd]

theorem goDatePrefix10 (a b c d e f g h i j : Nat) (rest : List Nat) :
    goDatePrefix (a :: b :: c :: d :: e :: f :: g :: h :: i :: j :: rest)
      = if dateShape [a, b, c, d, e, f, g, h, i, j] then some rest else none := by
  simp only [goDatePrefix, td4, lit, dateShape, bind, Option.bind]
  by_cases h1 : isDigit a ∧ isDigit b ∧ isDigit c ∧ isDigit d
  · by_cases he : e = 45
    · by_cases h2 : isDigit f ∧ isDigit g
      · by_cases hh : h = 45
        · by_cases h3 : isDigit i ∧ isDigit j
          · simp [h1, he, h2, hh, h3, td2]
          · simp [h1, he, h2, hh, h3, td2]
        · simp [h1, he, h2, hh, td2]
      · simp [h1, he, h2, td2]
    · simp [h1, he]
  · simp [h1]; intros; simp_all

theorem goDate10 (a b c d e f g h i j : Nat) : goDate [a, b, c, d, e, f, g, h, i, j] = dateShape [a, b, c, d, e, f, g, h, i, j] := by
  unfold goDate
  rw [goDatePrefix10]
  cases dateShape [a, b, c, d, e, f, g, h, i, j] <;> rfl

theorem leapFlag (Y : Nat) : decide ((if isLeap Y = true then 1 else 0) = 1) = isLeap Y := by
  cases isLeap Y <;> simp

theorem takeDigits_length : ∀ (n : Nat) (s rest : List Nat) (v : Nat), takeDigits n s = some (v, rest) → s.length = rest.length + n
  | 0, s, rest, v, h => by simp [takeDigits] at h; rw [h.2]; rfl
  | n + 1, s, rest, v, h => by
    simp only [takeDigits] at h
    split at h
    · next v' c rest' heq =>
      split at h
      · simp only [Option.some.injEq, Prod.mk.injEq] at h
        have := takeDigits_length n s (c :: rest') v' heq
        rw [← h.2]; simp at this; omega
      · cases h
    · cases h

theorem lit_length {c : Nat} {s rest : List Nat} (h : lit c s = some rest) : s.length = rest.length + 1 := by
  cases s with
  | nil => simp [lit] at h
  | cons x xs => simp only [lit] at h; split at h <;> simp_all

theorem goDatePrefix_length {s rest : List Nat} (h : goDatePrefix s = some rest) : s.length = rest.length + 10 := by
  simp only [goDatePrefix, bind, Option.bind_eq_some_iff] at h
  obtain ⟨⟨y, s1⟩, h1, ⟨s2, h2, ⟨m, s3⟩, h3, s4, h4, ⟨d, s5⟩, h5, hv⟩⟩ := h
  dsimp only at h1 h2 h3 h4 h5 hv
  have := takeDigits_length _ _ _ _ h1
  have := lit_length h2
  have := takeDigits_length _ _ _ _ h3
  have := lit_length h4
  have := takeDigits_length _ _ _ _ h5
  split at hv
  · have hr : s5 = rest := by simpa using hv
    subst hr; omega
  · cases hv

theorem goDate_length {s : List Nat} (h : goDate s = true) : s.length = 10 := by
  unfold goDate at h
  split at h
  · next heq => simpa using goDatePrefix_length heq
  · cases h

/-- validate.ISODate (`time.Parse("2006-01-02", s)` as transcribed in `Parsers.goDate`) accepts exactly the calendar dates -/
theorem c20_isodate : ∀ s, goDate s = isoDate.run s := by
  intro s
  by_cases hl : s.length = 10
  · rcases s with _ | ⟨a, _ | ⟨b, _ | ⟨c, _ | ⟨d, _ | ⟨e, _ | ⟨f, _ | ⟨g, _ | ⟨h, _ | ⟨i, _ | ⟨j, _ | ⟨k, rest⟩⟩⟩⟩⟩⟩⟩⟩⟩⟩⟩
    all_goals first | (simp at hl; done) | skip
    · exact (goDate10 a b c d e f g h i j).trans (isoDate10 a b c d e f g h i j).symm
  · have h1 : goDate s = false := by
      cases hg : goDate s with
      | false => rfl
      | true => exact absurd (goDate_length hg) hl
    have h2 : isoDate.run s = false := by
      cases hg : isoDate.run s with
      | false => rfl
      | true => exact absurd (date_length hg) hl
    rw [h1, h2]

example : goDate (b! "2024-02-29") = true ∧ goDate (b! "2023-02-29") = false ∧ goDate (b! "2024-2-29") = false := by decide +kernel

theorem run_incl (S Q : Spec) (R : S.State → Q.State → Prop) (hsup : S.support = Q.support) (hinit : R S.init Q.init)
    (hstep : ∀ q q' c q1, R q q' → S.step q c = some q1 → ∃ q1', Q.step q' c = some q1' ∧ R q1 q1')
    (hacc : ∀ q q', R q q' → S.acc q = true → Q.acc q' = true) : ∀ s, S.run s = true → Q.run s = true := by
  intro s h
  have hrel := List.foldl_rel (l := s) (f := S.gstep) (g := Q.gstep) (a := some S.init) (b := some Q.init)
    (r := fun o o' => ∀ q, o = some q → ∃ q', o' = some q' ∧ R q q') (fun q hq => by cases hq; exact ⟨Q.init, rfl, hinit⟩)
    (fun c _ o o' hr q1 h1 => by
      cases o with
      | none => cases h1
      | some q =>
        obtain ⟨q', rfl, hq⟩ := hr q rfl
        obtain ⟨hc, hs⟩ := Spec.gstep_eq_some h1
        obtain ⟨q1', hs', hr1⟩ := hstep q q' c q1 hq hs
        refine ⟨q1', ?_, hr1⟩
        show (if Q.support.elem c then Q.step q' c else none) = some q1'
        rw [← hsup, if_pos hc]; exact hs')
  obtain ⟨q, hr, hq⟩ := S.run_state h
  obtain ⟨q', hq', hR⟩ := hrel q hr
  exact (congrArg Q.accO hq').trans (hacc q q' hR hq)

/-- at every position the class of version `v` lies inside the class of "any version" (position 14: the digit `v` is one of 1–8) -/
theorem uuid_incl (v : Nat) (hv : 1 ≤ v ∧ v ≤ 8) : ∀ s, (uuid (some v)).run s = true → (uuid none).run s = true := fun s h => by
  rw [uuid_run (some v) (fun _ e => by cases e; omega)] at h
  replace h : matchPos (uuidCls (some v)) 36 0 s = true := by simpa using h
  rw [uuid_run none (fun _ e => nomatch e), Bool.or_eq_true]
  refine Or.inl (matchPos_mono (fun i c hc => ?_) s 0 h)
  unfold uuidCls at hc ⊢
  split
  · next hd => rwa [if_pos hd] at hc
  · next hd =>
    rw [if_neg hd] at hc
    split
    · next h14 =>
      rw [if_pos h14, inRanges_one, Bool.and_eq_true, decide_eq_true_eq, decide_eq_true_eq] at hc
      rw [inRanges_one, Bool.and_eq_true, decide_eq_true_eq, decide_eq_true_eq]; omega
    · next h14 => rwa [if_neg h14] at hc

theorem and_of_incl {a b : Bool} (h : b = true → a = true) : (a && b) = b := by
  cases a <;> cases b <;> simp_all

theorem uuidp_of (v : Nat) (hv : 1 ≤ v ∧ v ≤ 8) {r1 r2 : Re} (h1 : ∀ s, accepts r1 s = (uuid none).run s)
    (h2 : ∀ s, accepts r2 s = (uuid (some v)).run s) : ∀ s, (accepts r1 s && accepts r2 s) = (uuid (some v)).run s := fun s => by
  rw [h1, h2]; exact and_of_incl (uuid_incl v hv s)

/-- the regenerated expressions of `UUID("vN")` unfold to those of `UUID()` and `UUIDvN()`: hence `c20_uuid`, `c20_uuidvN` -/
theorem c20_uuidp4 : ∀ s, (accepts Gen.val_uuidp4 s && accepts Gen.val_uuidp4_2 s) = (uuid (some 4)).run s :=
  uuidp_of 4 (by decide) c20_uuid c20_uuidv4
theorem c20_uuidp4_pattern : ∀ s, (accepts Gen.pat_uuidp4 s && accepts Gen.pat_uuidp4_2 s) = (uuid (some 4)).run s := c20_uuidp4

theorem c20_uuidp6 : ∀ s, (accepts Gen.val_uuidp6 s && accepts Gen.val_uuidp6_2 s) = (uuid (some 6)).run s :=
  uuidp_of 6 (by decide) c20_uuid c20_uuidv6
theorem c20_uuidp6_pattern : ∀ s, (accepts Gen.pat_uuidp6 s && accepts Gen.pat_uuidp6_2 s) = (uuid (some 6)).run s := c20_uuidp6

theorem c20_uuidp7 : ∀ s, (accepts Gen.val_uuidp7 s && accepts Gen.val_uuidp7_2 s) = (uuid (some 7)).run s :=
  uuidp_of 7 (by decide) c20_uuid c20_uuidv7
theorem c20_uuidp7_pattern : ∀ s, (accepts Gen.pat_uuidp7 s && accepts Gen.pat_uuidp7_2 s) = (uuid (some 7)).run s := c20_uuidp7

end Gozod.C20
