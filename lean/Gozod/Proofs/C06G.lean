/-
  C06 — nested struct fields, the same struct type reached several times, recursive types.

  Type graphs, all environments and all finite values: theorems about `Graph.Code`, the
  transcription of the cycle-detection walk of types/struct.go, against `Graph.Spec`.
  The regenerated table `Gen.graphTable` IS the model on every probe, hence — through the general
  theorems — the documented meaning wherever the type graph is acyclic and the value touches no known deviation.
-/
import Gozod.Model.TagGraph
import Gozod.Gen.TagGraph

namespace Gozod.C06
open Gozod.Tags.Graph

/-- the type graph is acyclic and numbered topologically: every edge goes to a larger index -/
def Ranked (env : Env) : Prop := ∀ t, ∀ e ∈ (decl env t).edges, t < e.target

def rankedB (env : Env) : Bool :=
  (List.range env.length).all fun t => (decl env t).edges.all fun e => decide (t < e.target)

theorem ranked_of_rankedB (env : Env) (h : rankedB env = true) : Ranked env := by
  intro t e he
  by_cases ht : t < env.length
  · have := List.all_eq_true.mp h t (List.mem_range.mpr ht)
    have := List.all_eq_true.mp this e he
    simpa using this
  · have : decl env t = ⟨none, []⟩ := by
      unfold decl
      simp [List.getD, List.getElem?_eq_none (Nat.le_of_not_lt ht)]
    rw [this] at he
    cases he

theorem contains_false_of_lt (visited : List Nat) (t : Nat) (h : ∀ u ∈ visited, u < t) : visited.contains t = false :=
  Bool.eq_false_iff.mpr fun hc => Nat.lt_irrefl t (h t (List.contains_iff_mem.mp hc))

theorem onPath_false (cyc : Bool) (visited : List Nat) (t : Nat) (h : ∀ u ∈ visited, u < t) :
    Code.onPath cyc visited t = false := by
  rw [Code.onPath, contains_false_of_lt visited t h, Bool.and_false]

theorem onPath_off (visited : List Nat) (t : Nat) : Code.onPath false visited t = false := by simp [Code.onPath]

theorem ranked_step (env : Env) (hr : Ranked env) (visited : List Nat) (t : Nat) (hv : ∀ u ∈ visited, u < t) :
    ∀ e' ∈ (decl env t).edges, ∀ u ∈ t :: visited, u < e'.target := by
  intro e' he' u hu
  have := hr t e' he'
  rcases List.mem_cons.mp hu with h | h
  · omega
  · have := hv u h; omega

/- As long as every type in `visited` is below the type being expanded, the cycle test is false, and `ranked_step`
   keeps it so one level down.  The second list `w` is arbitrary: with the test switched off (`onPath false`) it is never read. -/
mutual
theorem cEdges_dag (env : Env) (hr : Ranked env) : (xs : List GVal) → (visited w : List Nat) → (es : List Edge) →
    (∀ e ∈ es, ∀ u ∈ visited, u < e.target) → Code.cEdges true env visited es xs = Code.cEdges false env w es xs
  | [], _, _, es, _ => by cases es <;> rfl
  | _ :: _, _, _, [], _ => rfl
  | x :: xs, visited, w, e :: es, hes => by
    simp only [Code.cEdges]
    rw [cEdge_dag env hr x visited w e (hes e (by simp)),
        cEdges_dag env hr xs visited w es (fun e' he' => hes e' (by simp [he']))]
theorem cEdge_dag (env : Env) (hr : Ranked env) : (x : GVal) → (visited w : List Nat) → (e : Edge) →
    (∀ u ∈ visited, u < e.target) → Code.cEdge true env visited e x = Code.cEdge false env w e x
  | .nil, visited, w, e, hv => by simp only [Code.cEdge, onPath_false true visited e.target hv, onPath_off]
  | .node v kids, visited, w, e, hv => by
    simp only [Code.cEdge, onPath_false true visited e.target hv, onPath_off]
    rw [cEdges_dag env hr kids _ (e.target :: w) _ (ranked_step env hr visited e.target hv)]
  | .list xs, visited, w, e, hv => by
    simp only [Code.cEdge, onPath_false true visited e.target hv, onPath_off]
    rw [cAll_dag env hr xs visited w _ _ hv]
theorem cAll_dag (env : Env) (hr : Ranked env) : (xs : List GVal) → (visited w : List Nat) → (tagged : Bool) → (t : Nat) →
    (∀ u ∈ visited, u < t) → Code.cAll true env visited tagged t xs = Code.cAll false env w tagged t xs
  | [], _, _, _, _, _ => rfl
  | .nil :: xs, visited, w, tagged, t, hv => by simp only [Code.cAll]; rw [cAll_dag env hr xs visited w tagged t hv]
  | .list _ :: _, _, _, _, _, _ => rfl
  | .node v kids :: xs, visited, w, tagged, t, hv => by
    simp only [Code.cAll]
    rw [cAll_dag env hr xs visited w tagged t hv,
        cEdges_dag env hr kids _ (t :: w) _ (ranked_step env hr visited t hv)]
end

/-- The cycle test never fires on an acyclic type graph: however often and in whatever order a struct type
    occurs among the fields, the verdict of the schema FromStruct builds is the verdict of the same walk with the
    Lazy path removed. -/
theorem c06_graph_no_lazy_on_dag (env : Env) (hr : Ranked env) (v : GVal) :
    Code.cStruct true env [] 0 v = Code.cStruct false env [] 0 v := by
  cases v with
  | nil => rfl
  | list xs => rfl
  | node x kids =>
    simp only [Code.cStruct]
    rw [cEdges_dag env hr kids [0] [0] _ (ranked_step env hr [] 0 (by simp))]

theorem vEdges_untagged (env : Env) (es : List Edge) (h : ∀ e ∈ es, e.tagged = false) (xs : List GVal) :
    Spec.vEdges env es xs = true := by
  induction es generalizing xs with
  | nil => cases xs <;> simp [Spec.vEdges]
  | cons e es ih =>
    cases xs with
    | nil => simp [Spec.vEdges]
    | cons x xs =>
      simp only [Spec.vEdges, h e (by simp), Bool.not_false, Bool.true_or, Bool.true_and]
      exact ih (fun e' he' => h e' (by simp [he'])) xs

theorem plain_valid (env : Env) (d : SDecl) (h : Code.hasTags d = false) (v : Int) (kids : List GVal) :
    scalarOK d v = true ∧ Spec.vEdges env d.edges kids = true := by
  simp only [Code.hasTags, Bool.or_eq_false_iff] at h
  refine ⟨?_, ?_⟩
  · cases hv : d.vmin with
    | none => simp [scalarOK, hv]
    | some k => simp [hv] at h
  · apply vEdges_untagged
    intro e he
    have := h.2
    simp only [List.any_eq_false] at this
    simpa using this e he

mutual
theorem cEdges_spec (env : Env) : (xs : List GVal) → (w : List Nat) → (es : List Edge) →
    Dev.devEdges env es xs = false → Code.cEdges false env w es xs = Spec.vEdges env es xs
  | [], _, es, _ => by cases es <;> rfl
  | _ :: _, _, [], _ => rfl
  | x :: xs, w, e :: es, hd => by
    simp only [Dev.devEdges, Bool.or_eq_false_iff] at hd
    simp only [Code.cEdges, Spec.vEdges]
    rw [cEdges_spec env xs w es hd.2]
    by_cases ht : e.tagged = true
    · rw [cEdge_spec env x w e (by simpa [ht] using hd.1)]
    · simp [ht]
theorem cEdge_spec (env : Env) : (x : GVal) → (w : List Nat) → (e : Edge) →
    Dev.devEdge env e x = false → Code.cEdge false env w e x = Spec.vEdge env e x
  | .nil, w, e, hd => by
    simp only [Dev.devEdge, Dev.nilDev] at hd
    simp only [Code.cEdge, Spec.vEdge, onPath_off]
    cases hw : e.wrap <;> simp [hw] at hd ⊢ <;> (try simp [hd])
    -- `.ptr`: spec = ¬required; code = ¬hasTags ∧ ¬required; no deviation means required ∨ ¬hasTags
    all_goals (cases hr : (e.tag == ETag.required) <;> cases ht : Code.hasTags (decl env e.target) <;> simp_all)
  | .node v kids, w, e, hd => by
    simp only [Dev.devEdge] at hd
    simp only [Code.cEdge, Spec.vEdge, onPath_off]
    by_cases hc : (e.wrap.isSlice || e.wrap.isMap) = true
    · simp [hc]
    · have hc' : (e.wrap.isSlice || e.wrap.isMap) = false := by simpa using hc
      simp only [hc', Bool.not_false, Bool.true_and, Bool.false_eq_true, if_false] at hd ⊢
      by_cases ht : Code.hasTags (decl env e.target) = true
      · simp only [ht, Bool.true_and, if_true] at hd ⊢
        rw [cEdges_spec env kids _ _ hd]
      · have ht' : Code.hasTags (decl env e.target) = false := by simpa using ht
        have := plain_valid env _ ht' v kids
        simp [ht', this.1, this.2]
  | .list xs, w, e, hd => by
    simp only [Dev.devEdge, Bool.or_eq_false_iff] at hd
    simp only [Code.cEdge, Spec.vEdge]
    by_cases hm : e.wrap.isMap = true
    · have h1 : lenOK e.tag xs.length = true := by simpa [hm] using hd.1
      have h2 := hd.2
      simp only [hm, Bool.or_true, Bool.true_and] at h2
      simp only [hm, if_true, Bool.or_true, Bool.true_and, h1]
      exact cAll_spec env xs _ _ h2
    · have hm' : e.wrap.isMap = false := by simpa using hm
      by_cases hs : e.wrap.isSlice = true
      · have h2 := hd.2
        simp only [hs, Bool.true_or, Bool.true_and] at h2
        simp only [hm', hs, onPath_off, Bool.false_eq_true, if_false, if_true, Bool.true_or, Bool.true_and]
        rw [cAll_spec env xs _ _ h2]
      · have hs' : e.wrap.isSlice = false := by simpa using hs
        simp [hm', hs']
theorem cAll_spec (env : Env) : (xs : List GVal) → (w : List Nat) → (t : Nat) →
    Dev.devAll env (Code.hasTags (decl env t)) t xs = false →
    Code.cAll false env w (Code.hasTags (decl env t)) t xs = Spec.vAll env t xs
  | [], _, _, _ => rfl
  | .nil :: xs, w, t, hd => by
    simp only [Dev.devAll, Bool.or_eq_false_iff] at hd
    have h2 := cAll_spec env xs w t hd.2
    rw [hd.1] at h2
    simp only [Code.cAll, Spec.vAll, hd.1, Bool.not_false, Bool.true_and]
    exact h2
  | .list _ :: _, _, _, _ => rfl
  | .node v kids :: xs, w, t, hd => by
    simp only [Dev.devAll, Bool.or_eq_false_iff] at hd
    simp only [Code.cAll, Spec.vAll]
    rw [cAll_spec env xs w t hd.2]
    by_cases ht : Code.hasTags (decl env t) = true
    · rw [cEdges_spec env kids (t :: w) _ (by simpa [ht] using hd.1)]
      simp [ht, Bool.and_assoc]
    · have ht' : Code.hasTags (decl env t) = false := by simpa using ht
      have := plain_valid env _ ht' v kids
      simp [ht', this.1, this.2]
end

/-- The walk is the documented meaning: the walk without the Lazy path computes the documented meaning on every value that touches
    none of the listed deviations (`Dev.dev`). -/
theorem c06_graph_walk_is_spec (env : Env) (v : GVal) (hd : Dev.dev env v = false) :
    Code.cStruct false env [] 0 v = Spec.vStruct env 0 v := by
  cases v with
  | nil => rfl
  | list xs => rfl
  | node x kids =>
    simp only [Code.cStruct, Spec.vStruct]
    rw [cEdges_spec env kids [0] _ hd]

/-- Full statement (false on the current code): FromStruct's schema accepts a value of the root type iff every
    tagged field, nested ones included, satisfies its rules. -/
def c06_graph_full : Prop := ∀ env v, Code.builds env = true → Code.check env v = Spec.vStruct env 0 v

/-- Nested struct fields (partial): on an acyclic type graph — however often and in whatever order a
    struct type is reached — the verdict of the outer struct is the conjunction over all tagged fields including
    the nested ones, for every finite value that touches none of the listed deviations. -/
theorem c06_graph_partial (env : Env) (hr : Ranked env) (v : GVal) (hd : Dev.dev env v = false) :
    Code.check env v = Spec.vStruct env 0 v := by
  unfold Code.check
  rw [c06_graph_no_lazy_on_dag env hr v, c06_graph_walk_is_spec env v hd]

/-- `type Node struct { V int "min=3"; Next *Node "required" }` -/
def envNode : Env := [⟨some 3, [⟨.ptr, 0, .required⟩]⟩]
/-- `type Tree struct { V int "min=3"; Kids []*Tree "max=2" }` -/
def envTree : Env := [⟨some 3, [⟨.sliceptr, 0, .maxLen 2⟩]⟩]
/-- `type R struct { V int "min=3"; X L "required"; Y []L "max=2" }; type L struct { V int "min=3" }` -/
def envTwice : Env := [⟨some 3, [⟨.val, 1, .required⟩, ⟨.slice, 1, .maxLen 2⟩]⟩, ⟨some 3, []⟩]

/-- a recursive type: the second level is never validated — `Tree{V:5, Kids:{&Tree{V:1}}}` is accepted -/
theorem c06_graph_recursive_unchecked :
    Code.builds envTree = true ∧
    Code.check envTree (.node 5 [.list [.node 1 [.list []]]]) = true ∧
    Spec.vStruct envTree 0 (.node 5 [.list [.node 1 [.list []]]]) = false := by decide

/-- below the first level a `required` pointer may be nil and a rule may be violated:
    `Node{V:5, Next:&Node{V:1, Next:nil}}` is accepted (the first level rejects a nil `Next` since bc2d4fc) -/
theorem c06_graph_recursive_required_nil :
    Code.check envNode (.node 5 [.nil]) = false ∧
    Code.check envNode (.node 5 [.node 1 [.nil]]) = true ∧ Spec.vStruct envNode 0 (.node 5 [.node 1 [.nil]]) = false := by decide

/-- a nil slice in a field that is not `required` is rejected: `R{V:5, X:L{V:5}, Y:nil}` -/
theorem c06_graph_nil_slice_rejected :
    Code.check envTwice (.node 5 [.node 5 [], .nil]) = false ∧ Spec.vStruct envTwice 0 (.node 5 [.node 5 [], .nil]) = true := by decide

theorem c06_graph_full_false : ¬ c06_graph_full := by
  intro h
  have := h envTree (.node 5 [.list [.node 1 [.list []]]]) (by decide)
  revert this
  decide

/-- `type R struct { V int "min=3"; M map[string]R "required" }` -/
def envMapRec : Env := [⟨some 3, [⟨.map, 0, .required⟩]⟩]

/-- a type recursive through a map value: the construction returns (the map walk shares `visited`), and the type
    joins the recursive class — `R{V:5, M:{"a": R{V:1, M:{}}}}` is accepted -/
theorem c06_graph_map_recursion_builds :
    Code.builds envMapRec = true ∧
    Code.check envMapRec (.node 5 [.list [.node 1 [.list []]]]) = true ∧
    Spec.vStruct envMapRec 0 (.node 5 [.list [.node 1 [.list []]]]) = false := by decide

-- the hypotheses of `c06_graph_partial` are inhabited
example : Ranked envTwice ∧ Dev.dev envTwice (.node 5 [.node 5 [], .list [.node 5 [], .node 1 []]]) = false ∧
    Code.check envTwice (.node 5 [.node 5 [], .list [.node 5 [], .node 1 []]]) = false :=
  ⟨ranked_of_rankedB _ (by decide), by decide, by decide⟩

section Table
open Gozod.Gen

def rowModelOK (r : GRow) : Bool :=
  (r.built == Code.builds r.env) &&
  r.probes.all fun p => p.2 == Obs.ofBool (Code.check r.env p.1)

/-- The table is the model: for every root of the regenerated table (type graph read back by
    reflection from the compiled Go types), FromStruct returns iff `Code.builds`, and `FromStruct[Root]().Parse`
    on every probe value gives `Code.check`. -/
theorem c06_graph_table_is_model : ∀ r ∈ graphTable, rowModelOK r = true := by
  have h : graphTable.all rowModelOK = true := by decide +kernel
  exact fun r hr => List.all_eq_true.mp h r hr

/-- Full statement over the table (false, see `C06W`): every root builds and every probe gets the documented verdict. -/
def c06_graph_table_full : Prop :=
  ∀ r ∈ graphTable, r.built = true ∧ ∀ p ∈ r.probes, p.2 = Obs.ofBool (Spec.vStruct r.env 0 p.1)

/-- Nested struct fields over the table (partial): on every acyclic root the real schema's verdict on every
    probe that touches no listed deviation is the documented one.
    Derived from the table being the model and the general theorem, not decided cell by cell. -/
theorem c06_graph_table_partial :
    ∀ r ∈ graphTable, rankedB r.env = true → ∀ p ∈ r.probes, Dev.dev r.env p.1 = false →
      p.2 = Obs.ofBool (Spec.vStruct r.env 0 p.1) := by
  intro r hr hrk p hp hd
  have hm := c06_graph_table_is_model r hr
  simp only [rowModelOK, Bool.and_eq_true, List.all_eq_true] at hm
  have := hm.2 p hp
  rw [← c06_graph_partial r.env (ranked_of_rankedB _ hrk) p.1 hd]
  simpa using this

def allWraps : List Wrap := [.val, .ptr, .slice, .sliceptr, .map, .mapptr, .emb]

/-- some root reaches one tagged struct type through two tagged fields with these wraps, in this order -/
def hasTwice (w₁ w₂ : Wrap) : Bool :=
  graphTable.any fun r =>
    match r.env with
    | d :: _ =>
      (match d.edges with
       | [e₁, e₂] => e₁.wrap == w₁ && e₂.wrap == w₂ && e₁.target == e₂.target && e₁.tagged && e₂.tagged &&
                     Code.hasTags (decl r.env e₁.target) && rankedB r.env && r.probes.length ≥ 4
       | _ => false)
    | [] => false

def hasMapBackEdge (env : Env) : Bool :=
  (List.range env.length).any fun t => (decl env t).edges.any fun e => e.wrap.isMap && decide (e.target ≤ t)

def isRecursiveRow (r : GRow) : Bool := !rankedB r.env && r.built && r.probes.length ≥ 4

/-- Coverage of the table: every ordered pair of wraps (except two embeddings of one type, which Go rejects) occurs as two
    sibling fields of one tagged struct type, and there are recursive roots, roots recursive through a map value and acyclic
    roots with three or more struct types (the last count stands for the three-occurrence and diamond-shaped graphs, whose
    shapes the statement does not test).  8, 3 and 6 are floors, so that a regenerated table cannot lose a kind of root
    unnoticed. -/
theorem c06_graph_table_covers :
    (allWraps.all fun w₁ => allWraps.all fun w₂ => (w₁ == .emb && w₂ == .emb) || hasTwice w₁ w₂) = true ∧
    (graphTable.filter isRecursiveRow).length ≥ 8 ∧
    (graphTable.filter fun r => hasMapBackEdge r.env).length ≥ 3 ∧
    (graphTable.filter fun r => rankedB r.env && decide (r.env.length ≥ 3)).length ≥ 6 := by
  decide +kernel

end Table

end Gozod.C06
