/-
  C20 — `regex.IPv6` against the definition on the addresses that end in a dotted quad.

  The two alternatives of the pattern that take a quad are a hex part the pattern knows and four octet patterns (`pat_quad`);
  the octet pattern is the definition's octet, or '0' and one more digit (`octet_v6`).  The excluded region `Fmt.ipv6QuadDefect`
  is read forward along the same cut: over the groups of the hex part (`Head`: what its state keeps of them), then over four
  octets of one to three digits (`quad_run`); it accepts when an octet of two or more digits begins with '0' or the hex part is
  not a known one.  So outside it a match is an address and an address with a quad is matched.
-/
import Gozod.Proofs.C20V6QuadPat
import Gozod.Model.FormatSpecV6E
namespace Gozod.C20
open Gozod Gozod.Re Gozod.Fmt
open Gozod.Parsers (isHextet)

/-- `ipv6QuadDefect.gstep` without the `Spec` record -/
def gE : Option V6ESt → Nat → Option V6ESt
  | none, _ => none
  | some q, c => if c = 58 ∨ c = 46 ∨ isHex c = true then quadDefectStep false q c else none

def accE : Option V6ESt → Bool
  | none => false
  | some q => q.ph = 5 && q.k = 3 && q.n ≥ 1 && q.lz

theorem defect_run_eq (s : List Nat) : ipv6QuadDefect.run s = accE (s.foldl gE (some V6ESt.init)) :=
  ipv6QuadDefect.runFrom_congr (fun o c => by
    cases o with
    | none => rfl
    | some q =>
      refine ipv6QuadDefect.gstep_some_of ?_ q
      show ipv6Support.elem c = true ↔ _
      simp only [ipv6Support, elem_cons_iff, hexDigits_elem]) (fun o => by cases o <;> rfl) _ s

/-- a hex digit is in the alphabet and is none of '/', ':', '.' -/
theorem gE_hexdigit {c : Nat} (hx : isHex c = true) (q : V6ESt) : gE (some q) c = quadDefectStep false q c ∧ c ≠ 47 ∧ c ≠ 58 ∧ c ≠ 46 := by
  have hc := (isHex_iff c).1 hx
  exact ⟨if_pos (Or.inr (Or.inr hx)), by omega, by omega, by omega⟩

theorem hex3_runE (q : V6ESt) : ∀ (f : List Nat) (n : Nat) (cf cz dec : Bool), f.all isHex = true → n + f.length ≤ 4 →
    f.foldl gE (some { q with ph := 3, n := n, cf := cf, cz := cz, dec := dec }) =
      some { q with ph := 3, n := n + f.length, cf := cf && f.all (· = 102), cz := cz && f.all (· = 48), dec := dec && f.all isDigit }
  | [], n, cf, cz, dec, _, _ => by simp
  | c :: f, n, cf, cz, dec, hf, hn => by
    rw [List.all_cons, Bool.and_eq_true] at hf
    rw [List.length_cons] at hn
    obtain ⟨e, h47, h58, h46⟩ := gE_hexdigit hf.1 { q with ph := 3, n := n, cf := cf, cz := cz, dec := dec }
    rw [List.foldl_cons, e]
    simp only [quadDefectStep, h47, h58, h46, hf.1, show n < 4 by omega]
    refine (hex3_runE q f (n + 1) _ _ _ hf.2 (by omega)).trans ?_
    simp [Nat.add_assoc, Nat.add_comm 1, Bool.and_assoc]

theorem group_run {q : V6ESt} (hq : AtHead q.ph q.g) {f : List Nat} (hf : isHextet f = true) :
    f.foldl gE (some q) =
      some { q with ph := 3, n := f.length, cf := f.all (· = 102), cz := f.all (· = 48), dec := f.all isDigit, z0 := f.head? = some 48 } := by
  obtain ⟨hne, h4, hx⟩ := (isHextet_iff f).1 hf
  cases f with
  | nil => exact absurd rfl hne
  | cons c f =>
    rw [List.all_cons, Bool.and_eq_true] at hx
    obtain ⟨e, h47, h58, h46⟩ := gE_hexdigit hx.1 q
    have hstart : gE (some q) c = some (q.startGroup c) := by
      rw [e]
      rcases hq with h | h | h <;> simp [quadDefectStep, h47, h58, h46, hx.1, h]
    rw [List.foldl_cons, hstart]
    refine (hex3_runE { q with z0 := c = 48 } f 1 _ _ _ hx.2 (by rw [List.length_cons] at h4; omega)).trans ?_
    simp [Nat.add_comm 1]

/-- the defect automaton stands where a group may begin, with this much of the hex part behind it: `g` groups, `pre` of them
    before the "::" if there was one (`ell = 1`); after a leading "::", `ff`: the first group was "ffff", `zz`: the second all zeros -/
def Head (o : Option V6ESt) (ph g ell pre : Nat) (ff zz : Bool) : Prop :=
  ∃ q, o = some q ∧ q.ph = ph ∧ q.g = g ∧ q.ell = ell ∧ q.pre = pre ∧ q.ff = ff ∧ q.zz = zz

theorem gE_colon3 {q : V6ESt} (h3 : q.ph = 3) :
    gE (some q) 58 = if (q.ell = 0 ∧ q.g + 1 ≤ 7) ∨ (q.ell = 1 ∧ q.g + 1 ≤ 6) then
      some { q with ph := 4, g := q.g + 1, n := 0,
                    ff := if q.ell = 1 ∧ q.pre = 0 ∧ q.g = 0 then (q.cf && q.n = 4) else q.ff,
                    zz := if q.ell = 1 ∧ q.pre = 0 ∧ q.g = 1 then q.cz else q.zz } else none := by
  simp only [gE, quadDefectStep, h3]
  rfl

theorem head_gc {o : Option V6ESt} {ph g ell pre : Nat} {ff zz : Bool} (h : Head o ph g ell pre ff zz) (hph : AtHead ph g)
    (hroom : (ell = 0 ∧ g + 1 ≤ 7) ∨ (ell = 1 ∧ g + 1 ≤ 6)) {f : List Nat} (hf : isHextet f = true) :
    Head ((f ++ [58]).foldl gE o) 4 (g + 1) ell pre
      (if ell = 1 ∧ pre = 0 ∧ g = 0 then (f.all (· = 102) && f.length = 4) else ff)
      (if ell = 1 ∧ pre = 0 ∧ g = 1 then f.all (· = 48) else zz) := by
  obtain ⟨q, rfl, rfl, rfl, rfl, rfl, rfl, rfl⟩ := h
  rw [List.foldl_append, group_run hph hf, List.foldl_cons, List.foldl_nil, gE_colon3 rfl, if_pos hroom]
  exact ⟨_, rfl, rfl, rfl, rfl, rfl, rfl, rfl⟩

theorem head_rep {ell pre : Nat} : ∀ {j : Nat} {b : List Nat} {o : Option V6ESt} {ph g : Nat} {ff zz : Bool},
    Head o ph g ell pre ff zz → AtHead ph g → Rep GC (j + 1) b → (ell = 0 ∧ g + (j + 1) ≤ 7) ∨ (ell = 1 ∧ g + (j + 1) ≤ 6) →
    ∃ ff' zz', Head (b.foldl gE o) 4 (g + (j + 1)) ell pre ff' zz'
  | 0, _, _, _, _, _, _, h, hph, ⟨_, _, rfl, ⟨f, hf, rfl⟩, rfl⟩, hroom => by
    rw [List.append_nil]; exact ⟨_, _, head_gc h hph hroom hf⟩
  | j + 1, _, _, _, g, _, _, h, hph, ⟨_, b, rfl, ⟨f, hf, rfl⟩, hb⟩, hroom => by
    rw [List.foldl_append, ← Nat.add_assoc g, Nat.add_right_comm]
    exact head_rep (head_gc h hph (by omega) hf) .four hb (by omega)

theorem head_ell {o : Option V6ESt} {g pre : Nat} {ff zz : Bool} (h : Head o 4 g 0 pre ff zz) : Head (gE o 58) 2 g 1 g ff zz := by
  obtain ⟨q, rfl, h4, rfl, h0, rfl, rfl, rfl⟩ := h
  refine ⟨{ q with ph := 2, ell := 1, pre := q.g }, ?_, rfl, rfl, rfl, rfl, rfl, rfl⟩
  simp [gE, quadDefectStep, h4, h0]

theorem head_init : Head (some V6ESt.init) 0 0 0 0 false false := ⟨_, rfl, rfl, rfl, rfl, rfl, rfl, rfl⟩

theorem head_ell0 : Head (gE (gE (some V6ESt.init) 58) 58) 2 0 1 0 false false := ⟨_, rfl, rfl, rfl, rfl, rfl, rfl, rfl⟩

theorem head_first {f : List Nat} (hf : isHextet f = true) :
    Head ((f ++ [58]).foldl gE (gE (gE (some V6ESt.init) 58) 58)) 4 1 1 0 (f.all (· = 102) && f.length = 4) false :=
  head_gc head_ell0 (.two (by decide)) (Or.inr ⟨rfl, by decide⟩) hf

theorem head_second {f z : List Nat} (hf : isHextet f = true) (hz : isHextet z = true) :
    Head ((z ++ [58]).foldl gE ((f ++ [58]).foldl gE (gE (gE (some V6ESt.init) 58) 58))) 4 2 1 0
      (f.all (· = 102) && f.length = 4) (z.all (· = 48)) :=
  head_gc (head_first hf) .four (Or.inr ⟨rfl, by decide⟩) hz

/-- one to three digits: all the excluded region asks of an octet -/
def Oct (b : List Nat) : Prop := b.all isDigit = true ∧ 1 ≤ b.length ∧ b.length ≤ 3

def leadZero (b : List Nat) : Bool := b.head? = some 48 && b.length ≥ 2

/-- the defect automaton inside the dotted quad: `k` dots read, `n` digits of the octet, which begins with '0' (`z0`);
    `lz`: a defect was seen -/
def quadE (k n : Nat) (z0 lz : Bool) : V6ESt := { V6ESt.init with ph := 5, k := k, n := n, z0 := z0, lz := lz }

/-- the '.' after a first octet that was read as a group: the hex part is judged here -/
theorem gE_dot3 {q : V6ESt} (h3 : q.ph = 3) :
    gE (some q) 46 = if q.dec = true ∧ q.n ≤ 3 ∧ quadMayStart q.g q.ell = true then
      some (quadE 1 0 false ((q.z0 && q.n ≥ 2) || !q.knownOutline)) else none := by
  simp [gE, quadDefectStep, h3]
  rfl

theorem gE_dot5 (k n : Nat) (z0 lz : Bool) :
    gE (some (quadE k n z0 lz)) 46 = if n ≥ 1 ∧ k < 3 then some (quadE (k + 1) 0 false lz) else none := rfl

theorem gE_digit5 {c : Nat} (hc : isDigit c = true) (k n : Nat) (z0 lz : Bool) :
    gE (some (quadE k n z0 lz)) c =
      if n = 0 then some (quadE k 1 (c = 48) lz) else if n < 3 then some (quadE k (n + 1) z0 (lz || z0)) else none := by
  have := (isDigit_iff c).1 hc
  simp only [gE, if_pos (Or.inr (Or.inr (isHex_of_isDigit hc))), quadDefectStep, quadE, if_neg (show c ≠ 47 by omega),
    if_neg (show c ≠ 46 by omega), hc]
  rfl

theorem oct5_run {b : List Nat} (hb : Oct b) (k : Nat) (z0 lz : Bool) :
    b.foldl gE (some (quadE k 0 z0 lz)) = some (quadE k b.length (b.head? = some 48) (lz || leadZero b)) := by
  obtain ⟨hd, h1, h3⟩ := hb
  rcases b with _ | ⟨x, _ | ⟨y, _ | ⟨z, _ | ⟨_, _⟩⟩⟩⟩
  · cases h1
  iterate 3
    · simp only [List.all_cons, Bool.and_eq_true] at hd
      simp [gE_digit5, hd, leadZero]
  · simp at h3

theorem Oct.hextet {a : List Nat} (ha : Oct a) : isHextet a = true :=
  (isHextet_iff a).2 ⟨fun e => by rw [e] at ha; exact absurd ha.2.1 (by decide), Nat.le_succ_of_le ha.2.2,
    List.all_eq_true.2 fun c hc => isHex_of_isDigit (List.all_eq_true.1 ha.1 c hc)⟩

/-- the excluded region on a hex part and four octets: an octet of two or more digits begins with '0', or the hex part is not a
    known outline -/
theorem quad_run {q : V6ESt} (hq : AtHead q.ph q.g) (hm : quadMayStart q.g q.ell = true) {a b c d : List Nat}
    (ha : Oct a) (hb : Oct b) (hc : Oct c) (hd : Oct d) :
    accE ((a ++ 46 :: (b ++ 46 :: (c ++ 46 :: d))).foldl gE (some q)) =
      (leadZero a || !q.knownOutline || leadZero b || leadZero c || leadZero d) := by
  rw [List.foldl_append, group_run hq ha.hextet, List.foldl_cons, gE_dot3 rfl, if_pos ⟨ha.1, ha.2.2, hm⟩,
    List.foldl_append, oct5_run hb, List.foldl_cons, gE_dot5, if_pos ⟨hb.2.1, by decide⟩,
    List.foldl_append, oct5_run hc, List.foldl_cons, gE_dot5, if_pos ⟨hc.2.1, by decide⟩, oct5_run hd]
  show (decide (d.length ≥ 1) && _) = _
  rw [decide_eq_true hd.2.1]
  rfl

/-- where the quad may begin, the state says whether the hex part is a known outline: by `g`, `ell`, `pre`, `ff`, `zz` alone -/
theorem Head.reach {o : Option V6ESt} {ph g ell pre : Nat} {ff zz : Bool} (h : Head o ph g ell pre ff zz) (hph : AtHead ph g)
    (hm : quadMayStart g ell = true) {P : Prop}
    (hP : V6ESt.knownOutline { V6ESt.init with g := g, ell := ell, pre := pre, ff := ff, zz := zz } = true → P) :
    ∃ q, o = some q ∧ AtHead q.ph q.g ∧ quadMayStart q.g q.ell = true ∧ (q.knownOutline = true → P) := by
  obtain ⟨q, rfl, rfl, rfl, rfl, rfl, rfl, rfl⟩ := h
  exact ⟨q, rfl, hph, hm, hP⟩

theorem all_eq_replicate {f : List Nat} {c : Nat} (h : f.all (· = c) = true) : f = List.replicate f.length c :=
  List.eq_replicate_iff.2 ⟨rfl, fun _ hx => of_decide_eq_true (List.all_eq_true.1 h _ hx)⟩

/-- the hex part of an address with a dotted quad leads to a state where the quad may begin; the state says "known outline"
    of no other hex part than the four -/
theorem QuadHex.reach {p : List Nat} (hp : QuadHex p) : ∃ q, p.foldl gE (some V6ESt.init) = some q ∧ AtHead q.ph q.g ∧
    quadMayStart q.g q.ell = true ∧ (q.knownOutline = true → Known p) := by
  rcases hp with h6 | ⟨i, j, a, b, rfl, ha, hb, hij⟩
  · obtain ⟨ff, zz, h⟩ := head_rep head_init (Or.inl rfl) h6 (Or.inl ⟨rfl, by decide⟩)
    exact h.reach .four rfl (fun h => nomatch h)
  · rw [List.foldl_append, List.foldl_cons]
    cases i with
    | zero =>
      rw [BeforeEll, if_pos rfl] at ha
      subst ha
      rcases j with _ | _ | _ | j
      · obtain rfl : b = [] := hb
        exact head_ell0.reach (.two (by decide)) rfl fun _ => Or.inl rfl
      · obtain ⟨_, _, rfl, ⟨f, hf, rfl⟩, rfl⟩ := hb
        rw [List.append_nil]
        refine (head_first hf).reach .four rfl fun h => Or.inr (Or.inl ?_)
        obtain ⟨hf102, hf4⟩ : f.all (· = 102) = true ∧ f.length = 4 := by simpa [V6ESt.knownOutline] using h
        rw [all_eq_replicate hf102, hf4]
        rfl
      · obtain ⟨_, _, rfl, ⟨f, hf, rfl⟩, _, _, rfl, ⟨z, hz, rfl⟩, rfl⟩ := hb
        rw [List.append_nil, List.foldl_append]
        refine (head_second hf hz).reach .four rfl fun h => Or.inr (Or.inr (Or.inl ⟨z.length, ?_⟩))
        obtain ⟨⟨hf102, hf4⟩, hz48⟩ : (f.all (· = 102) = true ∧ f.length = 4) ∧ z.all (· = 48) = true := by
          simpa [V6ESt.knownOutline] using h
        obtain ⟨hne, hz4, _⟩ := (isHextet_iff z).1 hz
        refine ⟨List.length_pos_iff.2 hne, hz4, ?_⟩
        rw [all_eq_replicate hf102, hf4, all_eq_replicate hz48, List.length_replicate]
        simp
      · obtain ⟨ff, zz, h⟩ := head_rep head_ell0 (.two (by decide)) hb (Or.inr ⟨rfl, by omega⟩)
        exact h.reach .four (by rw [quadMayStart_one]; omega) fun h => by simp [V6ESt.knownOutline] at h
    | succ i =>
      rw [BeforeEll, if_neg (Nat.succ_ne_zero i)] at ha
      obtain ⟨ff, zz, h⟩ := head_rep head_init (Or.inl rfl) ha (Or.inl ⟨rfl, by omega⟩)
      rw [Nat.zero_add] at h
      cases j with
      | zero =>
        obtain rfl : b = [] := hb
        refine (head_ell h).reach (.two (by omega)) (by rw [quadMayStart_one]; omega) fun h => ?_
        exact Or.inr (Or.inr (Or.inr ⟨i + 1, a, by omega, by simpa [V6ESt.knownOutline] using h, ha, rfl⟩))
      | succ j =>
        obtain ⟨ff', zz', h'⟩ := head_rep (head_ell h) (.two (by omega)) hb (Or.inr ⟨rfl, by omega⟩)
        exact h'.reach .four (by rw [quadMayStart_one]; omega) fun h => by simp [V6ESt.knownOutline] at h

/-- `25[0-5]|(2[0-4]|1?[0-9])?[0-9]` is an octet of the definition (`octet255`), or '0' and one more digit: a finite fact -/
theorem octet_v6 (b : List Nat) : accepts Gen.ipv6.s60 b =
    (Netip.prefixBits 255 b || (leadZero b && b.length == 2 && b.all isDigit)) := by
  rw [← Dec.run_eq (by decide)]
  refine digits_eval _ (fun b => (Dec 255).run (0, 0) b || (leadZero b && b.length == 2 && b.all isDigit)) 3 (by decide) (by decide)
    (fun b hq => ?_) (by decide +kernel) b
  rcases Bool.or_eq_true_iff.1 hq with h | h
  · rw [Dec.run_eq (by decide)] at h
    exact ⟨(prefixBits_short (by decide) h).1, (prefixBits_short (by decide) h).2.2⟩
  · simp only [Bool.and_eq_true, beq_iff_eq] at h
    exact ⟨h.2, by omega⟩

theorem Oct.of_pattern {b : List Nat} (h : accepts Gen.ipv6.s60 b = true) :
    Oct b ∧ (leadZero b = false → Netip.prefixBits 255 b = true) := by
  rw [octet_v6, Bool.or_eq_true] at h
  rcases h with h | h
  · exact ⟨prefixBits_short (by decide) h, fun _ => h⟩
  · simp only [Bool.and_eq_true, beq_iff_eq] at h
    exact ⟨⟨h.2, by omega, by omega⟩, fun hz => by rw [h.1.1] at hz; cases hz⟩

theorem Oct.of_octet {b : List Nat} (h : Netip.prefixBits 255 b = true) : Oct b ∧ leadZero b = false := by
  refine ⟨prefixBits_short (by decide) h, ?_⟩
  cases b with
  | nil => rfl
  | cons c r =>
    rw [prefixBits_cons, Bool.and_eq_true] at h
    by_cases h48 : c = 48
    · rw [if_pos h48, List.isEmpty_iff] at h
      rw [h.2]; simp [leadZero]
    · simp [leadZero, h48]

/-- the pattern takes a dotted quad after "::", "::ffff:", "::ffff:0…:" or one to four groups and "::"; outside the excluded
    region such a string is an address -/
theorem quad_pattern_sound {s : List Nat} (h : accepts Gen.ipv6.s61 s = true ∨ accepts Gen.ipv6.s62 s = true)
    (he : ipv6QuadDefect.run s = false) : ipv6.run s = true := by
  obtain ⟨p, _, rfl, hp, a, b, c, d, rfl, ha, hb, hc, hd⟩ := (pat_quad s).1 h
  obtain ⟨st, hst, hh, hm, -⟩ := hp.quadHex.reach
  have ha := Oct.of_pattern ha
  have hb := Oct.of_pattern hb
  have hc := Oct.of_pattern hc
  have hd := Oct.of_pattern hd
  rw [defect_run_eq, List.foldl_append, hst, quad_run hh hm ha.1 hb.1 hc.1 hd.1] at he
  simp only [Bool.or_eq_false_iff] at he
  obtain ⟨⟨⟨⟨za, -⟩, zb⟩, zc⟩, zd⟩ := he
  exact ipv6_run_quad hp.quadHex ((ipv4_split _).2 ⟨a, b, c, d, rfl, ha.2 za, hb.2 zb, hc.2 zc, hd.2 zd⟩)

/-- an address that ends in a dotted quad and lies outside the excluded region is matched -/
theorem quad_pattern_complete {p q : List Nat} (hp : QuadHex p) (hq : ipv4.run q = true)
    (he : ipv6QuadDefect.run (p ++ q) = false) :
    accepts Gen.ipv6.s61 (p ++ q) = true ∨ accepts Gen.ipv6.s62 (p ++ q) = true := by
  obtain ⟨a, b, c, d, rfl, ha, hb, hc, hd⟩ := (ipv4_split q).1 hq
  obtain ⟨st, hst, hh, hm, hk⟩ := hp.reach
  have oa := Oct.of_octet ha
  have ob := Oct.of_octet hb
  have oc := Oct.of_octet hc
  have od := Oct.of_octet hd
  rw [defect_run_eq, List.foldl_append, hst, quad_run hh hm oa.1 ob.1 oc.1 od.1, oa.2, ob.2, oc.2, od.2] at he
  have pat : ∀ {o : List Nat}, Netip.prefixBits 255 o = true → accepts Gen.ipv6.s60 o = true := fun h => by rw [octet_v6, h]; rfl
  exact (pat_quad _).2 ⟨p, _, rfl, hk (by simpa using he), a, b, c, d, rfl, pat ha, pat hb, pat hc, pat hd⟩

end Gozod.C20
