/-
  C09 — the complex engine path (`ParseComplex` / `ParseComplexStrict` after 692881a), the legacy
  `ParseComplexStrict` with its witnesses, and the `ParseAny` / `Must*` wrappers.
-/
import Gozod.Model.Complex
namespace Gozod.C09
open Gozod.Cpx

variable {P O T V E : Type}

/-- A result conversion of a type's own `Parse` that does what `ParseComplexStrict`'s tail does. -/
def ConvOK (conv : Bool → Cpx.Res V E → Cpx.Res V E) : Prop := ∀ rPtr r, conv rPtr r = adapt rPtr r

/-- C09, complex engine path: for every validator, behaviour of the checks on pointers / defaults / nil, transform,
    configuration and EVERY input (well-typed or not, nil included) `ParseComplexStrict` answers what the type's `Parse`
    answers: same error, or the same value in the shape of R. In the model both are the engine's `parse` followed by a
    conversion (`ParseComplexStrict` since 692881a), so the whole content is the hypothesis `ConvOK`, which each type has
    to show (`sliceConv_ok`). -/
theorem c09_complex_strict_eq_parse (conv : Bool → Cpx.Res V E → Cpx.Res V E) (hconv : ConvOK conv)
    (env : CEnv P O T V E) (c : CCfg P O T V) (x : CIn V) :
    strictParse env c x = typeParse conv env c x := by
  unfold strictParse typeParse; rw [hconv]

/-- `ZodSlice` is the one type whose pair is the bare engine pair (`Gen/EntryPoints.lean`: `.complex`). -/
theorem sliceConv_ok : ConvOK (sliceConv : Bool → Cpx.Res V E → Cpx.Res V E) := by
  intro rPtr r; cases r <;> rfl

theorem c09_slice_strict_eq_parse (env : CEnv P O T V E) (c : CCfg P O T V) (x : CIn V) :
    strictParse env c x = typeParse sliceConv env c x :=
  c09_complex_strict_eq_parse sliceConv sliceConv_ok env c x

def payload : Cpx.Res V E → Option V
  | .val v => some v
  | .ptr v => some v
  | _ => none

def errorOf : Cpx.Res V E → Option E
  | .err e => some e
  | _ => none

theorem adapt_preserves (rPtr : Bool) (r : Cpx.Res V E) :
    errorOf (adapt rPtr r) = errorOf r ∧ payload (adapt rPtr r) = payload r := by
  cases r <;> cases rPtr <;> exact ⟨rfl, rfl⟩

theorem c09_complex_same_verdict_value (env : CEnv P O T V E) (c : CCfg P O T V) (x : CIn V) :
    errorOf (strictParse env c x) = errorOf (parse env c x) ∧ payload (strictParse env c x) = payload (parse env c x) :=
  adapt_preserves _ _

/-- What `adapt` can return, by the static type; like `adapt_idem` below, about the fixed definition: no theorem here needs it. -/
theorem adapt_shape (rPtr : Bool) (r : Cpx.Res V E) :
    (∀ v, adapt rPtr r = .val v → rPtr = false) ∧ (∀ v, adapt rPtr r = .ptr v → rPtr = true) ∧ adapt rPtr r ≠ .nilPtr := by
  cases r <;> cases rPtr <;> simp [adapt]

theorem adapt_idem (rPtr : Bool) (r : Cpx.Res V E) : adapt rPtr (adapt rPtr r) = adapt rPtr r := by
  cases r <;> cases rPtr <;> rfl

/-- Under the model's reading of a prefault (a non-nil `T`), the "not handled" arm of `handleNilComplex` is dead
    unless a prefault is set. (About the fixed definition; no theorem here needs it.) -/
theorem handleNilComplex_handled (env : CEnv P O T V E) (c : CCfg P O T V)
    (h : resolveDefault c.i = none → c.i.pv = none ∧ c.i.pf = none) :
    ∃ r, pmCore env c true = .handled r ∧ handleNilComplex env c = r := by
  -- every arm is a `.handled _`: the constructor comes out of the conditionals
  have key : ∃ r, pmCore env c true = .handled r := by
    unfold pmCore
    cases hd : resolveDefault c.i with
    | some d => simp only [Bool.not_true, Bool.false_eq_true, if_false, ← apply_ite PM.handled]; exact ⟨_, rfl⟩
    | none =>
      obtain ⟨h1, h2⟩ := h hd
      simp only [h1, h2, Bool.not_true, Bool.false_eq_true, if_false, ← apply_ite PM.handled]
      exact ⟨_, rfl⟩
  obtain ⟨r, hr⟩ := key
  exact ⟨r, hr, by unfold handleNilComplex; rw [hr]⟩

/-- A slice-like type: the validator rejects values below 10 (an element test — nothing to do with
    `checks`), overwrites add 1. -/
def lEnv : CEnv Nat Nat Nat Nat Nat where
  validate := fun cs v => if v < 10 then .error 7 else .ok (if hasOverwrite cs then v + 1 else v)
  firstPass := fun _ _ => none
  checksOnDefault := fun _ d => .val (d + 1)
  checksOnNil := fun _ => .nil
  trans := fun _ r => r
  typeErr := 1
  nonOptErr := 2

def valIn (takes : Bool) (v : Nat) : CIn Nat := { isNil := false, untyped := false, ptrEx := if takes then some (some v) else none, typEx := some v }
def nilPtrIn : CIn Nat := { isNil := true, untyped := false, ptrEx := some none, typEx := none }

/-- Fast path (no checks, no modifiers): the legacy code returns the input without calling the validator
    (`Slice(Int().Min(10))` on `[5]`: StrictParse ok, Parse too_small). -/
theorem legacy_fast_path_witness :
    legacyStrictParse lEnv { i := {}, ptrExTakesValues := true } (valIn true 5) = .val 5 ∧
    strictParse lEnv { i := {}, ptrExTakesValues := true } (valIn true 5) = .err 7 ∧
    typeParse sliceConv lEnv { i := {}, ptrExTakesValues := true } (valIn true 5) = .err 7 := by decide

/-- Strict nil path: Optional is tested before Default (`Optional().Default(d)` on a nil pointer: legacy
    nil, `Parse` the default). -/
theorem legacy_nil_path_witness :
    legacyStrictParse lEnv { i := { optional := true, ptrSchema := true, dv := some 42 } } nilPtrIn = .nilPtr ∧
    strictParse lEnv { i := { optional := true, ptrSchema := true, dv := some 42 } } nilPtrIn = .ptr 42 ∧
    typeParse sliceConv lEnv { i := { optional := true, ptrSchema := true, dv := some 42 } } nilPtrIn = .ptr 42 := by decide

/-- Validation-only path: the validator's verdict, but the INPUT as the value (an overwrite is lost). -/
theorem legacy_validation_only_witness :
    legacyStrictParse lEnv { i := { checks := [.overwrite 0] }, ptrExTakesValues := true } (valIn true 20) = .val 20 ∧
    strictParse lEnv { i := { checks := [.overwrite 0] }, ptrExTakesValues := true } (valIn true 20) = .val 21 := by decide

/-- Fallback: `r.(R)` with `ParseComplex`'s `*T` against R = `T` (a prefault on a value schema whose pointer
    extractor takes values: Parse succeeds, legacy StrictParse a type error). -/
theorem legacy_fallback_witness :
    legacyStrictParse lEnv { i := { pv := some 30 }, ptrExTakesValues := true } (valIn true 20) = .err 1 ∧
    strictParse lEnv { i := { pv := some 30 }, ptrExTakesValues := true } (valIn true 20) = .val 20 := by decide

/-- The pointer pass of the legacy `validatePointer`, then run first, let an overwrite check bypass the validator: a value
    the validator rejects came back accepted — in `Parse` and, since 692881a, in `StrictParse` alike (so never a
    C09 disagreement on the engine pair, but one as soon as one of the two entry points reaches the validator by
    another route: seeded/C09c). -/
theorem legacy_validatePointer_bypass :
    legacyValidatePointer { lEnv with firstPass := fun _ v => some (v + 1) } { i := { checks := [.overwrite 0] } } 5 = .ptr 6 ∧
    validatePointer { lEnv with firstPass := fun _ v => some (v + 1) } { i := { checks := [.overwrite 0] } } 5 = .err 7 := by decide

theorem legacy_not_agreeing :
    ¬ ∀ (c : CCfg Nat Nat Nat Nat) (x : CIn Nat), legacyStrictParse lEnv c x = typeParse sliceConv lEnv c x := by
  intro h
  have := h { i := {}, ptrExTakesValues := true } (valIn true 5)
  revert this; decide

/-- Non-vacuity: the prefault, nil-check, pointer and value arms. -/
example : strictParse lEnv { i := { pv := some 30, ptrSchema := true } } nilPtrIn = .ptr 30 := by decide
example : strictParse lEnv { i := { nonOptional := true } } nilPtrIn = .err 2 := by decide
example : strictParse lEnv { i := { checks := [.pred 0 false none] } } (valIn false 5) = .err 7 := by decide
example : strictParse lEnv { i := { ptrSchema := true, nilable := true } } (valIn true 12) = .ptr 12 := by decide

/-! `c09_table_wrappers` (whole regenerated table) establishes that on every schema type `ParseAny` is
  `fwd Parse` and `Must<X>` is `must X`; these theorems say what those two shapes do. -/

/-- Each `Must` variant returns the result of the entry point it wraps, or panics with that entry point's error (and does
    nothing else). -/
theorem c09_must_returns_or_panics {I A : Type} (f : I → Except E A) (x : I) :
    (∃ a, f x = .ok a ∧ must f x = .returned a) ∨ (∃ e, f x = .error e ∧ must f x = .panicked e) := by
  unfold must
  cases h : f x with
  | ok a => exact .inl ⟨a, rfl, rfl⟩
  | error e => exact .inr ⟨e, rfl, rfl⟩

theorem must_returned_iff {I A : Type} (f : I → Except E A) (x : I) (a : A) :
    must f x = .returned a ↔ f x = .ok a := by
  unfold must; cases h : f x <;> simp

theorem must_panicked_iff {I A : Type} (f : I → Except E A) (x : I) (e : E) :
    must f x = .panicked e ↔ f x = .error e := by
  unfold must; cases h : f x <;> simp

/-- If `StrictParse` agrees with `Parse` on an input, `MustStrictParse` agrees with `MustParse` on it. -/
theorem must_congr {I A : Type} (f g : I → Except E A) (x : I) (h : f x = g x) : must f x = must g x := by
  unfold must; rw [h]

/-- Where a type's `Parse` and `StrictParse` agree on an input, all six entry points — assembled the way the
    regenerated table says every type assembles them (`six`) — answer with `Parse`'s result, the `Must` variants by
    returning it or panicking with that very error. -/
theorem c09_six_agree {I A : Type} (P S : I → Except E A) (x : I) (h : S x = P x) :
    (six P S x).s = (six P S x).p ∧ (six P S x).a = (six P S x).p ∧ (six P S x).ms = (six P S x).mp ∧
    (six P S x).ma = (six P S x).mp ∧
    (∀ e, P x = .error e → (six P S x).mp = .panicked e) ∧ (∀ r, P x = .ok r → (six P S x).mp = .returned r) := by
  simp only [six, fwd, must, h]
  refine ⟨trivial, trivial, trivial, trivial, ?_, ?_⟩
  · intro e he; rw [he]
  · intro r hr; rw [hr]

/-- `ParseAny`, `MustParse` and `MustParseAny` follow `Parse` on EVERY input (no hypothesis on the strict pair). -/
theorem c09_six_any_follow_parse {I A : Type} (P S : I → Except E A) (x : I) :
    (six P S x).a = (six P S x).p ∧ (six P S x).ma = (six P S x).mp ∧
    ((∃ r, (six P S x).p = .ok r ∧ (six P S x).mp = .returned r) ∨ (∃ e, (six P S x).p = .error e ∧ (six P S x).mp = .panicked e)) :=
  ⟨rfl, rfl, c09_must_returns_or_panics P x⟩

/-- A disagreeing pair shows in the six (a `StrictParse` that returns its input). -/
example : (six (fun (n : Nat) => if n < 3 then (.error "small" : Except String Nat) else .ok n) (fun n => .ok n) 1).ms = .returned 1 ∧
    (six (fun (n : Nat) => if n < 3 then (.error "small" : Except String Nat) else .ok n) (fun n => .ok n) 1).mp = .panicked "small" := by decide

theorem c09_slice_six (env : CEnv P O T V E) (c : CCfg P O T V) (x : CIn V) :
    let r := six (fun y => (typeParse sliceConv env c y).toExcept) (fun y => (strictParse env c y).toExcept) x
    r.s = r.p ∧ r.a = r.p ∧ r.ms = r.mp ∧ r.ma = r.mp := by
  have h := c09_six_agree (fun y => (typeParse sliceConv env c y).toExcept) (fun y => (strictParse env c y).toExcept) x
    (by simp only [c09_slice_strict_eq_parse])
  exact ⟨h.1, h.2.1, h.2.2.1, h.2.2.2.1⟩

example : (six (fun y => (typeParse sliceConv lEnv { i := { checks := [.pred 0 false none] } } y).toExcept)
    (fun y => (strictParse lEnv { i := { checks := [.pred 0 false none] } } y).toExcept) (valIn false 5)).mp = .panicked 7 := by decide
example : (six (fun y => (typeParse sliceConv lEnv { i := { ptrSchema := true, nilable := true } } y).toExcept)
    (fun y => (strictParse lEnv { i := { ptrSchema := true, nilable := true } } y).toExcept) (valIn true 12)).ms = .returned (.ptr 12) := by decide

example : must (fun (n : Nat) => if n < 3 then (.error "small" : Except String Nat) else .ok n) 1 = .panicked "small" := by decide
example : must (fun (n : Nat) => if n < 3 then (.error "small" : Except String Nat) else .ok n) 5 = .returned 5 := by decide

end Gozod.C09
