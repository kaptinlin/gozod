/-
  C12 — source facts of jsonschema/to.go, over the WHOLE tables regenerated by harness/cmd/c12/access.go on every run
  (`Gen/ConvAccess.lean`: go/ast provenance analysis of the converter + behavioural classification of the accessors).

  Each theorem is one fact about the converter's source, decided over a whole table.  `legacy_*` are rows of earlier trees
  (the commit is named at each), as constants: the witnesses that the facts are about the table.
-/
import Gozod.Gen.ConvAccess

namespace Gozod.C12Access
open Gozod.Gen.ConvAccess

def Origin.isPrivate : Origin → Bool
  | .fresh | .doc | .converter | .scratch | .value => true
  | _ => false

/-- every place of the converter that writes through a reference writes memory the conversion itself made (fresh / the
    document under construction / the converter's own maps / the re-made fields of the scratch internals), never what an
    accessor handed out, never `schema.Internals()`. -/
theorem c12_writes_private : ∀ w ∈ writeSites, Origin.isPrivate w.origin = true := by decide +kernel

def writesTo (m : String) (w : WriteSite) : Bool :=
  match w.origin with
  | .accessor n => n == m || n == m ++ "(reflect)"
  | _ => false

/-- no write site writes what an aliasing accessor handed out: the accessors that hand out the schema's OWN memory
    (`ZodLiteral.Values`, `ZodTuple.Items`: behavioural table) are the case `Acc.alias` of `C12Def.c12_def_pure`. -/
theorem c12_aliasing_accessors_read_only :
    ∀ a ∈ accessorAlias, a.alias = true → ∀ w ∈ writeSites, writesTo a.method w = false := by
  intro a _ _ w hw
  have h := c12_writes_private w hw
  unfold writesTo
  split
  · next n hn => rw [hn] at h; cases h
  · rfl

example : (accessorAlias.filter (·.alias)).map (·.method) = ["Items", "Values"] := by decide +kernel
example : ∃ c ∈ accessorCalls, c.method = "Values" ∧ c.fn = "convertLiteral" := by decide +kernel

def reflectScalar : List String := ["Inner", "UnknownKeys"]   -- reflective calls whose result is a schema / a mode, not a container

/-- every slice/map-returning accessor the converter calls was classified on at least one schema type. -/
theorem c12_accessors_classified :
    ∀ c ∈ accessorCalls, c.data = true → c.method ∈ reflectScalar ∨ ∃ a ∈ accessorAlias, a.method = c.method := by
  decide +kernel

/-- every `delete`/index write on an internals' Bag is on the scratch copy's re-made Bag. -/
theorem c12_scratch_bag_private :
    "Bag" ∈ scratchFreshFields ∧
    ∀ w ∈ writeSites, (w.target = "internals.Bag" ∨ w.target = "in.Bag") → w.origin = .scratch := by decide +kernel

def fieldOf : Effect → Option (String × String)
  | .field f k => some (f, k)
  | _ => none

/-- two different keys of the ranged map assign the same field: (field, earlier key, later key) -/
def collide : List (String × String) → List (String × String × String)
  | [] => []
  | a :: rest => ((rest.filter fun b => b.1 == a.1 && b.2 != a.2).map fun b => (a.1, a.2, b.2)) ++ collide rest

def collisions (es : List Effect) : List (String × String × String) := collide (es.filterMap fieldOf)

def effectOK : Effect → Bool
  | .mapInsert _ | .appendSorted _ | .field _ _ => true
  | _ => false

def insensitive (r : MapRange) : Bool :=
  r.cls == "sortedKeys" || (r.effects.all effectOK && (collisions r.effects).isEmpty)

/-- loops whose result can depend on the visiting order -/
def excludedRanges : List String := ["toJSONSchemaRegistry"]

/-- every loop over a map feeds an order-insensitive sink (sorted keys; map inserts; appends to a list sorted afterwards;
    field assignments without two keys writing one field), except ToJSONSchema(registry)
    (witness `registry_range_order_sensitive`). -/
theorem c12_ranges_partial : ∀ r ∈ mapRanges, insensitive r = true ∨ r.fn ∈ excludedRanges := by decide +kernel

/-- the full statement, false because of the excluded loop -/
def c12_ranges_full : Prop := ∀ r ∈ mapRanges, insensitive r = true

/-- `applyBag`: `minLength`/`minSize`, `maxLength`/`maxSize`, `contentMediaType`/`mime` assign the same keyword, which is why the
    loop has to visit the keys in sorted order (d72e9e7; before it a Bag holding both keys of a pair converted by map order:
    `Base64()` + the mime check of `File().Mime` attached with AddCheck + `.JSON()`). -/
theorem applyBag_field_collisions :
    ∀ r ∈ mapRanges, r.fn = "applyBag" →
      collisions r.effects = [("ContentMediaType", "contentMediaType", "mime"), ("MaxLength", "maxLength", "maxSize"),
                              ("MinLength", "minLength", "minSize")] := by decide +kernel

/-- Witness, `ToJSONSchema(registry)`: the schemas of a registry are converted in `Registry.Range` (map) order, unsorted
    (registry input is outside the property's quantifier: it speaks about converting a schema). -/
theorem registry_range_order_sensitive :
    ∃ r ∈ mapRanges, r.fn = "toJSONSchemaRegistry" ∧ r.cls = "registry" ∧ .appendUnsorted "schemasInRegistry" ∈ r.effects := by
  decide +kernel

theorem c12_ranges_full_false : ¬ c12_ranges_full := by
  intro h
  obtain ⟨r, hr, _, hc, he⟩ := registry_range_order_sensitive
  have hi := h r hr
  simp only [insensitive, hc, Bool.or_eq_true, Bool.and_eq_true, List.all_eq_true] at hi
  rcases hi with h1 | ⟨h2, _⟩
  · cases h1
  · cases h2 _ he

/-- the Bag keys are visited in sorted order (since /repo d72e9e7). -/
theorem c12_applyBag_range_sorted : ∀ r ∈ mapRanges, r.fn = "applyBag" → r.cls = "sortedKeys" := by
  intro r hr hf
  -- two keys of the Bag write one field (`applyBag_field_collisions`), so only sorted keys make the loop insensitive
  rcases c12_ranges_partial r hr with hi | he
  · simpa [insensitive, applyBag_field_collisions r hr hf] using hi
  · rw [hf] at he; exact absurd he (by decide)

/-- object properties are converted in key order (since /repo 3e22e56). -/
theorem c12_shape_range_sorted : ∀ r ∈ mapRanges, r.fn = "convertObjectFromShape" → r.cls = "sortedKeys" := by decide +kernel

/-- `convertEnum` orders the members of every type (since /repo 3e22e56). -/
theorem c12_enum_sort_total : enumSort = ["total"] := by decide +kernel

/-- what "sorted keys" buys: whatever stateful function is folded over the keys (the converter: `$defs` numbering,
    first-visit-inline) gives the same result for two enumerations of one key set -/
theorem sortedKeys_order_invariant {σ : Type} (ks ks' : List Nat) (h : ks.Perm ks') (f : σ → Nat → σ) (s : σ) :
    (ks.mergeSort (fun a b => decide (a ≤ b))).foldl f s = (ks'.mergeSort (fun a b => decide (a ≤ b))).foldl f s := by
  have ht : ∀ a b c : Nat, decide (a ≤ b) = true → decide (b ≤ c) = true → decide (a ≤ c) = true := by
    intro a b c h1 h2; simp at *; omega
  have htot : ∀ a b : Nat, (decide (a ≤ b) || decide (b ≤ a)) = true := by
    intro a b; simp; omega
  have e : ks.mergeSort (fun a b => decide (a ≤ b)) = ks'.mergeSort (fun a b => decide (a ≤ b)) := by
    apply List.Perm.eq_of_pairwise (le := fun a b => decide (a ≤ b) = true)
    · intro a b _ _ h1 h2; simp at h1 h2; omega
    · exact List.pairwise_mergeSort ht htot ks
    · exact List.pairwise_mergeSort ht htot ks'
    · exact ((List.mergeSort_perm ks _).trans h).trans (List.mergeSort_perm ks' _).symm
  rw [e]

/-! ### the tree before 3e22e56 (rows as the translator printed them for commit 4e474da) -/

def legacyShapeRange : MapRange :=
  ⟨"convertObjectFromShape", "shape", "map", [.appendSorted "required", .converterCall "convert", .field "path" "*", .mapInsert "properties"]⟩

/-- before d72e9e7: a plain `range bag` -/
def legacyApplyBagRange : MapRange :=
  ⟨"applyBag", "bag", "map", [.field "ContentMediaType" "contentMediaType", .field "ContentMediaType" "mime",
    .field "MaxLength" "maxLength", .field "MaxLength" "maxSize", .field "MinLength" "minLength", .field "MinLength" "minSize"]⟩

theorem legacy_applyBag_range_sensitive : insensitive legacyApplyBagRange = false := by decide +kernel

def legacyEnumSort : List String := ["string", "int", "int32", "int64", "uint", "uint32", "uint64", "float64", "float32"]

/-- the property loop called the stateful converter in map order: `Object{a: Object{…}, b: Slice(Int)}` with `Reused: "ref"`
    converted to `$defs {def1: a, def2: b}` or `{def1: b, def2: a}` -/
theorem legacy_shape_range_sensitive : insensitive legacyShapeRange = false := by decide +kernel

/-- `Enum(true, false)`, `Enum[int8](1,2,3)`: member types outside the sort list went out in map order -/
theorem legacy_enum_sort_partial : "bool" ∉ legacyEnumSort ∧ "int8" ∉ legacyEnumSort ∧ "total" ∉ legacyEnumSort := by decide

/-- the parameters of the model's conversion step (`Model/ConvOpts.lean`: `OptVals` fields, `Opts.metadata`, `Opts.uri`,
    `Opts.override`) -/
def modelledOptions : List String := ["Metadata", "Unrepresentable", "Cycles", "Reused", "URI", "Target", "Override", "IO"]

/-- the options struct of to.go has exactly the fields the model has parameters for, each of the class the model gives
    it (a new option, or an option that becomes a callback, falsifies this). -/
theorem c12_options_modelled :
    optionFields.map (·.name) = modelledOptions ∧
    (optionFields.filter (·.cls == "callback")).map (·.name) = ["URI", "Override"] ∧
    (optionFields.filter (·.cls == "registry")).map (·.name) = ["Metadata"] ∧
    (optionFields.filter (·.cls == "value")).map (·.name) = ["Unrepresentable", "Cycles", "Reused", "Target", "IO"] := by
  decide +kernel

/-- the converter never writes an option (except `toJSONSchemaRegistry`, which sets `Metadata` on its by-value copy of
    the struct), calls only the two callbacks, and only in `convert`; `Target` is read nowhere. -/
theorem c12_options_read_only :
    (∀ f ∈ optionFields, f.writes = if f.name = "Metadata" then ["toJSONSchemaRegistry"] else []) ∧
    (∀ f ∈ optionFields, f.calls = if f.cls = "callback" then ["convert"] else []) ∧
    (∀ f ∈ optionFields, f.name = "Target" → f.reads = []) ∧
    (∀ f ∈ optionFields, f.name ≠ "Target" → f.reads ≠ []) := by decide +kernel

/-- the Override callback is handed the schema itself and the very node the conversion returns (`placeholder`, made by
    this conversion); `URI` is handed a plain value.  Hence `ConvOpts.Override`: the callback can write whatever that node
    holds by reference. -/
theorem c12_override_handed_live_node :
    overrideCall = [⟨"ZodSchema", "schema", .schema, false⟩, ⟨"JSONSchema", "placeholder", .fresh, true⟩] ∧
    uriCall.map (·.origin) = [.value] := by decide +kernel

def VOrigin.isPrivate : VOrigin → Bool
  | .fresh | .doc | .value => true
  | _ => false

/-- every reference-typed value stored into the document is memory the conversion made itself, another node of the
    document, or a plain value: what the caller, and an Override, can reach through the result is the conversion's own.
    (`applyMeta` stores `slices.Clone(meta.Examples)` since /repo 8997831.) -/
theorem c12_doc_stores_private : ∀ d ∈ docStores, VOrigin.isPrivate d.origin = true := by decide +kernel

/-- the row of the tree before 8997831: `applyMeta` put the registry entry's own example list into the document
    (`takeExamples false`; witness `C12Opts.override_edits_registry_examples`) -/
def legacyExamplesStore : DocStore := ⟨"applyMeta", "Examples", "meta.Examples", .registryEntry⟩

theorem legacy_examples_store_shared : VOrigin.isPrivate legacyExamplesStore.origin = false := by decide

/-- the converter calls no mutating method (Add / Remove / Set… / Store / Delete / AddCheck / …) on a registry, a schema
    or its internals: the kind of write the write-site table cannot see (it hides behind an API). -/
theorem c12_no_mutator_calls : mutatorCalls = [] := by decide +kernel

example : ∃ d ∈ docStores, d.fn = "convertLiteral" ∧ d.field = "Enum" ∧ d.origin = .fresh := by decide +kernel

end Gozod.C12Access
