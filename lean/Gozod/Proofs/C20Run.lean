/-
  Runs of a step automaton.  The run notions, and which is for what:
  * `Spec.run` (Model/Bisim.lean: a fold of `gstep` from `init`) is the form every end result is stated in.
  * `Spec.runFrom o s`, the same fold from any `o : Option State`, is for an induction that stays on the `Spec`.
  * `Aut σ` is a `Spec` without alphabet, numbering and printing, on an explicit state type; `Aut.run` recurses on the string.
    It is the form for anything about two automata at once: `Aut.Seq.run` (concatenation), `Aut.run_map_on` (a state map).
    `Spec.aut`, `Spec.run_aut` go from a `Spec` to its `Aut`; as `S.State` is only definitionally the record
    type, a format names its automaton once on that type (`def dateA : Aut DateSt := isoDate.aut`) with one `_step` equation.
    `Aut.ofO`, `Aut.run_ofO` do the same for a step function given on `Option σ`.
  * The hand-written folds on `Option` in the format files — `g4`/`acc4`/`run4`, `gV`/`accV`/`runV`, `gE`/`accE`, `accD`,
    `tstepO`/`runT`, `dstep` — are fixed definitions (or built from them) that statements name;
    `Spec.runFrom_congr` introduces such a fold.  New proofs should not add another.
  Last, the model's digit alphabets (`isDigit_iff` … `hexDigits_elem`): every format file uses them.
-/
import Gozod.Model.FormatSpec
import Gozod.Model.BisimR
namespace Gozod

theorem foldl_none {σ γ : Type} {g : Option σ → γ → Option σ} (h : ∀ c, g none c = none) :
    ∀ s : List γ, s.foldl g none = none
  | [] => rfl
  | c :: s => by rw [List.foldl_cons, h, foldl_none h s]

/-- for walking a step function written as a tree of `if`s, each branch handed its condition -/
def AllSome {α : Type} (P : α → Prop) (o : Option α) : Prop := ∀ x, o = some x → P x

theorem AllSome.none {α : Type} {P : α → Prop} : AllSome P none := fun _ e => nomatch e

theorem AllSome.some {α : Type} {P : α → Prop} {x : α} (h : P x) : AllSome P (some x) := fun _ e => by cases e; exact h

theorem AllSome.ite {α : Type} {P : α → Prop} {p : Prop} [Decidable p] {a o : Option α}
    (ha : p → AllSome P a) (ho : AllSome P o) : AllSome P (if p then a else o) := by
  by_cases h : p
  · rw [if_pos h]; exact ha h
  · rw [if_neg h]; exact ho

namespace Spec
variable (S : Spec)

theorem gstep_none (c : Nat) : S.gstep none c = none := rfl

theorem gstep_some (q : S.State) (c : Nat) :
    S.gstep (some q) c = if S.support.elem c then S.step q c else none := rfl

theorem gstep_some_of {P : Prop} [Decidable P] {c : Nat} (h : S.support.elem c = true ↔ P) (q : S.State) :
    S.gstep (some q) c = if P then S.step q c else none := by
  rw [gstep_some]
  by_cases hp : P
  · rw [if_pos hp, if_pos (h.2 hp)]
  · rw [if_neg hp, if_neg (mt h.1 hp)]

theorem foldl_gstep_none (s : List Nat) : s.foldl S.gstep none = none := foldl_none S.gstep_none s

def runFrom (o : Option S.State) (s : List Nat) : Bool := S.accO (s.foldl S.gstep o)

theorem run_eq_runFrom (s : List Nat) : S.run s = S.runFrom (some S.init) s := rfl

theorem run_state {s : List Nat} (h : S.run s = true) : ∃ q, s.foldl S.gstep (some S.init) = some q ∧ S.acc q = true := by
  unfold Spec.run Spec.runState at h
  cases hr : s.foldl S.gstep (some S.init) with
  | none => rw [hr] at h; cases h
  | some q => rw [hr] at h; exact ⟨q, rfl, h⟩

theorem runFrom_cons (o : Option S.State) (c : Nat) (s : List Nat) :
    S.runFrom o (c :: s) = S.runFrom (S.gstep o c) s := rfl

theorem runFrom_none (s : List Nat) : S.runFrom none s = false := by
  rw [runFrom, foldl_gstep_none]; rfl

theorem runFrom_congr {g : Option S.State → Nat → Option S.State} {a : Option S.State → Bool}
    (hg : ∀ o c, S.gstep o c = g o c) (ha : ∀ o, S.accO o = a o) (o : Option S.State) (s : List Nat) :
    S.runFrom o s = a (s.foldl g o) := by
  rw [runFrom, ha, funext fun o => funext (hg o)]

end Spec

theorem Spec.gstep_outside {S : Spec} {c : Nat} (h : S.support.elem c = false) (o : Option S.State) : S.gstep o c = none := by
  cases o with
  | none => rfl
  | some q => rw [S.gstep_some, h]; rfl

theorem Spec.gstep_eq_some {S : Spec} {q q' : S.State} {c : Nat} (h : S.gstep (some q) c = some q') :
    S.support.elem c = true ∧ S.step q c = some q' := by
  rw [S.gstep_some] at h
  split at h
  · next hc => exact ⟨hc, h⟩
  · cases h

structure Aut (σ : Type) where
  step : σ → Nat → Option σ
  acc : σ → Bool

namespace Aut
variable {σ α : Type}

def run (A : Aut σ) : σ → List Nat → Bool
  | q, [] => A.acc q
  | q, c :: s => match A.step q c with
    | some q' => A.run q' s
    | none => false

theorem run_cons (A : Aut σ) (q : σ) (c : Nat) (s : List Nat) :
    A.run q (c :: s) = match A.step q c with | some q' => A.run q' s | none => false := rfl

def ofO (g : Option σ → Nat → Option σ) (acc : Option σ → Bool) : Aut σ := ⟨fun q c => g (some q) c, fun q => acc (some q)⟩

theorem run_ofO {g : Option σ → Nat → Option σ} {acc : Option σ → Bool} (hg : ∀ c, g none c = none) (ha : acc none = false) :
    ∀ (s : List Nat) (q : σ), acc (s.foldl g (some q)) = (ofO g acc).run q s
  | [], _ => rfl
  | c :: s, q => by
    show acc (s.foldl g (g (some q) c)) = match g (some q) c with | some q' => (ofO g acc).run q' s | none => false
    cases g (some q) c with
    | none => rw [foldl_none hg, ha]
    | some q' => exact run_ofO hg ha s q'

/-- `X` is `A` followed by something.  In the states `ia q` (`q` a state of `A`) `X` steps as `A` does; where `A` is stuck in an
    accepting state, `X` takes `h c`, the first step of what follows on the byte `c` (`none`: `c` cannot follow); `eps`: nothing
    need follow.  `inv`: the `A`-states this holds in (a position window, or `True`).  `cut`: a byte that starts the second part
    is not a step of the first from an accepting state, so the place of the cut is determined.
    `ia` is `id` when both automata are named on one state type, an embedding for a counter inside a larger state. -/
structure Seq (X : Aut σ) (A : Aut α) (ia : α → σ) (inv : α → Prop) (h : Nat → Option σ) (eps : Bool) : Prop where
  inv_step : ∀ q c q', inv q → A.step q c = some q' → inv q'
  step : ∀ q c, inv q → X.step (ia q) c = match A.step q c with
    | some q' => some (ia q')
    | none => if A.acc q = true then h c else none
  acc : ∀ q, inv q → X.acc (ia q) = (A.acc q && eps)
  cut : ∀ q c, inv q → A.acc q = true → (h c).isSome = true → A.step q c = none

def rest (X : Aut σ) (h : Nat → Option σ) (eps : Bool) : List Nat → Bool
  | [] => eps
  | c :: r => match h c with
    | some q => X.run q r
    | none => false

theorem Seq.run {X : Aut σ} {A : Aut α} {ia : α → σ} {inv : α → Prop} {h : Nat → Option σ} {eps : Bool}
    (H : Seq X A ia inv h eps) : ∀ (s : List Nat) (q : α), inv q →
      (X.run (ia q) s = true ↔ ∃ a b, s = a ++ b ∧ A.run q a = true ∧ rest X h eps b = true)
  | [], q, hq => by
    show X.acc (ia q) = true ↔ _
    rw [H.acc q hq, Bool.and_eq_true]
    constructor
    · rintro ⟨h1, h2⟩; exact ⟨[], [], rfl, h1, h2⟩
    · rintro ⟨a, b, e, h1, h2⟩
      obtain ⟨rfl, rfl⟩ := List.append_eq_nil_iff.1 e.symm
      exact ⟨h1, h2⟩
  | c :: s, q, hq => by
    -- the cut is before `c` or after it
    have e : (∃ a b, c :: s = a ++ b ∧ A.run q a = true ∧ rest X h eps b = true) ↔
        (A.acc q = true ∧ rest X h eps (c :: s) = true) ∨ ∃ a b, s = a ++ b ∧ A.run q (c :: a) = true ∧ rest X h eps b = true := by
      constructor
      · rintro ⟨_ | ⟨c', a⟩, b, e, h1, h2⟩
        · exact .inl ⟨h1, e ▸ h2⟩
        · obtain ⟨rfl, rfl⟩ := List.cons.inj e; exact .inr ⟨a, b, rfl, h1, h2⟩
      · rintro (⟨h1, h2⟩ | ⟨a, b, rfl, h1, h2⟩)
        · exact ⟨[], _, rfl, h1, h2⟩
        · exact ⟨c :: a, b, rfl, h1, h2⟩
    rw [e, run_cons, H.step q c hq]
    simp only [run_cons, rest]
    cases hs : A.step q c with
    | some q' =>
      -- `A` reads `c`: a cut before `c` is impossible, `c` would start the second part
      simp only []
      rw [H.run s q' (H.inv_step q c q' hq hs)]
      refine ⟨.inr, fun h' => h'.resolve_left fun ⟨ha, hh⟩ => ?_⟩
      have : (h c).isSome = true := by cases hc : h c with
        | none => rw [hc] at hh; cases hh
        | some _ => rfl
      rw [H.cut q c hq ha this] at hs; cases hs
    | none =>
      -- `A` is stuck: the cut is here
      cases A.acc q <;> simp only [Bool.false_eq_true, ↓reduceIte, true_and, false_and, and_false, exists_const, or_self, or_false]

theorem rest_self (X : Aut σ) (q0 : σ) (b : List Nat) : rest X (X.step q0) (X.acc q0) b = X.run q0 b := by
  cases b <;> rfl

/-- a quotient when the map forgets, an embedding when it injects -/
theorem run_map_on {A : Aut σ} {B : Aut τ} (f : σ → τ) (P : Nat → Prop) (hstep : ∀ q c, P c → (A.step q c).map f = B.step (f q) c)
    (hacc : ∀ q, A.acc q = B.acc (f q)) : ∀ (s : List Nat) (q : σ), (∀ c ∈ s, P c) → A.run q s = B.run (f q) s
  | [], q, _ => hacc q
  | c :: s, q, hs => by
    rw [run_cons, run_cons, ← hstep q c (hs c List.mem_cons_self)]
    cases A.step q c with
    | none => rfl
    | some q' => exact run_map_on f P hstep hacc s q' fun d hd => hs d (List.mem_cons_of_mem c hd)

theorem run_map {A : Aut σ} {B : Aut τ} (f : σ → τ) (hstep : ∀ q c, (A.step q c).map f = B.step (f q) c)
    (hacc : ∀ q, A.acc q = B.acc (f q)) (s : List Nat) (q : σ) : A.run q s = B.run (f q) s :=
  run_map_on f (fun _ => True) (fun q c _ => hstep q c) hacc s q fun _ _ => trivial

end Aut

def Spec.aut (S : Spec) : Aut S.State := Aut.ofO S.gstep S.accO

theorem Spec.run_aut (S : Spec) (s : List Nat) : S.run s = S.aut.run S.init s := Aut.run_ofO S.gstep_none rfl s S.init

namespace C20

-- `b! "text"` is the list of the UTF-8 bytes of the literal
open Lean in
macro "b!" s:str : term => do
  let bs := s.getString.toUTF8.toList.map (·.toNat)
  let elems : Array (TSyntax `term) := (bs.map fun n => (Syntax.mkNumLit (toString n) : TSyntax `term)).toArray
  `([$elems,*])

theorem run_false_of_inv (S : Spec) (I : S.State → Prop) (P : Nat → Prop) (hinit : I S.init)
    (hstep : ∀ q q' c, P c → I q → S.step q c = some q' → I q') (hacc : ∀ q, I q → S.acc q = false) :
    ∀ s, (∀ c ∈ s, P c) → S.run s = false := by
  intro s hs
  have h := List.foldlRecOn s S.gstep (motive := fun o => ∀ q, o = some q → I q) (b := some S.init)
    (fun q hq => by cases hq; exact hinit) (fun o ho c hc q' hq' => by
      cases o with
      | none => cases hq'
      | some q => exact hstep q q' c (hs c hc) (ho q rfl) (Spec.gstep_eq_some hq').2)
  unfold Spec.run Spec.runState
  cases hr : s.foldl S.gstep (some S.init) with
  | none => rfl
  | some q => exact hacc q (h q hr)

theorem avoids_iff {B s : List Nat} : avoids B s = true ↔ ∀ c ∈ s, B.elem c = false := by
  simp [avoids, List.all_eq_true]

theorem avoids_mono {B B' s : List Nat} (hB : B.all (fun b => B'.elem b) = true) (h : avoids B' s = true) : avoids B s = true :=
  avoids_iff.2 fun c hc => by
    cases hb : B.elem c with
    | false => rfl
    | true => exact (List.all_eq_true.1 hB c (List.elem_iff.1 hb)).symm.trans (avoids_iff.1 h c hc)

/-- `Aut.run_map_on` on two `Spec`s with one alphabet -/
theorem sim_run_avoid (B : List Nat) (S Q : Spec) (abs : S.State → Q.State) (hsup : S.support = Q.support)
    (hinit : abs S.init = Q.init)
    (hstep : ∀ q c, B.elem c = false → (S.step q c).map abs = Q.step (abs q) c)
    (hacc : ∀ q, S.acc q = Q.acc (abs q)) : ∀ s, avoids B s = true → S.run s = Q.run s := by
  intro s hs
  rw [S.run_aut, Q.run_aut, ← hinit]
  exact Aut.run_map_on abs (fun c => B.elem c = false) (fun q c hc => by
    show (if S.support.elem c then S.step q c else none).map abs = (if Q.support.elem c then Q.step (abs q) c else none)
    rw [← hsup]
    split
    · exact hstep q c hc
    · rfl) hacc s S.init (avoids_iff.1 hs)

theorem sim_run (S Q : Spec) (abs : S.State → Q.State) (hsup : S.support = Q.support)
    (hinit : abs S.init = Q.init) (hstep : ∀ q c, (S.step q c).map abs = Q.step (abs q) c)
    (hacc : ∀ q, S.acc q = Q.acc (abs q)) : ∀ s, S.run s = Q.run s := fun s =>
  sim_run_avoid [] S Q abs hsup hinit (fun q c _ => hstep q c) hacc s (avoids_iff.2 fun _ _ => rfl)

theorem run_false_of_foreign (S : Spec) (B : List Nat) (hB : ∀ b, B.elem b = true → S.support.elem b = false) :
    ∀ s, avoids B s = false → S.run s = false := by
  have key : ∀ (s : List Nat) (o : Option S.State), avoids B s = false → S.accO (s.foldl S.gstep o) = false := by
    intro s
    induction s with
    | nil => intro o h; simp [avoids] at h
    | cons c s ih =>
      intro o h
      simp only [List.foldl_cons]
      by_cases hc : B.elem c = true
      · rw [Spec.gstep_outside (hB c hc) o, S.foldl_gstep_none]; rfl
      · refine ih _ ?_
        simp only [avoids, List.all_cons, Bool.and_eq_false_iff] at h
        rcases h with h | h
        · simp only [Bool.not_eq_true] at hc; rw [hc] at h; cases h
        · simpa [avoids] using h
  intro s h
  exact key s (some S.init) h

/-- from the strings without the byte `z` to all strings, `z` outside the definition's alphabet (IPv6: '%') -/
theorem partial_all_of_nozone {r : Re} {S E : Spec} {z : Nat} (hz : S.support.elem z = false)
    (hnz : ∀ s, avoids [z] s = true → E.run s = false → Re.accepts r s = S.run s) :
    ∀ s, E.run s = false → (avoids [z] s = true ∨ Re.accepts r s = false) → Re.accepts r s = S.run s := by
  intro s he h
  cases ha : avoids [z] s with
  | true => exact hnz s ha he
  | false =>
    rw [ha] at h
    rw [h.resolve_left (fun e => nomatch e), run_false_of_foreign S [z] (fun b hb => by
      obtain rfl : b = z := by simpa using hb
      exact hz) s ha]

open Fmt

theorem isDigit_iff (c : Nat) : isDigit c = true ↔ 48 ≤ c ∧ c ≤ 57 := by
  simp [isDigit]

theorem digit_le {a : Nat} (h : isDigit a = true) : a - 48 ≤ 9 := by have := (isDigit_iff a).1 h; omega

theorem isHex_iff (c : Nat) : isHex c = true ↔ (48 ≤ c ∧ c ≤ 57) ∨ (65 ≤ c ∧ c ≤ 70) ∨ (97 ≤ c ∧ c ≤ 102) := by
  simp [isHex, isDigit, isUpperHex, isLowerHex, or_assoc]

theorem isHex_of_isDigit {c : Nat} (h : isDigit c = true) : isHex c = true :=
  (isHex_iff c).2 (Or.inl ((isDigit_iff c).1 h))

theorem elem_cons_iff (c x : Nat) (l : List Nat) : (x :: l).elem c = true ↔ c = x ∨ l.elem c = true := by
  simp only [List.elem_iff, List.mem_cons]

theorem digits_elem (c : Nat) : digits.elem c = isDigit c := by
  rw [List.elem_eq_mem, Bool.eq_iff_iff, decide_eq_true_iff, isDigit_iff]
  simp only [digits, List.mem_cons, List.not_mem_nil, or_false]
  omega

theorem hexDigits_elem (c : Nat) : hexDigits.elem c = isHex c := by
  rw [List.elem_eq_mem, Bool.eq_iff_iff, decide_eq_true_iff, isHex_iff]
  simp only [hexDigits, digits, List.cons_append, List.nil_append, List.mem_cons, List.not_mem_nil, or_false]
  omega

end C20
end Gozod
