/-
  Bounded repeats.  The translator expands `X{1,k}` into nested optionals `X (X (… X?)?)?` (`upTo`) and `X{n}` into `n` copies
  of `X` inside one flat sequence; `Rep L n` is the language "`n` chunks of `L` in a row", and `accepts_upTo`,
  `accepts_seqs_rep` read the two expansions as it.  Used for the groups of an IPv6 address (Proofs/C20V6Hex.lean).
  `Dotted`: four chunks separated by '.', the shape of an IPv4 address and of its pattern.
-/
import Gozod.Proofs.C20Lang
namespace Gozod.Re

def Rep (L : List Nat → Prop) : Nat → List Nat → Prop
  | 0, s => s = []
  | n + 1, s => ∃ a b, s = a ++ b ∧ L a ∧ Rep L n b

theorem Rep.congr {L L' : List Nat → Prop} (h : ∀ a, L a ↔ L' a) : ∀ (n : Nat) (s : List Nat), Rep L n s ↔ Rep L' n s
  | 0, _ => Iff.rfl
  | n + 1, s => by simp only [Rep, h, Rep.congr h n]

theorem Rep.one {L : List Nat → Prop} {a : List Nat} (h : L a) : Rep L 1 a := ⟨a, [], (List.append_nil a).symm, h, rfl⟩

theorem Rep.cons {L : List Nat → Prop} {n : Nat} {a b : List Nat} (ha : L a) (hb : Rep L n b) : Rep L (n + 1) (a ++ b) :=
  ⟨a, b, rfl, ha, hb⟩

/-- `X{1,k+1}` as the translator writes it, `X` being the sequence `pre` -/
def upTo (pre : List Re) : Nat → Re
  | 0 => seqs pre
  | k + 1 => seqs (pre ++ [altsOf [upTo pre k, eps]])

theorem accepts_upTo {pre : List Re} (hpre : pre ≠ []) : ∀ (k : Nat) (s : List Nat),
    accepts (upTo pre k) s = true ↔ ∃ i, 1 ≤ i ∧ i ≤ k + 1 ∧ Rep (fun a => accepts (seqs pre) a = true) i s
  | 0, s => by
    constructor
    · exact fun h => ⟨1, Nat.le_refl 1, Nat.le_refl 1, Rep.one h⟩
    · rintro ⟨i, h1, h2, h⟩
      obtain rfl : i = 1 := by omega
      obtain ⟨a, b, rfl, ha, rfl⟩ := h
      rw [List.append_nil]; exact ha
  | k + 1, s => by
    show accepts (seqs (pre ++ [alt (upTo pre k) eps])) s = true ↔ _
    rw [accepts_seqs_append pre _ (List.cons_ne_nil _ _), accepts_seq]
    constructor
    · rintro ⟨a, b, rfl, ha, hb⟩
      rcases (accepts_alt _ _ b).1 hb with hb | hb
      · obtain ⟨i, _, h2, hi⟩ := (accepts_upTo hpre k b).1 hb
        exact ⟨i + 1, by omega, by omega, Rep.cons ha hi⟩
      · rw [accepts_eps, List.isEmpty_iff] at hb
        subst hb
        exact ⟨1, Nat.le_refl 1, by omega, by rw [List.append_nil]; exact Rep.one ha⟩
    · rintro ⟨i, h1, h2, h⟩
      obtain ⟨i, rfl⟩ : ∃ j, i = j + 1 := ⟨i - 1, by omega⟩
      obtain ⟨a, b, rfl, ha, hb⟩ := h
      refine ⟨a, b, rfl, ha, (accepts_alt _ _ b).2 ?_⟩
      cases i with
      | zero => exact Or.inr (by rw [(hb : b = [])]; rfl)
      | succ i => exact Or.inl ((accepts_upTo hpre k b).2 ⟨i + 1, by omega, by omega, hb⟩)

/-- `X{n}` followed by `m` inside one flat sequence -/
theorem accepts_seqs_rep {pre m : List Re} (hm : m ≠ []) : ∀ (n : Nat) (s : List Nat),
    accepts (seqs ((List.replicate n pre).flatten ++ m)) s = true ↔
      ∃ a b, s = a ++ b ∧ Rep (fun a => accepts (seqs pre) a = true) n a ∧ accepts (seqs m) b = true
  | 0, s => ⟨fun h => ⟨[], s, rfl, rfl, h⟩, fun ⟨a, b, e, ha, hb⟩ => by rw [e, (ha : a = [])]; exact hb⟩
  | n + 1, s => by
    rw [List.replicate_succ, List.flatten_cons, List.append_assoc,
      accepts_seqs_append pre _ (by simp [hm]), accepts_seq]
    constructor
    · rintro ⟨a, b, rfl, ha, hb⟩
      obtain ⟨a', b', rfl, ha', hb'⟩ := (accepts_seqs_rep hm n b).1 hb
      exact ⟨a ++ a', b', (List.append_assoc ..).symm, Rep.cons ha ha', hb'⟩
    · rintro ⟨_, b, rfl, ⟨a, a', rfl, ha, ha'⟩, hb⟩
      exact ⟨a, a' ++ b, List.append_assoc .., ha, (accepts_seqs_rep hm n _).2 ⟨a', b, rfl, ha', hb⟩⟩

theorem rep_cls (rs : List (Nat × Nat)) : ∀ (n : Nat) (s : List Nat),
    Rep (fun a => accepts (cls rs) a = true) n s ↔ s.length = n ∧ s.all (inRanges · rs) = true
  | 0, s => ⟨fun h => by rw [(h : s = [])]; exact ⟨rfl, rfl⟩, fun h => List.eq_nil_of_length_eq_zero h.1⟩
  | n + 1, s => by
    constructor
    · rintro ⟨a, b, rfl, ha, hb⟩
      obtain ⟨hl, hall⟩ := (rep_cls rs n b).1 hb
      cases a with
      | nil => cases ha
      | cons c a =>
        rw [accepts_cls, Bool.and_eq_true, List.isEmpty_iff] at ha
        obtain ⟨hc, rfl⟩ := ha
        exact ⟨by simp [hl], by simp [hc, hall]⟩
    · rintro ⟨hl, hall⟩
      cases s with
      | nil => cases hl
      | cons c s =>
        simp only [List.all_cons, Bool.and_eq_true] at hall
        exact ⟨[c], s, rfl, by show accepts (cls rs) [c] = true; rw [accepts_cls, hall.1]; rfl, (rep_cls rs n s).2 ⟨by simpa using hl, hall.2⟩⟩

def Dotted (L : List Nat → Prop) (q : List Nat) : Prop :=
  ∃ a b c d, q = a ++ 46 :: (b ++ 46 :: (c ++ 46 :: d)) ∧ L a ∧ L b ∧ L c ∧ L d

theorem accepts_dotted (o : Re) (q : List Nat) :
    accepts (seqs [o, .cls [(46, 46)], o, .cls [(46, 46)], o, .cls [(46, 46)], o]) q = true ↔ Dotted (fun b => accepts o b = true) q := by
  show accepts (seq o (seq _ (seq o (seq _ (seq o (seq _ o)))))) q = true ↔ _
  simp only [accepts_seq_byte]
  constructor
  · rintro ⟨a, _, rfl, ha, b, _, rfl, hb, c, d, rfl, hc, hd⟩
    exact ⟨a, b, c, d, rfl, ha, hb, hc, hd⟩
  · rintro ⟨a, b, c, d, rfl, ha, hb, hc, hd⟩
    exact ⟨a, _, rfl, ha, b, _, rfl, hb, c, d, rfl, hc, hd⟩

end Gozod.Re
