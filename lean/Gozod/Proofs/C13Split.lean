/-
  C13 — gozodgen's own tag splitter / rule parser (`Gozod.GenSplit`, transcribed from
  cmd/gozodgen/analyzer.go) against pkg/tagparser (`Gozod.TagParser`, what FromStruct uses).

  Full statement: the two parsers give the same rules for every tag.  FALSE for the code as it stands; proved: they
  agree on the decidable region `parseRegion`.
-/
import Gozod.Proofs.Basics
import Gozod.Model.GenSplit
import Gozod.Model.GenEmit

namespace Gozod.C13
open Gozod.TagParser Gozod.GenSplit

/-- the two splitters in lock step.  `quote`: inside the region only `"` opens a quotation, so the generator's one Boolean
    `inQuotes` says as much as tagparser's `quoted` + `quote`. -/
structure Sim (g : GSt) (t : St) : Prop where
  parts : t.parts = g.parts
  buf : t.buf = g.cur
  brackets : t.brackets = g.inBrackets
  braces : t.braces = g.inBraces
  quoted : t.quoted = g.inQuotes
  quote : t.quoted = true → t.quote = cDQuote

theorem sim_iff (g : GSt) (t : St) : Sim g t ↔ t.parts = g.parts ∧ t.buf = g.cur ∧ t.brackets = g.inBrackets ∧
    t.braces = g.inBraces ∧ t.quoted = g.inQuotes ∧ (t.quoted = true → t.quote = cDQuote) :=
  ⟨fun ⟨a, b, c, d, e, f⟩ => ⟨a, b, c, d, e, f⟩, fun ⟨a, b, c, d, e, f⟩ => ⟨a, b, c, d, e, f⟩⟩

theorem sim_step (g : GSt) (t : St) (ch : Nat) (rest : Str)
    (hs : Sim g t) (he : t.escaped = true → g.prevBS = true)
    (hr : splitRegionAux t.escaped g.prevBS (ch :: rest) = true) :
    Sim (gstep g ch) (step t ch (!rest.isEmpty)) ∧
    ((step t ch (!rest.isEmpty)).escaped = true → (gstep g ch).prevBS = true) ∧
    splitRegionAux (step t ch (!rest.isEmpty)).escaped (gstep g ch).prevBS rest = true := by
  obtain ⟨gp, gc, gq, gbr, gbk, gpb⟩ := g
  obtain ⟨tp, tb, tbk, tbr, tq, tqu, te⟩ := t
  obtain ⟨h1, h2, h3, h4, h5, h6⟩ := hs
  simp only at h1 h2 h3 h4 h5 h6 he hr
  subst h1 h2 h3 h4 h5
  simp only [sim_iff, step, gstep, splitRegionAux] at hr ⊢
  -- both loops are `if` cascades on `ch`: one case per rune either of them singles out.  With `ch` fixed `simp_all`
  -- evaluates the conditions (`decide`: comparisons between rune constants)
  cases te with
  | true =>
    -- tagparser copies the escaped rune; the region says it is none of `[ ] { } ,`
    obtain rfl : gpb = true := he rfl
    by_cases hq : ch = cDQuote
    · subst hq; simp_all (config := {decide := true})
    · simp_all
  | false =>
    by_cases hb : ch = cBackslash
    · subst hb; simp_all (config := {decide := true})
    by_cases hsq : ch = cSQuote
    · subst hsq; simp_all (config := {decide := true})
    by_cases hq : ch = cDQuote
    · subst hq; cases tq <;> simp_all (config := {decide := true})
    by_cases c1 : ch = cLBracket
    · subst c1; simp_all (config := {decide := true})
    by_cases c2 : ch = cRBracket
    · subst c2; simp_all (config := {decide := true})
    by_cases c3 : ch = cLBrace
    · subst c3; simp_all (config := {decide := true})
    by_cases c4 : ch = cRBrace
    · subst c4; simp_all (config := {decide := true})
    by_cases c5 : ch = cComma
    · subst c5
      cases tq <;> by_cases hk : tbk = 0 <;> by_cases hz : tbr = 0 <;> simp_all (config := {decide := true})
    · simp_all

theorem sim_run (rest : Str) : ∀ (g : GSt) (t : St), Sim g t → (t.escaped = true → g.prevBS = true) →
    splitRegionAux t.escaped g.prevBS rest = true → Sim (grun g rest) (run t rest) := by
  induction rest with
  | nil => intro g t hs _ _; simpa [grun, run] using hs
  | cons ch rest ih =>
    intro g t hs he hr
    obtain ⟨a, b, c⟩ := sim_step g t ch rest hs he hr
    simpa [grun, run] using ih _ _ a b c

/-- Full statement: gozodgen cuts a tag into the same parts as pkg/tagparser. -/
def c13_split_full : Prop := ∀ s : Str, genSplit s = splitParts s

/-- The two splitters agree on every tag of the region (no apostrophe outside an escape, no
    backslash-escaped bracket/brace/comma, no `"` after an escaped backslash) — any runes, any length,
    any nesting of brackets, braces and double quotes, balanced or not. -/
theorem c13_split_partial (s : Str) (h : splitRegion s = true) : genSplit s = splitParts s := by
  have hs := sim_run s {} {} ⟨rfl, rfl, rfl, rfl, rfl, by simp⟩ (by simp) (by simpa [splitRegion] using h)
  obtain ⟨h1, h2, _, _, _, _⟩ := hs
  unfold genSplit splitParts
  simp only [h1, h2]

/-- … and not in general: one witness per excluded class. -/
theorem c13_split_witnesses :
    -- `'a,b'` : tagparser keeps the quoted comma, the generator splits at it
    genSplit [0x27, 0x61, 0x2C, 0x62, 0x27] ≠ splitParts [0x27, 0x61, 0x2C, 0x62, 0x27] ∧
    -- `a\,b` : escaped comma
    genSplit [0x61, 0x5C, 0x2C, 0x62] ≠ splitParts [0x61, 0x5C, 0x2C, 0x62] ∧
    -- `\[,a` : escaped bracket (the generator counts it and never splits again)
    genSplit [0x5C, 0x5B, 0x2C, 0x61] ≠ splitParts [0x5C, 0x5B, 0x2C, 0x61] ∧
    -- `\\",a` : a double quote after an escaped backslash
    genSplit [0x5C, 0x5C, 0x22, 0x2C, 0x61] ≠ splitParts [0x5C, 0x5C, 0x22, 0x2C, 0x61] := by decide

theorem c13_split_full_false : ¬ c13_split_full := fun h => c13_split_witnesses.1 (h _)

-- r,x=^[a-z]{2,4}$,d=["a","b"]
example : splitRegion [0x72, 0x2C, 0x78, 0x3D, 0x5E, 0x5B, 0x61, 0x2D, 0x7A, 0x5D, 0x7B, 0x32, 0x2C, 0x34, 0x7D, 0x24, 0x2C,
    0x64, 0x3D, 0x5B, 0x22, 0x61, 0x22, 0x2C, 0x22, 0x62, 0x22, 0x5D] = true := by decide
example : (genSplit [0x72, 0x2C, 0x78, 0x3D, 0x5E, 0x5B, 0x61, 0x2D, 0x7A, 0x5D, 0x7B, 0x32, 0x2C, 0x34, 0x7D, 0x24, 0x2C,
    0x64, 0x3D, 0x5B, 0x22, 0x61, 0x22, 0x2C, 0x22, 0x62, 0x22, 0x5D]).length = 3 := by decide

/-- what `ParseTagString` keeps of a parsed rule -/
def keep (r : Rule) : Option Rule := if r.name ≠ [] then some r else none

theorem part_agree (p : Str) (h : partRegion p = true) :
    ∃ r, parseRule false (trimSpace p) = .ok r ∧ genParsePart p = .ok (keep r) := by
  unfold partRegion at h
  unfold genParsePart parseRule
  by_cases h0 : trimSpace p = []
  · simp [h0, keep]
  · simp only [h0, if_false] at h ⊢
    rcases hc : cutEq (trimSpace p) with ⟨name, raw, ok⟩
    rw [hc] at h
    simp only
    cases ok with
    | false =>
      have hne : trimSpace (trimSpace p) ≠ [] := fun e => h0 ((trimBy_idem isSpace p).symm.trans e)
      simp [hne, keep]
    | true =>
      simp only [cSpace, ↓reduceIte, Bool.not_true, Bool.false_eq_true] at h ⊢
      simp only [Bool.and_eq_true, bne_iff_ne, ne_eq, Bool.or_eq_true, Bool.not_eq_true'] at h
      obtain ⟨⟨⟨hraw, hname⟩, hq⟩, hsp⟩ := h
      have hq2 : ∀ b : Bool, (b && hasPrefixQ (trimSpace raw) && hasSuffixQ (trimSpace raw)) = false := by
        intro b; rw [Bool.and_assoc, hq]; simp
      by_cases hsv : (trimSpace raw).contains 0x20 = true
      · rw [hsv] at hsp
        have hm : 32 ∈ trimSpace raw := by simpa using hsv
        rcases hsp with hsp | ⟨hb, hr⟩
        · simp at hsp
        · simp [hraw, hname, hq2, hr, hb, hm, keep]
      · have hm : ¬ 32 ∈ trimSpace raw := by simpa using hsv
        by_cases hbv : bracketed (trimSpace raw) = true
        · simp [hraw, hname, hq2, hbv, hm, keep]
        · have hbv : bracketed (trimSpace raw) = false := by simpa using hbv
          simp [hraw, hname, hq2, hbv, hm, keep]

theorem parts_agree (ps : List Str) (h : ps.all partRegion = true) :
    genParseParts ps = parseParts false ps := by
  induction ps with
  | nil => rfl
  | cons p ps ih =>
    simp only [List.all_cons, Bool.and_eq_true] at h
    obtain ⟨r, h1, h2⟩ := part_agree p h.1
    have ih := ih h.2
    simp only [genParseParts, parseParts, h1, h2, ih]
    cases parseParts false ps with
    | error e => rfl
    | ok rs => by_cases hn : r.name = [] <;> simp [keep, hn]

/-- Full statement: gozodgen reads the same rules out of a tag as pkg/tagparser (so as FromStruct). -/
def c13_parse_full : Prop := ∀ s : Str, genParseTag s = parseTag false s

/-- The two rule parsers agree on the region: the splitters' region, and in every part with `=`
    neither side blank, no `'…'` parameter, and a parameter with a space is neither bracketed nor a regex. -/
theorem c13_parse_partial (s : Str) (h : parseRegion s = true) : genParseTag s = parseTag false s := by
  unfold parseRegion at h
  simp only [Bool.and_eq_true] at h
  unfold genParseTag parseTag
  by_cases h0 : s = []
  · simp [h0]
  · simp only [h0, if_false]
    rw [c13_split_partial s h.1]
    exact parts_agree _ h.2

/-- … and not in general: one witness per excluded class of parts. -/
theorem c13_parse_witnesses :
    -- `regex=a b` : the generator keeps the parameter whole, tagparser cuts it into fields
    genParseTag [0x72, 0x65, 0x67, 0x65, 0x78, 0x3D, 0x61, 0x20, 0x62] ≠ parseTag false [0x72, 0x65, 0x67, 0x65, 0x78, 0x3D, 0x61, 0x20, 0x62] ∧
    -- `default=[1, 2]` : whole vs fields
    genParseTag [0x64, 0x65, 0x66, 0x61, 0x75, 0x6C, 0x74, 0x3D, 0x5B, 0x31, 0x2C, 0x20, 0x32, 0x5D] ≠ parseTag false [0x64, 0x65, 0x66, 0x61, 0x75, 0x6C, 0x74, 0x3D, 0x5B, 0x31, 0x2C, 0x20, 0x32, 0x5D] ∧
    -- `min=` : refused (error) vs a rule without parameter
    genParseTag [0x6D, 0x69, 0x6E, 0x3D] ≠ parseTag false [0x6D, 0x69, 0x6E, 0x3D] ∧
    -- `=3` : refused vs skipped
    genParseTag [0x3D, 0x33] ≠ parseTag false [0x3D, 0x33] ∧
    -- `default='a b'` : apostrophes kept (and cut into fields) vs stripped
    genParseTag [0x64, 0x65, 0x66, 0x61, 0x75, 0x6C, 0x74, 0x3D, 0x27, 0x61, 0x20, 0x62, 0x27] ≠ parseTag false [0x64, 0x65, 0x66, 0x61, 0x75, 0x6C, 0x74, 0x3D, 0x27, 0x61, 0x20, 0x62, 0x27] := by
  decide

theorem c13_parse_full_false : ¬ c13_parse_full := fun h => c13_parse_witnesses.1 (h _)

-- required,enum=a b c,regex=^[a-z]{2,4}$,default=["x","y"],min=3
example : parseRegion [0x72, 0x65, 0x71, 0x75, 0x69, 0x72, 0x65, 0x64, 0x2C, 0x65, 0x6E, 0x75, 0x6D, 0x3D, 0x61, 0x20, 0x62, 0x20, 0x63, 0x2C, 0x72, 0x65, 0x67, 0x65, 0x78, 0x3D, 0x5E, 0x5B, 0x61, 0x2D, 0x7A, 0x5D, 0x7B, 0x32, 0x2C, 0x34, 0x7D, 0x24, 0x2C, 0x64, 0x65, 0x66, 0x61, 0x75, 0x6C, 0x74, 0x3D, 0x5B, 0x22, 0x78, 0x22, 0x2C, 0x22, 0x79, 0x22, 0x5D, 0x2C, 0x6D, 0x69, 0x6E, 0x3D, 0x33] = true := by decide +kernel
-- enum=a b,min=3
example : genParseTag [0x65, 0x6E, 0x75, 0x6D, 0x3D, 0x61, 0x20, 0x62, 0x2C, 0x6D, 0x69, 0x6E, 0x3D, 0x33] =
    .ok [⟨[0x65, 0x6E, 0x75, 0x6D], some [[0x61], [0x62]]⟩, ⟨[0x6D, 0x69, 0x6E], some [[0x33]]⟩] := by decide

/-- Inside the region the text gozodgen writes for a field is a function of the rules pkg/tagparser (so
    FromStruct) reads from the tag. -/
theorem c13_emit_reads_tagparser (W : GenEmit.WriterFacts) (t : GenEmit.Ty) (sn : Str) (s : Str) (rs : List Rule)
    (h : parseRegion s = true) (hp : parseTag false s = .ok rs) :
    GenEmit.emitField W t sn s = GenEmit.emitRules W t sn rs := by
  unfold GenEmit.emitField
  rw [c13_parse_partial s h, hp]

/-- two tags of the region that pkg/tagparser reads alike give the same generated code — so white space around rules and
    around `=`, which `C06.c06_parse_ws` / `c06_rule_ws` show it ignores, never reaches it (that corollary is not drawn here). -/
theorem c13_emit_ws_invariant (W : GenEmit.WriterFacts) (t : GenEmit.Ty) (sn : Str) (s₁ s₂ : Str)
    (h₁ : parseRegion s₁ = true) (h₂ : parseRegion s₂ = true) (hp : parseTag false s₁ = parseTag false s₂) :
    GenEmit.emitField W t sn s₁ = GenEmit.emitField W t sn s₂ := by
  unfold GenEmit.emitField
  rw [c13_parse_partial s₁ h₁, c13_parse_partial s₂ h₂, hp]

end Gozod.C13
