/-
  C20 — the alternatives of `regex.IPv6` without a dotted quad are bounded repeats of `GC` and of ':' group (`CG`,
  Proofs/C20Fields.lean), and accept the shapes of `ipv6_shape` without a quad (`pat_hex`).
-/
import Gozod.Proofs.C20V6Shape
import Gozod.Proofs.C20Fixed
import Gozod.Gen.Re_ipv6
namespace Gozod.C20
open Gozod Gozod.Re Gozod.Fmt
open Gozod.Parsers (isHextet)

def CG (a : List Nat) : Prop := ∃ f, isHextet f = true ∧ a = 58 :: f

abbrev hexCls : Re := .cls hexC
abbrev colon : Re := .cls [(58, 58)]
/-- `[0-9a-fA-F]{1,4}:` and `:[0-9a-fA-F]{1,4}` as they stand inside the generated sequences -/
def gcRe : List Re := [hexCls, Gen.ipv6.s3, colon]
def cgRe : List Re := [colon, hexCls, Gen.ipv6.s3]

theorem accepts_group (f : List Nat) : accepts (seqs [hexCls, Gen.ipv6.s3]) f = true ↔ isHextet f = true := by
  rw [show seqs [hexCls, Gen.ipv6.s3] = upTo [hexCls] 3 from rfl, accepts_upTo (List.cons_ne_nil _ _), isHextet_iff]
  simp only [show seqs [hexCls] = hexCls from rfl, rep_cls, inRanges_hexC]
  constructor
  · rintro ⟨i, h1, h4, hl, hall⟩
    exact ⟨by intro e; rw [e] at hl; simp only [List.length_nil] at hl; omega, by omega, hall⟩
  · rintro ⟨hne, h4, hall⟩
    exact ⟨f.length, List.length_pos_iff.2 hne, h4, rfl, hall⟩

theorem accepts_gc (a : List Nat) : accepts (seqs gcRe) a = true ↔ GC a := by
  rw [show accepts (seqs gcRe) a = _ from accepts_seqs_append [hexCls, Gen.ipv6.s3] [colon] (List.cons_ne_nil _ _) a, accepts_seq]
  simp only [accepts_group, show seqs [colon] = colon from rfl, accepts_byte]
  exact ⟨fun ⟨f, _, e, hf, hr⟩ => ⟨f, hf, by rw [e, hr]⟩, fun ⟨f, hf, e⟩ => ⟨f, [58], e, hf, rfl⟩⟩

theorem accepts_cg (a : List Nat) : accepts (seqs cgRe) a = true ↔ CG a := by
  rw [show seqs cgRe = seq colon (seqs [hexCls, Gen.ipv6.s3]) from rfl, accepts_seq]
  simp only [accepts_group, accepts_byte]
  exact ⟨fun ⟨_, f, e, hr, hf⟩ => ⟨f, hf, by rw [e, hr]; rfl⟩, fun ⟨f, hf, e⟩ => ⟨[58], f, e, rfl, hf⟩⟩

theorem rep_cg : ∀ (n : Nat) (x : List Nat), Rep CG (n + 1) x ↔ ∃ b t, x = 58 :: (b ++ t) ∧ Rep GC n b ∧ isHextet t = true
  | 0, x => by
    constructor
    · rintro ⟨_, _, rfl, ⟨f, hf, rfl⟩, rfl⟩
      exact ⟨[], f, by simp, rfl, hf⟩
    · rintro ⟨_, t, rfl, rfl, ht⟩
      exact Rep.one ⟨t, ht, rfl⟩
  | n + 1, x => by
    constructor
    · rintro ⟨_, y, rfl, ⟨f, hf, rfl⟩, hy⟩
      obtain ⟨b, t, rfl, hb, ht⟩ := (rep_cg n y).1 hy
      exact ⟨(f ++ [58]) ++ b, t, by simp, Rep.cons ⟨f, hf, rfl⟩ hb, ht⟩
    · rintro ⟨_, t, rfl, ⟨_, b, rfl, ⟨f, hf, rfl⟩, hb⟩, ht⟩
      have := Rep.cons (L := CG) ⟨f, hf, rfl⟩ ((rep_cg n _).2 ⟨b, t, rfl, hb, ht⟩)
      simpa using this

theorem accepts_upTo_gc (k : Nat) (s : List Nat) : accepts (upTo gcRe k) s = true ↔ ∃ i, 1 ≤ i ∧ i ≤ k + 1 ∧ Rep GC i s := by
  simp only [accepts_upTo (pre := gcRe) (List.cons_ne_nil _ _), Rep.congr accepts_gc]

theorem accepts_upTo_cg (k : Nat) (s : List Nat) : accepts (upTo cgRe k) s = true ↔ ∃ i, 1 ≤ i ∧ i ≤ k + 1 ∧ Rep CG i s := by
  simp only [accepts_upTo (pre := cgRe) (List.cons_ne_nil _ _), Rep.congr accepts_cg]

/-- `(group ':'){1,m+1} (':' group){1,k+1}`: the second ':' is a "::", after it stand up to `k` times group ':' and a last group -/
theorem accepts_gc_cg (m k : Nat) (s : List Nat) : accepts (seq (upTo gcRe m) (upTo cgRe k)) s = true ↔
    ∃ i j a b t, 1 ≤ i ∧ i ≤ m + 1 ∧ j ≤ k ∧ s = a ++ 58 :: (b ++ t) ∧ Rep GC i a ∧ Rep GC j b ∧ isHextet t = true := by
  simp only [accepts_seq, accepts_upTo_gc, accepts_upTo_cg]
  constructor
  · rintro ⟨a, x, rfl, ⟨i, h1, hm, ha⟩, j, hj1, hk, hx⟩
    obtain ⟨j, rfl⟩ : ∃ j', j = j' + 1 := ⟨j - 1, by omega⟩
    obtain ⟨b, t, rfl, hb, ht⟩ := (rep_cg j x).1 hx
    exact ⟨i, j, a, b, t, h1, hm, by omega, rfl, ha, hb, ht⟩
  · rintro ⟨i, j, a, b, t, h1, hm, hk, rfl, ha, hb, ht⟩
    exact ⟨a, _, rfl, ⟨i, h1, hm, ha⟩, j + 1, by omega, by omega, (rep_cg j _).2 ⟨b, t, rfl, hb, ht⟩⟩

/-- the six alternatives `(group ':'){1,6-k} (':' group){1,k+1}`, k = 0 … 5 (`Gen.ipv6.s18`, `s21`, `s24`, `s27`, `s30`, `s33`).  `P` stands
    for the alternatives after them: the pattern is a right-nested alternation, and with `∨ P` the statement rewrites its front. -/
theorem hex_alts (s : List Nat) (P : Prop) :
    (accepts Gen.ipv6.s18 s = true ∨ accepts Gen.ipv6.s21 s = true ∨ accepts Gen.ipv6.s24 s = true ∨ accepts Gen.ipv6.s27 s = true ∨
      accepts Gen.ipv6.s30 s = true ∨ accepts Gen.ipv6.s33 s = true ∨ P) ↔
    (∃ k, k ≤ 5 ∧ accepts (seq (upTo gcRe (5 - k)) (upTo cgRe k)) s = true) ∨ P := by
  -- each generated sequence cut between its two repeats: the inner optionals `s14 … s6` are `upTo gcRe 4 … 0` by unfolding
  have e0 : accepts Gen.ipv6.s18 s = accepts (seq (upTo gcRe 5) (upTo cgRe 0)) s :=
    accepts_seqs_append [hexCls, Gen.ipv6.s3, colon, Gen.ipv6.s14] cgRe (List.cons_ne_nil _ _) s
  have e1 : accepts Gen.ipv6.s21 s = accepts (seq (upTo gcRe 4) (upTo cgRe 1)) s :=
    accepts_seqs_append [hexCls, Gen.ipv6.s3, colon, Gen.ipv6.s12] _ (List.cons_ne_nil _ _) s
  have e2 : accepts Gen.ipv6.s24 s = accepts (seq (upTo gcRe 3) (upTo cgRe 2)) s :=
    accepts_seqs_append [hexCls, Gen.ipv6.s3, colon, Gen.ipv6.s10] _ (List.cons_ne_nil _ _) s
  have e3 : accepts Gen.ipv6.s27 s = accepts (seq (upTo gcRe 2) (upTo cgRe 3)) s :=
    accepts_seqs_append [hexCls, Gen.ipv6.s3, colon, Gen.ipv6.s8] _ (List.cons_ne_nil _ _) s
  have e4 : accepts Gen.ipv6.s30 s = accepts (seq (upTo gcRe 1) (upTo cgRe 4)) s :=
    accepts_seqs_append [hexCls, Gen.ipv6.s3, colon, Gen.ipv6.s6] _ (List.cons_ne_nil _ _) s
  have e5 : accepts Gen.ipv6.s33 s = accepts (seq (upTo gcRe 0) (upTo cgRe 5)) s :=
    accepts_seqs_append gcRe (colon :: _) (List.cons_ne_nil _ _) s
  rw [e0, e1, e2, e3, e4, e5]
  constructor
  · rintro (h | h | h | h | h | h | h)
    · exact Or.inl ⟨0, by decide, h⟩
    · exact Or.inl ⟨1, by decide, h⟩
    · exact Or.inl ⟨2, by decide, h⟩
    · exact Or.inl ⟨3, by decide, h⟩
    · exact Or.inl ⟨4, by decide, h⟩
    · exact Or.inl ⟨5, by decide, h⟩
    · exact Or.inr h
  · rintro (⟨k, hk, h⟩ | h)
    · obtain rfl | rfl | rfl | rfl | rfl | rfl : k = 0 ∨ k = 1 ∨ k = 2 ∨ k = 3 ∨ k = 4 ∨ k = 5 := by omega
      · exact Or.inl h
      · exact Or.inr (Or.inl h)
      · exact Or.inr (Or.inr (Or.inl h))
      · exact Or.inr (Or.inr (Or.inr (Or.inl h)))
      · exact Or.inr (Or.inr (Or.inr (Or.inr (Or.inl h))))
      · exact Or.inr (Or.inr (Or.inr (Or.inr (Or.inr (Or.inl h)))))
    · exact Or.inr (Or.inr (Or.inr (Or.inr (Or.inr (Or.inr h)))))

/-- `([0-9a-fA-F]{1,4}:){7}[0-9a-fA-F]{1,4}` -/
theorem pat_s4 (s : List Nat) : accepts Gen.ipv6.s4 s = true ↔ ∃ a t, s = a ++ t ∧ Rep GC 7 a ∧ isHextet t = true := by
  rw [show accepts Gen.ipv6.s4 s = true ↔ _ from
    accepts_seqs_rep (pre := gcRe) (m := [hexCls, Gen.ipv6.s3]) (List.cons_ne_nil _ _) 7 s]
  simp only [Rep.congr accepts_gc, accepts_group]

/-- `([0-9a-fA-F]{1,4}:){1,7}:` -/
theorem pat_s17 (s : List Nat) : accepts Gen.ipv6.s17 s = true ↔ ∃ i a, 1 ≤ i ∧ i ≤ 7 ∧ Rep GC i a ∧ s = a ++ [58] := by
  rw [show accepts Gen.ipv6.s17 s = accepts (seq (upTo gcRe 6) colon) s from
    accepts_seqs_append [hexCls, Gen.ipv6.s3, colon, Gen.ipv6.s16] [colon] (List.cons_ne_nil _ _) s, accepts_seq]
  simp only [accepts_upTo_gc, accepts_byte]
  exact ⟨fun ⟨a, _, e, ⟨i, h1, h7, ha⟩, hr⟩ => ⟨i, a, h1, h7, ha, hr ▸ e⟩, fun ⟨i, a, h1, h7, ha, e⟩ => ⟨a, _, e, ⟨i, h1, h7, ha⟩, rfl⟩⟩

/-- `:((:[0-9a-fA-F]{1,4}){1,7}|:)` -/
theorem pat_s38 (s : List Nat) : accepts Gen.ipv6.s38 s = true ↔
    ∃ r, s = 58 :: 58 :: r ∧ (r = [] ∨ ∃ j b t, j ≤ 6 ∧ r = b ++ t ∧ Rep GC j b ∧ isHextet t = true) := by
  rw [show Gen.ipv6.s38 = seq colon (alt (upTo cgRe 6) colon) from rfl, accepts_seq]
  simp only [accepts_alt, accepts_upTo_cg, accepts_byte]
  constructor
  · rintro ⟨_, x, rfl, rfl, ⟨j, h1, h7, hx⟩ | rfl⟩
    · obtain ⟨j, rfl⟩ : ∃ j', j = j' + 1 := ⟨j - 1, by omega⟩
      obtain ⟨b, t, rfl, hb, ht⟩ := (rep_cg j x).1 hx
      exact ⟨b ++ t, rfl, Or.inr ⟨j, b, t, by omega, rfl, hb, ht⟩⟩
    · exact ⟨[], rfl, Or.inl rfl⟩
  · rintro ⟨_, rfl, rfl | ⟨j, b, t, h6, rfl, hb, ht⟩⟩
    · exact ⟨[58], [58], rfl, rfl, Or.inr rfl⟩
    · exact ⟨[58], _, rfl, rfl, Or.inl ⟨j + 1, by omega, by omega, (rep_cg j _).2 ⟨b, t, rfl, hb, ht⟩⟩⟩

/-- the nine alternatives without a dotted quad and without a zone (`P`: the other three) accept the shapes of `ipv6_shape`
    without a quad -/
theorem pat_hex (s : List Nat) (P : Prop) :
    (accepts Gen.ipv6.s4 s = true ∨ accepts Gen.ipv6.s17 s = true ∨ accepts Gen.ipv6.s18 s = true ∨ accepts Gen.ipv6.s21 s = true ∨
     accepts Gen.ipv6.s24 s = true ∨ accepts Gen.ipv6.s27 s = true ∨ accepts Gen.ipv6.s30 s = true ∨ accepts Gen.ipv6.s33 s = true ∨
     accepts Gen.ipv6.s38 s = true ∨ P) ↔
    ((∃ a t, s = a ++ t ∧ Rep GC 7 a ∧ isHextet t = true) ∨
     (∃ i a r, s = a ++ 58 :: r ∧ i ≤ 7 ∧ BeforeEll i a ∧
       (r = [] ∨ ∃ j b t, r = b ++ t ∧ Rep GC j b ∧ isHextet t = true ∧ i + j ≤ 6))) ∨ P := by
  rw [hex_alts, pat_s4, pat_s17, pat_s38]
  constructor
  · rintro (h | ⟨i, a, h1, h7, ha, rfl⟩ | ⟨k, hk, h⟩ | ⟨r, rfl, hr⟩ | h)
    · exact Or.inl (Or.inl h)
    · exact Or.inl (Or.inr ⟨i, a, [], rfl, h7, by rw [BeforeEll, if_neg (by omega)]; exact ha, Or.inl rfl⟩)
    · obtain ⟨i, j, a, b, t, h1, hm, hj, rfl, ha, hb, ht⟩ := (accepts_gc_cg _ _ s).1 h
      exact Or.inl (Or.inr ⟨i, a, b ++ t, rfl, by omega, by rw [BeforeEll, if_neg (by omega)]; exact ha,
        Or.inr ⟨j, b, t, rfl, hb, ht, by omega⟩⟩)
    · refine Or.inl (Or.inr ⟨0, [58], r, rfl, Nat.zero_le 7, by rw [BeforeEll, if_pos rfl], hr.imp_right ?_⟩)
      rintro ⟨j, b, t, h6, e, hb, ht⟩
      exact ⟨j, b, t, e, hb, ht, by omega⟩
    · exact Or.inr h
  · rintro ((h | ⟨i, a, r, rfl, h7, ha, hr⟩) | h)
    · exact Or.inl h
    · cases i with
      | zero =>
        rw [BeforeEll, if_pos rfl] at ha
        subst ha
        refine Or.inr (Or.inr (Or.inr (Or.inl ⟨r, rfl, hr.imp_right ?_⟩)))
        rintro ⟨j, b, t, e, hb, ht, h6⟩
        exact ⟨j, b, t, by omega, e, hb, ht⟩
      | succ i =>
        rw [BeforeEll, if_neg (Nat.succ_ne_zero i)] at ha
        rcases hr with rfl | ⟨j, b, t, rfl, hb, ht, h6⟩
        · exact Or.inr (Or.inl ⟨i + 1, a, by omega, h7, ha, rfl⟩)
        · exact Or.inr (Or.inr (Or.inl ⟨j, by omega,
            (accepts_gc_cg _ _ _).2 ⟨i + 1, j, a, b, t, by omega, by omega, Nat.le_refl j, rfl, ha, hb, ht⟩⟩))
    · exact Or.inr (Or.inr (Or.inr (Or.inr h)))

end Gozod.C20
