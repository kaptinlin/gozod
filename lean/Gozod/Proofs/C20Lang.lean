/-
  The matcher of Model/Regex.lean (Brzozowski derivatives with the smart constructors `mkSeq`, `mkAlt`) recognises exactly
  the language of the regular expression in the usual denotational reading (`accepts_iff_lang`), for every regular
  expression.  Read off it, the two ways a format proof reads a pattern:

  * as a shape (formats of variable length): `accepts_seq` (some cut), `accepts_alt`; a flat sequence cut in two
    (`accepts_seqs_append`, `accepts_appendSeq`); a separator byte (`accepts_byte`, `accepts_byte_seq`, `accepts_seq_byte`).
    Bounded repeats and chunks in a row: Proofs/C20Fields.lean.
  * by evaluation (pieces of fixed length), as Boolean equations: a leading class takes one byte (`accepts_cls_seq`,
    `accepts_cls`; `inRanges_one`, `inRanges_byte`), alternatives are `||` (`accepts_alt_eq`, `accepts_seq_alt`), and a head
    whose words have one length (`fixedLen`: no `star`, alternatives equally long) takes exactly that many bytes
    (`accepts_seq_fixed`).  A sequence of classes position by position: Proofs/C20Fixed.lean; pieces made of digit classes,
    which are finite facts: Proofs/C20Digits.lean.
-/
import Gozod.Model.Regex
namespace Gozod.Re

/-- Kleene star of a language, in non-empty chunks (what `star_cons_inv` needs) -/
inductive Star (L : List Nat → Prop) : List Nat → Prop
  | nil : Star L []
  | cons {a b : List Nat} : a ≠ [] → L a → Star L b → Star L (a ++ b)

def Lang : Re → List Nat → Prop
  | cls rs, s => ∃ c, s = [c] ∧ inRanges c rs = true
  | eps, s => s = []
  | seq a b, s => ∃ s1 s2, s = s1 ++ s2 ∧ Lang a s1 ∧ Lang b s2
  | alt a b, s => Lang a s ∨ Lang b s
  | star a, s => Star (Lang a) s

theorem lang_void (s : List Nat) : ¬ Lang void s := by
  intro h; obtain ⟨c, _, h⟩ := h; simp [inRanges] at h

theorem isNone_eq {a : Re} (h : isNone a = true) : a = void := by
  cases a with
  | cls rs => cases rs with
    | nil => rfl
    | cons _ _ => simp [isNone] at h
  | _ => simp [isNone] at h

theorem isEps_eq {a : Re} (h : isEps a = true) : a = eps := by
  cases a <;> simp [isEps] at h; rfl

theorem nullable_iff : ∀ r : Re, nullable r = true ↔ Lang r []
  | cls rs => by simp [nullable, Lang]
  | eps => by simp [nullable, Lang]
  | seq a b => by
    simp only [nullable, Bool.and_eq_true, nullable_iff a, nullable_iff b, Lang]
    constructor
    · intro ⟨ha, hb⟩; exact ⟨[], [], rfl, ha, hb⟩
    · intro ⟨s1, s2, hs, ha, hb⟩
      have := List.append_eq_nil_iff.1 hs.symm
      rw [this.1] at ha; rw [this.2] at hb; exact ⟨ha, hb⟩
  | alt a b => by simp only [nullable, Bool.or_eq_true, nullable_iff a, nullable_iff b, Lang]
  | star a => by simp only [nullable, Lang]; exact ⟨fun _ => Star.nil, fun _ => trivial⟩

theorem lang_mkSeq (a b : Re) (s : List Nat) : Lang (mkSeq a b) s ↔ Lang (seq a b) s := by
  unfold mkSeq
  split
  · next h => rw [isNone_eq h]; exact iff_of_false (lang_void s) fun ⟨s1, _, _, h, _⟩ => lang_void s1 h
  split
  · next h => rw [isNone_eq h]; exact iff_of_false (lang_void s) fun ⟨_, s2, _, _, h⟩ => lang_void s2 h
  split
  · next h =>
    rw [isEps_eq h]
    refine ⟨fun h => ⟨[], s, rfl, rfl, h⟩, fun ⟨s1, s2, hs, h1, h2⟩ => ?_⟩
    cases (h1 : s1 = []); exact hs ▸ h2
  split
  · next h =>
    rw [isEps_eq h]
    refine ⟨fun h => ⟨s, [], (List.append_nil s).symm, h, rfl⟩, fun ⟨s1, s2, hs, h1, h2⟩ => ?_⟩
    cases (h2 : s2 = []); rw [hs, List.append_nil]; exact h1
  · exact Iff.rfl

def LangL (l : List Re) (s : List Nat) : Prop := ∃ r, r ∈ l ∧ Lang r s

theorem langL_nil (s : List Nat) : ¬ LangL [] s := fun ⟨_, hr, _⟩ => by cases hr

theorem langL_cons (r : Re) (l : List Re) (s : List Nat) : LangL (r :: l) s ↔ Lang r s ∨ LangL l s := by
  simp only [LangL, List.mem_cons, or_and_right, exists_or, exists_eq_left]

theorem langL_append (l1 l2 : List Re) (s : List Nat) : LangL (l1 ++ l2) s ↔ LangL l1 s ∨ LangL l2 s := by
  simp only [LangL, List.mem_append, or_and_right, exists_or]

theorem langL_single (r : Re) (s : List Nat) : LangL [r] s ↔ Lang r s :=
  (langL_cons r [] s).trans (or_iff_left (langL_nil s))

theorem lang_alts : ∀ (r : Re) (s : List Nat), LangL (alts r) s ↔ Lang r s
  | alt a b, s => by
    simp only [alts, langL_append, lang_alts a, lang_alts b, Lang]
  | cls rs, s => langL_single _ _
  | eps, s => langL_single _ _
  | seq a b, s => langL_single _ _
  | star a, s => langL_single _ _

theorem memRe_mem {r : Re} : ∀ {l : List Re}, memRe r l = true → r ∈ l
  | [], h => by simp [memRe] at h
  | x :: xs, h => by
    simp only [memRe, Bool.or_eq_true] at h
    rcases h with h | h
    · rw [beq_eq h]; exact List.mem_cons_self
    · exact List.mem_cons_of_mem _ (memRe_mem h)

theorem lang_dedup (s : List Nat) : ∀ (xs acc : List Re), LangL (dedup xs acc) s ↔ LangL xs s ∨ LangL acc s
  | [], acc => by
    simp only [dedup, LangL, List.mem_reverse, List.not_mem_nil, false_and, exists_false, false_or]
  | x :: xs, acc => by
    simp only [dedup]
    split
    · next hc =>
      -- `x` is dropped: it matches nothing, or it is in `acc` already
      have hx : Lang x s → LangL acc s := fun h => by
        rcases Bool.or_eq_true_iff.1 hc with hc | hc
        · rw [isNone_eq hc] at h; exact absurd h (lang_void s)
        · exact ⟨x, memRe_mem hc, h⟩
      rw [lang_dedup s xs acc, langL_cons, or_assoc, or_left_comm, or_iff_right_of_imp hx]
    · rw [lang_dedup s xs (x :: acc), langL_cons, langL_cons, or_left_comm, or_assoc]

theorem lang_ofAlts (s : List Nat) : ∀ l : List Re, Lang (ofAlts l) s ↔ LangL l s
  | [] => iff_of_false (lang_void s) (langL_nil s)
  | [r] => (langL_single r s).symm
  | r :: r' :: rs => by
    simp only [ofAlts, Lang, lang_ofAlts s (r' :: rs), langL_cons]

theorem lang_mkAlt (a b : Re) (s : List Nat) : Lang (mkAlt a b) s ↔ Lang a s ∨ Lang b s := by
  unfold mkAlt
  rw [lang_ofAlts, lang_dedup, langL_append, lang_alts, lang_alts]
  exact or_iff_left (langL_nil s)

theorem star_cons_inv {L : List Nat → Prop} {c : Nat} {s : List Nat} (h : Star L (c :: s)) :
    ∃ s1 s2, s = s1 ++ s2 ∧ L (c :: s1) ∧ Star L s2 := by
  generalize hx : c :: s = x at h
  cases h with
  | nil => cases hx
  | @cons a b hne ha hb =>
    cases a with
    | nil => exact absurd rfl hne
    | cons a0 a' =>
      simp only [List.cons_append, List.cons.injEq] at hx
      obtain ⟨rfl, rfl⟩ := hx
      exact ⟨a', b, rfl, ha, hb⟩

theorem lang_seq_cons (a b : Re) (c : Nat) (s : List Nat) : Lang (seq a b) (c :: s) ↔
    (Lang a [] ∧ Lang b (c :: s)) ∨ ∃ s1 s2, s = s1 ++ s2 ∧ Lang a (c :: s1) ∧ Lang b s2 := by
  constructor
  · intro ⟨s1, s2, hs, h1, h2⟩
    cases s1 with
    | nil => rw [List.nil_append] at hs; rw [← hs] at h2; exact Or.inl ⟨h1, h2⟩
    | cons x s1' =>
      simp only [List.cons_append, List.cons.injEq] at hs
      obtain ⟨rfl, rfl⟩ := hs
      exact Or.inr ⟨s1', s2, rfl, h1, h2⟩
  · intro h
    rcases h with ⟨h1, h2⟩ | ⟨s1, s2, hs, h1, h2⟩
    · exact ⟨[], c :: s, rfl, h1, h2⟩
    · exact ⟨c :: s1, s2, by rw [hs]; rfl, h1, h2⟩

theorem lang_deriv (c : Nat) : ∀ (r : Re) (s : List Nat), Lang (deriv c r) s ↔ Lang r (c :: s)
  | cls rs, s => by cases h : inRanges c rs <;> simp [deriv, Lang, h, inRanges, and_assoc]
  | eps, s => by simp [deriv, Lang, inRanges]
  | seq a b, s => by
    have step1 : Lang (mkSeq (deriv c a) b) s ↔ ∃ s1 s2, s = s1 ++ s2 ∧ Lang a (c :: s1) ∧ Lang b s2 := by
      simp only [lang_mkSeq, Lang, lang_deriv c a]
    simp only [deriv]
    split
    · next hn =>
      rw [lang_mkAlt, step1, lang_deriv c b s, lang_seq_cons, or_comm, and_iff_right ((nullable_iff a).1 hn)]
    · next hn =>
      rw [step1, lang_seq_cons, or_iff_right fun h => hn ((nullable_iff a).2 h.1)]
  | alt a b, s => by
    simp only [deriv, lang_mkAlt, lang_deriv c a s, lang_deriv c b s, Lang]
  | star a, s => by
    simp only [deriv, lang_mkSeq, Lang, lang_deriv c a]
    exact ⟨fun ⟨s1, s2, hs, h1, h2⟩ => hs ▸ Star.cons (a := c :: s1) (List.cons_ne_nil c s1) h1 h2, star_cons_inv⟩

theorem accepts_iff_lang : ∀ (s : List Nat) (r : Re), accepts r s = true ↔ Lang r s
  | [], r => nullable_iff r
  | c :: s, r => (accepts_iff_lang s (deriv c r)).trans (lang_deriv c r s)

theorem accepts_seq (a b : Re) (s : List Nat) :
    accepts (seq a b) s = true ↔ ∃ s1 s2, s = s1 ++ s2 ∧ accepts a s1 = true ∧ accepts b s2 = true := by
  simp only [accepts_iff_lang, Lang]

theorem accepts_alt (a b : Re) (s : List Nat) :
    accepts (alt a b) s = true ↔ accepts a s = true ∨ accepts b s = true := by
  simp only [accepts_iff_lang, Lang]

theorem accepts_nil (r : Re) : accepts r [] = nullable r := rfl

theorem accepts_void : ∀ s : List Nat, accepts void s = false
  | [] => rfl
  | c :: s => by
    show accepts (deriv c void) s = false
    rw [deriv_none]; exact accepts_void s

theorem accepts_eps (s : List Nat) : accepts eps s = s.isEmpty := by
  cases s with
  | nil => rfl
  | cons c s => exact accepts_void s

theorem mkSeq_eps_left (r : Re) : mkSeq eps r = r := by
  simp only [mkSeq, show isNone eps = false from rfl, show isEps eps = true from rfl, Bool.false_eq_true, if_false, if_true]
  split
  · next h => exact (isNone_eq h).symm
  · rfl

theorem accepts_cls_seq (rs : List (Nat × Nat)) (r : Re) (c : Nat) (s : List Nat) :
    accepts (seq (cls rs) r) (c :: s) = (inRanges c rs && accepts r s) := by
  show accepts (mkSeq (if inRanges c rs then eps else void) r) s = _
  cases inRanges c rs with
  | true => simp only [if_true, mkSeq_eps_left, Bool.true_and]
  | false => simp only [Bool.false_eq_true, if_false, mkSeq_none_left, accepts_void, Bool.false_and]

theorem accepts_cls (rs : List (Nat × Nat)) (c : Nat) (s : List Nat) :
    accepts (cls rs) (c :: s) = (inRanges c rs && s.isEmpty) := by
  show accepts (if inRanges c rs then eps else void) s = _
  cases inRanges c rs with
  | true => simp only [if_true, accepts_eps, Bool.true_and]
  | false => simp only [Bool.false_eq_true, if_false, accepts_void, Bool.false_and]

theorem accepts_alt_eq (a b : Re) (s : List Nat) : accepts (alt a b) s = (accepts a s || accepts b s) := by
  rw [Bool.eq_iff_iff, accepts_alt, Bool.or_eq_true]

theorem accepts_seq_alt (a b r : Re) (s : List Nat) :
    accepts (seq (alt a b) r) s = (accepts (seq a r) s || accepts (seq b r) s) := by
  rw [Bool.eq_iff_iff, Bool.or_eq_true, accepts_seq, accepts_seq, accepts_seq]
  constructor
  · rintro ⟨s1, s2, e, h1, h2⟩
    exact ((accepts_alt a b s1).1 h1).imp (fun h => ⟨s1, s2, e, h, h2⟩) (fun h => ⟨s1, s2, e, h, h2⟩)
  · rintro (⟨s1, s2, e, h1, h2⟩ | ⟨s1, s2, e, h1, h2⟩)
    · exact ⟨s1, s2, e, (accepts_alt a b s1).2 (Or.inl h1), h2⟩
    · exact ⟨s1, s2, e, (accepts_alt a b s1).2 (Or.inr h1), h2⟩

theorem accepts_eps_seq (r : Re) (s : List Nat) : accepts (seq eps r) s = accepts r s := by
  rw [Bool.eq_iff_iff, accepts_seq]
  constructor
  · rintro ⟨s1, s2, e, h1, h2⟩
    rw [accepts_eps, List.isEmpty_iff] at h1
    rw [e, h1]; exact h2
  · intro h; exact ⟨[], s, rfl, rfl, h⟩

theorem inRanges_one (c lo hi : Nat) : inRanges c [(lo, hi)] = (decide (lo ≤ c) && decide (c ≤ hi)) := by
  rw [Bool.eq_iff_iff]; simp [inRanges]

theorem inRanges_byte (c k : Nat) : inRanges c [(k, k)] = decide (c = k) := by
  rw [inRanges_one, Bool.eq_iff_iff, Bool.and_eq_true, decide_eq_true_eq, decide_eq_true_eq, decide_eq_true_eq]; omega

theorem accepts_seq_congr (a : Re) {b b' : Re} (h : ∀ s, accepts b s = accepts b' s) (s : List Nat) :
    accepts (seq a b) s = accepts (seq a b') s := by
  rw [Bool.eq_iff_iff, accepts_seq, accepts_seq]
  simp only [h]

theorem accepts_seq_assoc (a b c : Re) (s : List Nat) : accepts (seq (seq a b) c) s = accepts (seq a (seq b c)) s := by
  rw [Bool.eq_iff_iff, accepts_seq, accepts_seq]
  constructor
  · rintro ⟨s12, s3, rfl, h12, h3⟩
    obtain ⟨s1, s2, rfl, h1, h2⟩ := (accepts_seq a b s12).1 h12
    exact ⟨s1, s2 ++ s3, List.append_assoc .., h1, (accepts_seq b c _).2 ⟨s2, s3, rfl, h2, h3⟩⟩
  · rintro ⟨s1, s23, rfl, h1, h23⟩
    obtain ⟨s2, s3, rfl, h2, h3⟩ := (accepts_seq b c s23).1 h23
    exact ⟨s1 ++ s2, s3, (List.append_assoc ..).symm, (accepts_seq a b _).2 ⟨s1, s2, rfl, h1, h2⟩, h3⟩

theorem accepts_seqs_append : ∀ (l : List Re) (m : List Re), m ≠ [] → ∀ s,
    accepts (seqs (l ++ m)) s = accepts (seq (seqs l) (seqs m)) s
  | [], m, _, s => (accepts_eps_seq (seqs m) s).symm
  | [r], x :: m, _, s => rfl
  | r :: r' :: l, m, hm, s => by
    show accepts (seq r (seqs (r' :: l ++ m))) s = accepts (seq (seq r (seqs (r' :: l))) (seqs m)) s
    rw [accepts_seq_assoc]
    exact accepts_seq_congr r (accepts_seqs_append (r' :: l) m hm) s

/-- the translator writes a sequence flat: `z` appended to the sequence `r` -/
def appendSeq : Re → Re → Re
  | seq a b, z => seq a (appendSeq b z)
  | r, z => seq r z

theorem accepts_appendSeq : ∀ (r z : Re) (s : List Nat), accepts (appendSeq r z) s = accepts (seq r z) s
  | seq a b, z, s => by
    rw [appendSeq, accepts_seq_assoc]
    exact accepts_seq_congr a (accepts_appendSeq b z) s
  | cls _, _, _ => rfl
  | eps, _, _ => rfl
  | alt _ _, _, _ => rfl
  | star _, _, _ => rfl

theorem accepts_byte (k : Nat) (s : List Nat) : accepts (cls [(k, k)]) s = true ↔ s = [k] := by
  cases s with
  | nil => exact ⟨fun h => (nomatch h), fun h => (nomatch h)⟩
  | cons c s =>
    rw [accepts_cls, inRanges_byte, Bool.and_eq_true, decide_eq_true_eq, List.isEmpty_iff]
    exact ⟨fun ⟨hc, hs⟩ => by rw [hc, hs], fun h => by cases h; exact ⟨rfl, rfl⟩⟩

theorem accepts_byte_seq (k : Nat) (R : Re) (s : List Nat) :
    accepts (seq (cls [(k, k)]) R) s = true ↔ ∃ r, s = k :: r ∧ accepts R r = true := by
  cases s with
  | nil => exact ⟨fun h => (nomatch h), fun ⟨_, e, _⟩ => (nomatch e)⟩
  | cons c s =>
    rw [accepts_cls_seq, inRanges_byte, Bool.and_eq_true, decide_eq_true_eq]
    exact ⟨fun ⟨hc, h⟩ => ⟨s, by rw [hc], h⟩, fun ⟨r, e, h⟩ => by cases e; exact ⟨rfl, h⟩⟩

theorem accepts_seq_byte (A R : Re) (k : Nat) (s : List Nat) : accepts (seq A (seq (cls [(k, k)]) R)) s = true ↔
    ∃ a r, s = a ++ k :: r ∧ accepts A a = true ∧ accepts R r = true := by
  rw [accepts_seq]
  simp only [accepts_byte_seq]
  exact ⟨fun ⟨a, _, e, ha, r, e', hr⟩ => ⟨a, r, e' ▸ e, ha, hr⟩, fun ⟨a, r, e, ha, hr⟩ => ⟨a, _, e, ha, r, rfl, hr⟩⟩

/-- the common length of all words of a pattern without `star` whose alternatives have equal lengths -/
def fixedLen : Re → Option Nat
  | .cls _ => some 1
  | .eps => some 0
  | .seq a b => match fixedLen a, fixedLen b with
    | some m, some n => some (m + n)
    | _, _ => none
  | .alt a b => match fixedLen a, fixedLen b with
    | some m, some n => if m = n then some m else none
    | _, _ => none
  | .star _ => none

theorem length_of_fixedLen : ∀ (r : Re) (n : Nat) (s : List Nat), fixedLen r = some n → Lang r s → s.length = n
  | .cls _, n, s, h, ⟨c, hs, _⟩ => by cases h; rw [hs]; rfl
  | .eps, n, s, h, hs => by cases h; rw [show s = [] from hs]; rfl
  | .seq a b, n, s, h, ⟨s1, s2, hs, h1, h2⟩ => by
    simp only [fixedLen] at h
    split at h
    · next m k ha hb =>
      cases h
      rw [hs, List.length_append, length_of_fixedLen a m s1 ha h1, length_of_fixedLen b k s2 hb h2]
    · cases h
  | .alt a b, n, s, h, hl => by
    simp only [fixedLen] at h
    split at h
    · next m k ha hb =>
      split at h
      · next e =>
        cases h
        rcases hl with hl | hl
        · exact length_of_fixedLen a _ s ha hl
        · rw [e]; exact length_of_fixedLen b _ s hb hl
      · cases h
    · cases h
  | .star _, n, s, h, _ => by cases h

theorem accepts_seq_fixed (A : Re) (n : Nat) (h : fixedLen A = some n) (R : Re) (s : List Nat) :
    accepts (seq A R) s = (accepts A (s.take n) && accepts R (s.drop n)) := by
  rw [Bool.eq_iff_iff, Bool.and_eq_true, accepts_seq]
  constructor
  · rintro ⟨s1, s2, rfl, h1, h2⟩
    have hl := length_of_fixedLen A n s1 h ((accepts_iff_lang _ _).1 h1)
    rw [List.take_left' hl, List.drop_left' hl]; exact ⟨h1, h2⟩
  · exact fun ⟨h1, h2⟩ => ⟨_, _, (List.take_append_drop n s).symm, h1, h2⟩

end Gozod.Re
