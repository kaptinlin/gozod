/-
  C13 — gozodgen output compiles and validates exactly like the reflection-built schema.

  All parameter strings: the generator's literal formatting.  Every cell of the rule matrix, from its INPUT (field type ×
  rules): what the transcription of /repo HEAD's writer emits (`GenSem.emitCell`) is the text found in the generated file;
  the file type-checks (`go build` in the tie) and the model's typing judgement agrees; outside classes defined on the
  input the chain's meaning (`GenSem.denoteChain`, partial) is FromStruct's verdict (`Gen.tagTable`) on every probe — the
  chain means what the tag is documented to mean (`emitCell_accept`) and FromStruct's table is the documented meaning (C06).
-/
import Gozod.Model.GenSem
import Gozod.Model.TagsKnown
import Gozod.Gen.TagTable
import Gozod.Gen.GenTable
import Gozod.Proofs.C13Typed
import Gozod.Proofs.C13Sem
import Gozod.Proofs.C06T

namespace Gozod.C13
open Gozod.Tags Gozod.GenChain Gozod.Gen Gozod.GenSem Gozod.GenEmit

def Plain (p : Str) : Prop := ∀ c ∈ p, c ≠ cDQ ∧ c ≠ cBS ∧ c ≠ cNL

/-- `a` is the text of the rune `c` inside a Go interpreted string literal: the rune itself, or a one-character escape -/
def Reads (a : Str) (c : Nat) : Prop := (a = [c] ∧ c ≠ cDQ ∧ c ≠ cBS ∧ c ≠ cNL) ∨ ∃ d, a = [cBS, d] ∧ escapeValue d = some c

/-- `t`: what follows — at least the closing quote -/
theorem goStringTail_reads {a : Str} {c : Nat} (h : Reads a c) {t : Str} (ht : t ≠ []) :
    goStringTail (a ++ t) = (goStringTail t).map (c :: ·) := by
  obtain ⟨x, t, rfl⟩ := List.exists_cons_of_ne_nil ht
  rcases h with ⟨rfl, h1, h2, h3⟩ | ⟨d, rfl, hd⟩
  · simp [goStringTail, h1, h2, h3]
  · simp (config := {decide := true}) [goStringTail, hd]

theorem goStringTail_plain (p : Str) (h : Plain p) : goStringTail (p ++ [cDQ]) = some p := by
  induction p with
  | nil => rfl
  | cons c p ih =>
    have := goStringTail_reads (.inl ⟨rfl, h c List.mem_cons_self⟩) (t := p ++ [cDQ]) (by simp)
    simpa [ih fun d hd => h d (List.mem_cons_of_mem _ hd)] using this

/-! The formatting before 8c56087 (`emitDefault`, `"%s"`). Nothing executes `emitDefault`; the three statements record what
    was wrong with that code. -/

def legacy_quote_full : Prop := ∀ p : Str, goStringLit (emitDefault p) = some p

theorem legacy_quote_partial (p : Str) (h : Plain p) : goStringLit (emitDefault p) = some p := by
  simp [emitDefault, goStringLit, goStringTail_plain p h]

/-- `default=he"llo` was emitted as `.Default("he"llo")` -/
theorem legacy_quote_full_false : ¬ legacy_quote_full := by
  intro h
  have := h [0x68, 0x65, cDQ, 0x6C, 0x6C, 0x6F]
  revert this; decide

theorem legacy_quote_backslash_witness : goStringLit (emitDefault [0x61, cBS, 0x62]) = some [0x61, 0x08] := by decide

example : Plain [0x68, 0x65, 0x6C, 0x6C, 0x6F] := by
  intro c hc
  simp at hc
  rcases hc with rfl | rfl | rfl | rfl | rfl <;> decide

theorem quoteRune_reads (c : Nat) (a : Str) (h : quoteRune c = some a) : Reads a c := by
  by_cases hp : c = cDQ ∨ c = cBS ∨ c = 0x07 ∨ c = 0x08 ∨ c = 0x0C ∨ c = 0x0A ∨ c = 0x0D ∨ c = 0x09 ∨ c = 0x0B
  · rcases hp with rfl | rfl | rfl | rfl | rfl | rfl | rfl | rfl | rfl <;>
      (obtain rfl := Option.some.inj h; exact .inr ⟨_, rfl, by decide⟩)
  · simp only [not_or] at hp
    obtain ⟨h1, h2, h3, h4, h5, h6, h7, h8, h9⟩ := hp
    simp only [quoteRune, h1, h2, h3, h4, h5, h6, h7, h8, h9, if_false] at h
    split at h
    · cases h; exact .inl ⟨rfl, h1, h2, h6⟩
    · cases h

theorem quoteBody_spec (p b : Str) (h : quoteBody p = some b) : goStringTail (b ++ [cDQ]) = some p := by
  induction p generalizing b with
  | nil => cases h; rfl
  | cons c p ih =>
    simp only [quoteBody] at h
    split at h
    · next a b' ha hb =>
      cases h
      rw [List.append_assoc, goStringTail_reads (quoteRune_reads c a ha) (by simp), ih b' hb]; rfl
    · cases h

/-- With `strconv.Quote` (8c56087) every modelled parameter is emitted as a Go string literal denoting it. -/
theorem c13_quote_fixed (p e : Str) (h : emitDefaultFixed p = some e) : goStringLit e = some p := by
  obtain ⟨b, hb, rfl⟩ := Option.map_eq_some_iff.mp h
  simp [goStringLit, quoteBody_spec p b hb]

example : emitDefaultFixed [0x68, 0x65, cDQ, 0x6C, cBS, 0x0A] = some [cDQ, 0x68, 0x65, cBS, cDQ, 0x6C, cBS, cBS, cBS, 0x6E, cDQ] := by decide

/-- the two `ReplaceAll` passes of the regex path amount to escaping `\` and `"` rune by rune -/
def escChar (c : Nat) : Str := if c = cBS then [cBS, cBS] else if c = cDQ then [cBS, cDQ] else [c]

theorem repl_eq (p : Str) : replQuote (replBackslash p) = p.flatMap escChar := by
  induction p with
  | nil => rfl
  | cons c p ih =>
    by_cases h1 : c = cBS
    · subst h1; simp (config := {decide := true}) [replBackslash, replQuote, escChar, ih]
    · by_cases h2 : c = cDQ
      · subst h2; simp (config := {decide := true}) [replBackslash, replQuote, escChar, ih]
      · simp [replBackslash, replQuote, escChar, h1, h2, ih]

theorem escChar_reads (c : Nat) (h : c ≠ cNL) : Reads (escChar c) c := by
  unfold escChar
  split
  · next h1 => subst h1; exact .inr ⟨cBS, rfl, by decide⟩
  · split
    · next h2 => subst h2; exact .inr ⟨cDQ, rfl, by decide⟩
    · next h1 h2 => exact .inl ⟨rfl, h2, h1, h⟩

theorem goStringTail_esc (p : Str) (h : cNL ∉ p) : goStringTail (p.flatMap escChar ++ [cDQ]) = some p := by
  induction p with
  | nil => rfl
  | cons c p ih =>
    rw [List.flatMap_cons, List.append_assoc, goStringTail_reads (escChar_reads c fun e => h (e ▸ List.mem_cons_self)) (by simp),
      ih fun hm => h (List.mem_cons_of_mem _ hm)]
    rfl

/-- The regex escaping is right: for every pattern without a newline the emitted text is a Go string literal whose
    value is the pattern. -/
theorem c13_regex_quote (p : Str) (h : cNL ∉ p) : goStringLit (emitRegex p) = some p := by
  simp [emitRegex, goStringLit, repl_eq, goStringTail_esc p h]

/-- FromStruct's verdict rows of a block in matrix order (singles, then each pair in both orders) -/
def refRows (b : Block) : List (List TRule × List Bool) :=
  b.singles.map (fun s => ([s.1], s.2)) ++
  b.pairs.flatMap (fun p => [([p.1, p.2.1], p.2.2.1), ([p.2.1, p.1], p.2.2.2)])

def zipTables : List (Block × GenBlock) := tagTable.zip genTable

def rowsOf (x : Block × GenBlock) : List ((List TRule × List Bool) × GenCell) := (refRows x.1).zip x.2.cells

def alignedBlock (x : Block × GenBlock) : Bool :=
  decide (x.1.fty = x.2.fty) && decide ((refRows x.1).map (·.1) = x.2.cells.map (·.rules))

/-! The excluded classes are defined on the INPUT of a cell (field type × rules), never on what was emitted. -/

/-- the cell is a C06 finding: FromStruct itself departs from the documented rule (tracked there) -/
def refKnown (t : FTy) (rules : List TRule) : Bool :=
  rules.any (fun r => knownSingle r t) ||
  (match rules with | [r₁, r₂] => knownPair r₁ r₂ t || knownPair r₂ r₁ t | _ => false)

/-- `uuid` AND `url` on a string field: the first picks the constructor, the other format is left out (b4218fe);
    FromStruct enforces both (df49b33) — open: gen-drops:second-format -/
def secondFormat (t : FTy) (rules : List TRule) : Bool :=
  decide (t.base = .string) && rules.contains .url && rules.contains .uuid

/-- `min=` beyond int64 on uint / uint64: no call is written (cf94592: the bound methods take an int64); FromStruct applies
    the bound as a uint64 (9a4a316) — open: gen-drops:bound-beyond-int64 -/
def boundBeyondInt64 (t : FTy) (rules : List TRule) : Bool :=
  (decide (t.base = .uint) || decide (t.base = .uint64)) &&
  rules.any fun r => match r with | .min n => decide (2 ^ 63 - 1 < n) | _ => false

def equivExcluded (t : FTy) (rules : List TRule) : Bool := refKnown t rules || secondFormat t rules || boundBeyondInt64 t rules

def stripPrefix : Str → Str → Option Str
  | [], s => some s
  | _ :: _, [] => none
  | a :: as, b :: bs => if Nat.beq a b then stripPrefix as bs else none

/-- `s` is the concatenation of the pieces. The pieces are matched off the front of `s`, so that no concatenation is built (comparing with the
    flattened text is the slow way to check a cell). -/
def eats : List Str → Str → Bool
  | [], s => s.isEmpty
  | p :: ps, s => match stripPrefix p s with | some rest => eats ps rest | none => false

theorem stripPrefix_eq_some : ∀ {p s r : Str}, stripPrefix p s = some r → s = p ++ r
  | [], _, _, h => by cases h; rfl
  | _ :: _, [], _, h => by cases h
  | a :: as, b :: bs, r, h => by
    simp only [stripPrefix] at h
    split at h
    · next hab => rw [Nat.eq_of_beq_eq_true hab, stripPrefix_eq_some h]; rfl
    · cases h

theorem eats_sound : ∀ {ps : List Str} {s : Str}, eats ps s = true → ps.flatten = s
  | [], s, h => by cases s <;> simp_all [eats]
  | p :: ps, s, h => by
    simp only [eats] at h
    split at h
    · next rest hr => rw [List.flatten_cons, eats_sound h, ← stripPrefix_eq_some hr]
    · cases h

/-- the verdicts are evaluated only where `emitCell_accept` does not speak (`covered`) -/
def cellFacts (t : FTy) (probes : List Probe) (rc : (List TRule × List Bool) × GenCell) : Bool :=
  rc.2.status == .ok &&
  match emitCell t rc.2.rules with
  | none => false
  | some ch =>
    eats (ch.ctor.render :: ch.calls.map Call.render) rc.2.expr && GenTyped.whyChain T WF (rc.2.rules.map ruleOf) ch == .ok &&
    (equivExcluded t rc.2.rules || covered t rc.2.rules || probes.map (denoteChain ch) == rc.1.2.map some)

def blockFacts (x : Block × GenBlock) : Bool :=
  alignedBlock x && x.1.probes.all (fits x.2.fty) && (rowsOf x).all (cellFacts x.2.fty x.1.probes)

theorem zipTables_facts : tagTable.length = genTable.length ∧ zipTables.all blockFacts = true := by decide +kernel

theorem whyChainOf_eq (t : FTy) (rules : List TRule) :
    whyChainOf t rules = match emitCell t rules with | none => .unjudged | some ch => GenTyped.whyChain T WF (rules.map ruleOf) ch := rfl

/-- FromStruct's side, from C06: every row of a block holds the documented verdicts -/
theorem refRows_expected {b : Block} (hb : b ∈ tagTable) {row : List TRule × List Bool} (hr : row ∈ refRows b)
    (hd : ∀ r ∈ row.1, documented r b.fty.base.cls = true) : row.2 = expected row.1 b.probes := by
  simp only [refRows, List.mem_append, List.mem_map, List.mem_flatMap, List.mem_cons, List.not_mem_nil, or_false] at hr
  rcases hr with ⟨s, hs, rfl⟩ | ⟨p, hp, rfl | rfl⟩
  · exact C06.c06_no_silent_noop b hb s hs (hd s.1 (by simp))
  · exact (C06.c06_pairs b hb p hp).1
  · exact (C06.c06_pairs b hb p hp).2

theorem of_mem_zip_map {α β γ} {f : α → γ} {g : β → γ} : ∀ {l₁ : List α} {l₂ : List β}, l₁.map f = l₂.map g →
    ∀ p ∈ l₁.zip l₂, f p.1 = g p.2
  | [], _, _, _, h => by simp at h
  | _ :: _, [], _, _, h => by simp at h
  | a :: l₁, b :: l₂, he, p, h => by
    simp only [List.map_cons, List.cons.injEq] at he
    rcases List.mem_cons.mp h with rfl | h
    · exact he.1
    · exact of_mem_zip_map he.2 p h

theorem cell_facts {x : Block × GenBlock} (hx : x ∈ zipTables) {rc : (List TRule × List Bool) × GenCell} (hrc : rc ∈ rowsOf x) :
    x.1.fty = x.2.fty ∧ rc.2.status = .ok ∧ ∃ ch, emitCell x.2.fty rc.2.rules = some ch ∧ ch.render = rc.2.expr ∧
      whyChainOf x.2.fty rc.2.rules = .ok ∧
      (equivExcluded x.2.fty rc.2.rules = false → x.1.probes.map (denoteChain ch) = rc.1.2.map some) := by
  have hb := List.all_eq_true.mp zipTables_facts.2 x hx
  simp only [blockFacts, alignedBlock, Bool.and_eq_true, decide_eq_true_eq, List.all_eq_true] at hb
  obtain ⟨⟨⟨ht, hal⟩, hfit⟩, hcells⟩ := hb
  have hc := hcells rc hrc
  simp only [cellFacts, Bool.and_eq_true, beq_iff_eq] at hc
  refine ⟨ht, hc.1, ?_⟩
  rw [whyChainOf_eq]
  cases he : emitCell x.2.fty rc.2.rules with
  | none => simp [he] at hc
  | some ch =>
    simp only [he, Bool.and_eq_true, beq_iff_eq, Bool.or_eq_true] at hc
    refine ⟨ch, rfl, (eats_sound hc.2.1.1 :), hc.2.1.2, fun hk => ?_⟩
    rcases hc.2.2 with (hk' | hcov) | hev
    · rw [hk] at hk'; cases hk'
    · -- the chain means the documented verdict (`emitCell_accept`), and so does FromStruct's row (C06)
      have hrules : rc.1.1 = rc.2.rules := of_mem_zip_map hal rc hrc
      have hdoc : ∀ r ∈ rc.1.1, documented r x.1.fty.base.cls = true := fun r hr => by
        simp only [covered, Bool.and_eq_true, List.all_eq_true] at hcov
        rw [ht, hrules] at *; exact (hcov.2 r hr).1
      rw [refRows_expected (List.of_mem_zip hx).1 (List.of_mem_zip hrc).1 hdoc, hrules, expected, List.map_map]
      refine List.map_congr_left fun p hp => ?_
      obtain ⟨ch', he', hd'⟩ := emitCell_accept x.2.fty rc.2.rules p hcov (hfit p hp)
      obtain rfl : ch' = ch := Option.some.inj (he'.symm.trans he)
      exact hd'
    · exact hev

theorem exists_zip_of_mem_right {α β} {b : β} : ∀ {l₁ : List α} {l₂ : List β}, l₁.length = l₂.length → b ∈ l₂ → ∃ a, (a, b) ∈ l₁.zip l₂
  | _, [], _, h => nomatch h
  | [], _ :: _, hl, _ => nomatch hl
  | a :: l₁, b' :: l₂, hl, h => by
    rcases List.mem_cons.mp h with rfl | h
    · exact ⟨a, List.mem_cons_self⟩
    · obtain ⟨a', ha'⟩ := exists_zip_of_mem_right (Nat.succ.inj hl) h
      exact ⟨a', List.mem_cons_of_mem _ ha'⟩

theorem gen_cell {b : GenBlock} (hb : b ∈ genTable) {c : GenCell} (hc : c ∈ b.cells) :
    ∃ x ∈ zipTables, ∃ rc ∈ rowsOf x, x.2 = b ∧ rc.2 = c := by
  obtain ⟨a, ha⟩ := exists_zip_of_mem_right zipTables_facts.1 hb
  have hal := List.all_eq_true.mp zipTables_facts.2 (a, b) ha
  simp only [blockFacts, alignedBlock, Bool.and_eq_true, decide_eq_true_eq] at hal
  have hlen : (refRows a).length = b.cells.length := by simpa using congrArg List.length hal.1.1.2
  obtain ⟨r, hr⟩ := exists_zip_of_mem_right hlen hc
  exact ⟨(a, b), ha, (r, c), hr, rfl, rfl⟩

/-- both regenerated tables list the same cells in the same order -/
theorem c13_tables_aligned : tagTable.length = genTable.length ∧ zipTables.all alignedBlock = true :=
  ⟨zipTables_facts.1, List.all_eq_true.mpr fun x hx =>
    (Bool.and_eq_true _ _ ▸ (Bool.and_eq_true _ _ ▸ List.all_eq_true.mp zipTables_facts.2 x hx : _ ∧ _).1 :
      alignedBlock x = true ∧ _).1⟩

/-- The text in every generated file of the matrix is what the transcription of the writer emits for the cell's field
    type and rules (on every other generated program of the run the `texpr` / `wexpr` ops compare the two). -/
theorem c13_gen_is_emit :
    ∀ b ∈ genTable, ∀ c ∈ b.cells, c.expr ≠ [] → (emitCell b.fty c.rules).map Chain.render = some c.expr := by
  intro b hb c hc _
  obtain ⟨x, hx, rc, hrc, rfl, rfl⟩ := gen_cell hb hc
  obtain ⟨_, _, ch, he, hr, _⟩ := cell_facts hx hrc
  rw [he, ← hr]; rfl

/-- Every generated file of the matrix parses and type-checks (the full statement; status decided by go/parser and
    `go build` in the tie). -/
theorem c13_typechecks : ∀ b ∈ genTable, ∀ c ∈ b.cells, c.status = .ok := by
  intro b hb c hc
  obtain ⟨x, hx, rc, hrc, rfl, rfl⟩ := gen_cell hb hc
  exact (cell_facts hx hrc).2.1

/-- The model's typing judgement says `ok` for every cell of the rule matrix (from the INPUT, against the whole
    regenerated method table, imports included); `go build` says the same (`c13_typechecks`). -/
theorem c13_matrix_welltyped :
    ∀ b ∈ Gozod.Gen.genTable, ∀ c ∈ b.cells, whyChainOf b.fty c.rules = .ok := by
  intro b hb c hc
  obtain ⟨x, hx, rc, hrc, rfl, rfl⟩ := gen_cell hb hc
  obtain ⟨_, _, _, _, _, hw, _⟩ := cell_facts hx hrc
  exact hw

/-- Every generated schema that compiles gives FromStruct's verdict on every probe: false (`C13W.c13_equiv_full_false`). -/
def c13_equiv_full : Prop :=
  ∀ x ∈ zipTables, ∀ rc ∈ rowsOf x, rc.2.status = .ok →
    ∃ ch, emitCell x.1.fty rc.2.rules = some ch ∧ x.1.probes.map (denoteChain ch) = rc.1.2.map some

/-- for every cell whose file type-checks and whose INPUT is outside the three listed classes, the writer emits a chain,
    that chain is judged by `denoteChain` on every probe (no unknown call, constructor or argument), and the verdicts
    are FromStruct's. A rule the writer newly drops, or a call the semantics does not know, makes this FAIL — the cell
    cannot leave the theorem's scope by what was emitted for it. -/
theorem c13_equiv_partial :
    ∀ x ∈ zipTables, ∀ rc ∈ rowsOf x, rc.2.status = .ok → equivExcluded x.1.fty rc.2.rules = false →
      ∃ ch, emitCell x.1.fty rc.2.rules = some ch ∧ x.1.probes.map (denoteChain ch) = rc.1.2.map some := by
  intro x hx rc hrc _ hk
  obtain ⟨ht, _, ch, he, _, _, hv⟩ := cell_facts hx hrc
  rw [ht] at hk ⊢
  exact ⟨ch, he, hv hk⟩

example : ∃ x ∈ zipTables, ∃ rc ∈ rowsOf x, rc.2.status = .ok ∧ equivExcluded x.1.fty rc.2.rules = false ∧ rc.2.rules = [.min 3] := by
  decide +kernel
example : (zipTables.map fun x => ((rowsOf x).filter fun rc => rc.2.status == .ok && !equivExcluded x.1.fty rc.2.rules).length).sum ≥ 2000 := by
  decide +kernel

end Gozod.C13
