/-
  C17, float targets: what a successful conversion to float32 / float64 returns, as a statement about
  values (`C17.float64Post` and `C17T.float32Post` say which model function produced the result).

  `NearestMag p emin n k m k'` is the independent specification "`m / 2^k'` is `n / 2^k` correctly rounded to the
  binary format with `p` significant bits and smallest subnormal `2^-emin`": unchanged if already a multiple of
  the unit in the last place `2^u`, otherwise a multiple `q · 2^u` within half an ulp, `q` even when half way.
  It speaks about values only — no `rneDiv`, no `roundMag` (the legend of the three such specifications is at
  the head of Proofs/C17Round.lean).

  The value theorems exclude a zero source (`a ≠ 0`, `v ≠ 0`): the ulp is taken from `n.log2`, which says nothing
  at `n = 0`; `roundMag` answers `(0, 0)` there, so a zero source comes back as `.fin 0 0`.

  `toFloatF64_eq`: `ToFloat[float64]` (`Coerce.toFloatF64`) and `ToFloat64` (what `To[float64]` routes to) are one
  function.
-/
import Gozod.Proofs.C17

namespace Gozod.C17F
open Gozod Gozod.Coerce

theorem toFloatF64_eq (s : Src) : toFloatF64 s = toFloat64 s := by
  cases s <;> rfl

def NearestMag (p emin n k m k' : Nat) : Prop :=
  ∀ u : Int, u = max (((n.log2 : Int)) - (k : Int) - ((p : Int) - 1)) (-(emin : Int)) →
    ((k : Int) + u ≤ 0 → (m, k') = (n, k)) ∧
    (0 < (k : Int) + u → ∃ q : Nat,
      m * 2 ^ k = q * 2 ^ ((k : Int) + u).toNat * 2 ^ k' ∧                        -- m/2^k' = q·2^u
      2 * (q * 2 ^ ((k : Int) + u).toNat) ≤ 2 * n + 2 ^ ((k : Int) + u).toNat ∧     -- within half an ulp, above
      2 * n ≤ 2 * (q * 2 ^ ((k : Int) + u).toNat) + 2 ^ ((k : Int) + u).toNat ∧     -- … and below
      ((2 * (q * 2 ^ ((k : Int) + u).toNat) = 2 * n + 2 ^ ((k : Int) + u).toNat ∨
        2 * n = 2 * (q * 2 ^ ((k : Int) + u).toNat) + 2 ^ ((k : Int) + u).toNat) → q % 2 = 0))   -- ties to even

theorem roundMag_nearest (p emin n k : Nat) (hn : n ≠ 0) :
    NearestMag p emin n k (roundMag p emin n k).1 (roundMag p emin n k).2 := by
  intro u hu
  have hu' : u = max (((n.log2 : Int) + 1) - 1 - (k : Int) - ((p : Int) - 1)) (-(emin : Int)) := by
    rw [hu]; congr 1; omega
  have h := (C17.roundMag_correct p emin n k hn).2 u hu'
  refine ⟨fun hs => h.1 hs, fun hs => ?_⟩
  have hpos : 0 < ((k : Int) + u).toNat := by omega
  have hr := C17.rneDiv_nearest n ((k : Int) + u).toNat hpos
  exact ⟨rneDiv n ((k : Int) + u).toNat, h.2 hs, hr.1, hr.2.1, hr.2.2⟩

theorem roundFin_fin (p emin emax : Nat) (a : Int) (k : Nat) (b : Int) (l : Nat)
    (h : roundFin p emin emax a k = .fin b l) :
    b = (if a < 0 then -((roundMag p emin a.natAbs k).1 : Int) else ((roundMag p emin a.natAbs k).1 : Int)) ∧
    l = (roundMag p emin a.natAbs k).2 := by
  obtain ⟨m, k', hrm, e | ⟨_, e⟩⟩ := C17.roundFin_cases p emin emax a k <;> rw [e] at h
  · injection h with h1 h2
    rw [hrm]; exact ⟨h1.symm, h2.symm⟩
  · split at h <;> cases h

/-- The value a float conversion must return for the finite source `a / 2^k`: same sign, magnitude correctly
    rounded to (`p`, `emin`). -/
def RoundedTo (p emin : Nat) (a : Int) (k : Nat) (r : F) : Prop :=
  ∃ (m k' : Nat), r = .fin (if a < 0 then -(m : Int) else (m : Int)) k' ∧ NearestMag p emin a.natAbs k m k'

theorem roundFin_value (p emin emax : Nat) (a : Int) (k : Nat) (ha : a ≠ 0) (b : Int) (l : Nat)
    (h : roundFin p emin emax a k = .fin b l) : RoundedTo p emin a k (.fin b l) := by
  have ⟨h1, h2⟩ := roundFin_fin p emin emax a k b l h
  refine ⟨(roundMag p emin a.natAbs k).1, (roundMag p emin a.natAbs k).2, ?_, roundMag_nearest p emin a.natAbs k (by omega)⟩
  rw [h1, h2]

/-- `ToFloat[float32]` of a float64 (`toFloat32`'s tail: MaxFloat32 guard, then `float32(f)`): a success returns
    the source correctly rounded to float32 (subnormals included), never ±Inf. -/
theorem toFloat32_f64_value (a : Int) (k : Nat) (ha : a ≠ 0) (r : F) (h : toFloat32 (.f64 (.fin a k)) = .ok r) :
    RoundedTo 24 149 a k r := by
  obtain ⟨f, h64, hg, rfl⟩ := C17.toFloat32_of64 rfl h
  cases h64
  have hfin := C17.roundFin_f32_finite a k hg
  show RoundedTo 24 149 a k (roundFin 24 149 128 a k)
  cases hr : roundFin 24 149 128 a k with
  | fin b l => exact roundFin_value 24 149 128 a k ha b l hr
  | _ => rw [hr] at hfin; exact hfin.elim

/-- `ToFloat64` of a big integer (`bigIntToFloat64`): a success is the integer correctly rounded to float64 in one
    rounding (exact below 2^53: `C17S.bigToF64_exact`), finite — 2^1024 and beyond is an error, not +Inf. -/
theorem toFloat64_big_value (v : Int) (hv : v ≠ 0) (r : F) (h : toFloat64 (.big v) = .ok r) :
    RoundedTo 53 1074 v 0 r := by
  rw [C17.toFloat64_big] at h
  obtain ⟨hr, b, l, hbl⟩ := C17.finOrOverflow_ok _ _ h
  rw [hbl] at hr ⊢
  exact roundFin_value 53 1074 1024 v 0 hv b l hr.symm

/-- `ToFloat[float32]` of a big integer (`new(big.Float).SetInt(x).Float32()`): one rounding, straight to float32. -/
theorem toFloat32_big_value (v : Int) (hv : v ≠ 0) (r : F) (h : toFloat32 (.big v) = .ok r) :
    RoundedTo 24 149 v 0 r := by
  rw [C17.toFloat32_big] at h
  obtain ⟨hr, b, l, hbl⟩ := C17.finOrOverflow_ok _ _ h
  rw [hbl] at hr ⊢
  exact roundFin_value 24 149 128 v 0 hv b l hr.symm

theorem toFloat64_float_value (x r : F) :
    (toFloat64 (.f64 x) = .ok r → r = x ∧ x ≠ .nan) ∧ (toFloat64 (.f32 x) = .ok r → r = x ∧ x ≠ .nan) ∧
    (toFloatF64 (.f64 x) = .ok r → r = x ∧ x ≠ .nan) :=
  ⟨C17.notNaN_eq_ok.mp, C17.notNaN_eq_ok.mp, C17.notNaN_eq_ok.mp⟩

/-- The hypotheses are met by realistic values: 1 + 2^-24 (a float32 tie) rounds to even (1), the float32
    double-rounding integer 2^60+2^36+1 goes to 2^60+2^37 in one step, 2^1024 is refused. -/
example : toFloat32 (.f64 (.fin (2 ^ 24 + 1) 24)) = .ok (.fin (2 ^ 23) 23) ∧
    toFloat32 (.big (2 ^ 60 + 2 ^ 36 + 1)) = .ok (.fin (2 ^ 60 + 2 ^ 37) 0) ∧
    toFloat64 (.big (2 ^ 53 + 1)) = .ok (.fin (2 ^ 53) 0) ∧
    toFloat64 (.big (2 ^ 1024)) = .error .overflow := by
  decide +kernel

end Gozod.C17F
