/-
  C10 — the classification of checks on a raw pointer payload is READ from the current tree (Gen/RawClass.lean,
  behavioural translator): these theorems are stated over the WHOLE regenerated table, so an edit of a wrapper that
  changes what a check does with a pointer changes a proof obligation.
-/
import Gozod.Model.RawClassSpec
import Gozod.Proofs.C10G
namespace Gozod.C10
open Gozod.RawClassSpec

/-- The regenerated tables are exactly what the transcription of the wrappers expects. -/
theorem c10_rawclass_expected : Gozod.Gen.rawClass = expectedRaw ∧ Gozod.Gen.owClass = expectedOw := by decide +kernel

/-- Every cell is readable, and every cell the driver asks for exists — except `builtin` of an object, which has no
    built-in check (the driver generates none). -/
theorem c10_rawclass_total :
    (Gozod.Gen.rawClass.all fun e => (parseRaw e.2.2).isSome) = true ∧
    (Gozod.Gen.owClass.all fun e => (parseOw e.2).isSome) = true ∧
    (driverCells.all fun c => c == ("o", "builtin") || (lookupRaw Gozod.Gen.rawClass c.1 c.2).isSome) = true ∧
    (["s", "sp", "i", "ip", "l", "o"].all fun k => (lookupOw Gozod.Gen.owClass k).isSome) = true := by decide +kernel

/-- `Refine` and `RefineAny` of the integer types fall in the same class (the op line does not tell them apart). -/
theorem c10_rawclass_refany : rawOf "i" "refany" = rawOf "i" "ref" ∧ rawOf "ip" "refany" = rawOf "ip" "ref" := by decide +kernel

/-- Container rows: no check reports an issue on the raw payload and overwrites cook it, so the container pass is
    the instance `runChecksG_container` with `vacB` read off the table: size checks and `Check(fn)` are vacuous,
    `Refine` runs. -/
theorem c10_rawclass_containers :
    (["l", "o"].all fun k => owOf k == .cook && (["builtin", "ref", "chk"].all fun c => rawOf k c != .issue)) = true ∧
    rawOf "l" "builtin" = .vac ∧ rawOf "l" "chk" = .vac ∧ rawOf "o" "chk" = .vac ∧
    rawOf "l" "ref" = .run ∧ rawOf "o" "ref" = .run := by decide +kernel

/-- String rows: the instance `runChecksG_string`, built-ins and refinements. -/
theorem c10_rawclass_strings :
    owOf "s" = .skip ∧ owOf "sp" = .stay ∧
    rawOf "s" "builtin" = .issue ∧ rawOf "s" "ref" = .issue ∧ rawOf "sp" "builtin" = .issue ∧ rawOf "sp" "ref" = .issue := by decide +kernel

/-- Whatever the table says, issues and value are those of the regular loop (`c10_generic_all` at the
    classification read from the tree). -/
theorem c10_rawclass_irrelevant {P O T V : Type} (env : Env P O T V) (kindOf : P → String) (key : String) (viaPtr : Bool)
    (cs : List (Check P O)) (v : V) :
    (runChecksG env (fun p => rawOf key (kindOf p)) (owOf key) viaPtr cs v).issues = (runChecks env cs v).issues ∧
    (runChecksG env (fun p => rawOf key (kindOf p)) (owOf key) viaPtr cs v).val = (runChecks env cs v).val :=
  c10_generic_all env _ (owOf key) viaPtr cs v

example : rawOf "i" "builtin" = .issue ∧ rawOf "i" "chk" = .vac ∧ rawOf "ip" "chk" = .run ∧ owOf "sp" = .stay ∧ owOf "s" = .skip := by decide +kernel
-- `c10_rawclass_irrelevant`: a built-in (issue class) before an overwrite, pointer input of an Int schema
example : (runChecksG (⟨fun p v => v ≥ p, fun o v => v + o, fun t v => v * t⟩ : Env Nat Nat Nat Nat)
    (fun _ => rawOf "i" "builtin") (owOf "i") true [.pred 5 false none, .overwrite 1] 5).val = 6 := by decide +kernel

end Gozod.C10
