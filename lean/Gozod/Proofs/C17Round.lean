/-
  The model's roundings, for C17 (coercions) and for C16 (whose float `MultipleOf` rounds by `roundFin`):
  `roundTo` (an integer to `p` significant bits, Go's `float64(int64)` / `float32(int64)`) and `roundMag` /
  `roundFin` (a magnitude / a signed value to a binary format with subnormals, Go's `float32(float64)`,
  `big.Int.Float64`, `big.Float.Float32`, float64 `*` and `-`), each as `rneDiv n s * 2^s` over Proofs/Rne.lean.
  The namespace is `Gozod.C17`: the checks audit `C17.rneDiv_nearest`, `C17.roundMag_correct`, `C17.roundTo_correct`.

  "Correctly rounded" is specified three times, each for one shape of argument, in terms of values only:
  `CorrectlyRounded p n r` (here) for an integer to `p` bits, met by `roundTo` (`roundTo_correct`);
  `C17F.NearestMag p emin n k m k'` (Proofs/C17Float.lean) for a magnitude `n/2^k` to a format with subnormals,
  met by `roundMag` (`C17F.roundMag_nearest`, which is `roundMag_correct` + `rneDiv_nearest`);
  `C17F.RoundedTo p emin a k r`: `NearestMag` of `|a|` with the sign of `a`, met by `roundFin` when it is finite
  (`C17F.roundFin_value`).  No lemma relates the first to the other two (at `k = 0`, `n < 2^(p+64)` they agree).
-/
import Gozod.Proofs.Rne

namespace Gozod.C17
open Gozod Gozod.Coerce Gozod.Rne

theorem excessBits_spec (p : Nat) : ∀ (fuel n : Nat), n < 2 ^ (p + fuel) →
    n < 2 ^ (p + excessBits p fuel n) ∧
    (0 < excessBits p fuel n → 2 ^ (p + excessBits p fuel n - 1) ≤ n) := by
  intro fuel
  induction fuel with
  | zero => intro n hn; simp [excessBits]; simpa using hn
  | succ fuel ih =>
    intro n hn
    unfold excessBits
    by_cases hlt : n < 2 ^ p
    · rw [if_pos hlt]; simpa using hlt
    · rw [if_neg hlt]
      have hpow : 2 ^ (p + (fuel + 1)) = 2 * 2 ^ (p + fuel) := by
        rw [← Nat.add_assoc, Nat.pow_succ, Nat.mul_comm]
      have hn2 : n / 2 < 2 ^ (p + fuel) := by omega
      have ⟨h1, h2⟩ := ih (n / 2) hn2
      generalize excessBits p fuel (n / 2) = sh at *
      have e1 : p + (1 + sh) = (p + sh) + 1 := by omega
      constructor
      · rw [e1, Nat.pow_succ]; omega
      · intro _
        have e2 : p + (1 + sh) - 1 = p + sh := by omega
        rw [e2]
        by_cases hs : sh = 0
        · subst hs; simpa using Nat.le_of_not_lt hlt
        · have h3 := h2 (by omega)
          have e3 : p + sh = (p + sh - 1) + 1 := by omega
          rw [e3, Nat.pow_succ]; omega

/-- `Rne.rneDiv_nearest` under the name the C17 check audits. -/
theorem rneDiv_nearest (n s : Nat) (hs : 0 < s) :
    2 * (rneDiv n s * 2 ^ s) ≤ 2 * n + 2 ^ s ∧ 2 * n ≤ 2 * (rneDiv n s * 2 ^ s) + 2 ^ s ∧
    ((2 * (rneDiv n s * 2 ^ s) = 2 * n + 2 ^ s ∨ 2 * n = 2 * (rneDiv n s * 2 ^ s) + 2 ^ s) →
      rneDiv n s % 2 = 0) :=
  Rne.rneDiv_nearest n s hs

/-- `r` is `n` rounded to `p` significant bits, nearest-even; `2^sh` is the unit in the last place
    of `n`'s binade `[2^(p+sh-1), 2^(p+sh))`. -/
def CorrectlyRounded (p n r : Nat) : Prop :=
  ∃ sh, n < 2 ^ (p + sh) ∧ (0 < sh → 2 ^ (p + sh - 1) ≤ n) ∧ (sh = 0 → r = n) ∧
    2 ^ sh ∣ r ∧ 2 * r ≤ 2 * n + 2 ^ sh ∧ 2 * n ≤ 2 * r + 2 ^ sh ∧
    ((2 * r = 2 * n + 2 ^ sh ∨ 2 * n = 2 * r + 2 ^ sh) → r / 2 ^ sh % 2 = 0)

theorem roundTo_correct (p n : Nat) (hn : n < 2 ^ (p + 64)) : CorrectlyRounded p n (roundTo p n) := by
  have ⟨h1, h2⟩ := excessBits_spec p 64 n hn
  refine ⟨excessBits p 64 n, h1, h2, ?_⟩
  rw [roundTo_eq]
  generalize excessBits p 64 n = sh
  by_cases hs : sh = 0
  · subst hs; simp [rneDiv_zero]
  · have ⟨c1, c2, c3⟩ := rneDiv_nearest n sh (by omega)
    refine ⟨fun h => absurd h hs, Nat.dvd_mul_left _ _, c1, c2, fun h => ?_⟩
    rw [Nat.mul_div_cancel _ (Nat.pow_pos (by decide))]
    exact c3 h

theorem roundTo_exact (p n : Nat) (h : n < 2 ^ p) : roundTo p n = n := by
  have : excessBits p 64 n = 0 := by
    show excessBits p (63 + 1) n = 0
    unfold excessBits; rw [if_pos h]
  rw [roundTo_eq, this, rneDiv_zero, Nat.pow_zero, Nat.mul_one]

/-- What `roundMag` computes, case split and exponent arithmetic carried out (its correctness is
    `C17F.roundMag_nearest`, which reads this with `rneDiv_nearest`): with `2^u` the format's unit in the last place
    at `n / 2^k` (`p` significant bits, never finer than `2^-emin`), the result denotes `rneDiv n (k+u) · 2^u`, and
    `n / 2^k` itself when that is a multiple of `2^u` already (`k + u ≤ 0`).
    The first conjunct is only the `log2` bracket of `n`; `bits` is `n.log2 + 1` in the model, hence the `+ 1 - 1`. -/
theorem roundMag_correct (p emin n k : Nat) (hn : n ≠ 0) :
    (2 ^ n.log2 ≤ n ∧ n < 2 ^ (n.log2 + 1)) ∧
    ∀ u : Int, u = max (((n.log2 : Int) + 1) - 1 - (k : Int) - ((p : Int) - 1)) (-(emin : Int)) →
      ((k : Int) + u ≤ 0 → roundMag p emin n k = (n, k)) ∧
      (0 < (k : Int) + u →
        (roundMag p emin n k).1 * 2 ^ k =
          rneDiv n ((k : Int) + u).toNat * 2 ^ ((k : Int) + u).toNat * 2 ^ (roundMag p emin n k).2) := by
  refine ⟨⟨Nat.log2_self_le hn, Nat.lt_log2_self⟩, ?_⟩
  intro u hu
  constructor
  · intro hs
    unfold roundMag
    rw [if_neg hn]
    simp only []
    rw [← hu, if_pos hs]
  · intro hs
    unfold roundMag
    rw [if_neg hn]
    simp only []
    rw [← hu, if_neg (by omega)]
    by_cases hu0 : u ≥ 0
    · rw [if_pos hu0]
      simp only [Nat.pow_zero, Nat.mul_one]
      have : ((k : Int) + u).toNat = u.toNat + k := by omega
      rw [this, Nat.pow_add, Nat.mul_assoc]
    · rw [if_neg hu0]
      simp only []
      have e : ((k : Int) + u).toNat + (-u).toNat = k := by omega
      rw [Nat.mul_assoc, ← Nat.pow_add, e]

/-- Rounding does not pass a bound that the format holds exactly: `n / 2^k ≤ c·2^e` with `c < 2^p`
    stays so (the unit in the last place of `n` divides `2^e`). -/
theorem roundMag_le (p emin n k c e : Nat) (hc : c < 2 ^ p) (h : n ≤ c * 2 ^ e * 2 ^ k) :
    (roundMag p emin n k).1 ≤ c * 2 ^ e * 2 ^ (roundMag p emin n k).2 := by
  by_cases hn : n = 0
  · subst hn; exact Nat.zero_le _
  · obtain ⟨_, hu⟩ := roundMag_correct p emin n k hn
    obtain ⟨hsmall, hbig⟩ := hu _ rfl
    generalize hu' : max (((n.log2 : Int) + 1) - 1 - (k : Int) - ((p : Int) - 1)) (-(emin : Int)) = u at hsmall hbig
    by_cases hs : (k : Int) + u ≤ 0
    · rw [hsmall hs]; exact h
    · have hlog : n.log2 < p + e + k := by
        rw [Nat.log2_lt hn, Nat.pow_add, Nat.pow_add]
        exact Nat.lt_of_le_of_lt h (Nat.mul_lt_mul_of_pos_right (Nat.mul_lt_mul_of_pos_right hc (Nat.pow_pos (by decide)))
          (Nat.pow_pos (by decide)))
      -- so the unit `2^u` divides `2^e`, and the bound in units is `c·2^(e-u)`
      have hexp : 2 ^ (e - u).toNat * 2 ^ ((k : Int) + u).toNat = 2 ^ e * 2 ^ k := by
        rw [← Nat.pow_add, ← Nat.pow_add]; congr 1; omega
      have hq : rneDiv n ((k : Int) + u).toNat ≤ c * 2 ^ (e - u).toNat :=
        rneDiv_le n _ _ (by rw [Nat.mul_assoc, hexp, ← Nat.mul_assoc]; exact h)
      apply Nat.le_of_mul_le_mul_right _ (Nat.pow_pos (by decide) : 0 < 2 ^ k)
      rw [hbig (by omega)]
      calc rneDiv n ((k : Int) + u).toNat * 2 ^ ((k : Int) + u).toNat * 2 ^ (roundMag p emin n k).2
          ≤ c * 2 ^ (e - u).toNat * 2 ^ ((k : Int) + u).toNat * 2 ^ (roundMag p emin n k).2 :=
            Nat.mul_le_mul_right _ (Nat.mul_le_mul_right _ hq)
        _ = c * 2 ^ e * 2 ^ (roundMag p emin n k).2 * 2 ^ k := by
            rw [Nat.mul_assoc c, hexp, ← Nat.mul_assoc c, Nat.mul_right_comm]

/-- `roundFin` is `roundMag` on the magnitude with the sign put back, and ±Inf from `2^emax` on. -/
theorem roundFin_cases (p emin emax : Nat) (a : Int) (k : Nat) :
    ∃ m k', roundMag p emin a.natAbs k = (m, k') ∧
      (roundFin p emin emax a k = .fin (if a < 0 then -(m : Int) else m) k' ∨
       (2 ^ emax * 2 ^ k' ≤ m ∧ roundFin p emin emax a k = if a < 0 then .ninf else .pinf)) := by
  unfold roundFin
  rcases roundMag p emin a.natAbs k with ⟨m, k'⟩
  refine ⟨m, k', rfl, ?_⟩
  by_cases h : m ≥ 2 ^ emax * 2 ^ k'
  · exact .inr ⟨h, if_pos h⟩
  · exact .inl (if_neg h)

end Gozod.C17
