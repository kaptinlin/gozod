/-
  C02 — container-level checks of every kind (size checks, Refine, Overwrite), and `Object.Required`.

  `Cont.runOw` is `Parse` of a container including `engine.validatePointer`'s overwrite pre-pass. With
  `Cfg.owValidates` (the validator runs before the pre-pass) `runOw` IS `run`, so every composition law of
  `Proofs/C02.lean` (whose `sizeOK cs n` ranges over Refine and Overwrite checks as well: `SizeCk.custom`, `.overwrite`)
  holds for `runOw`. `owValidates = false` and `Cont.runOwNilLegacy` are the code before /repo 49e6e91 and 7db47f1.
  `ZodObject.Required` (`Cont.requiredFixed`) makes the named fields required and leaves the others alone.
-/
import Gozod.Proofs.C02

namespace Gozod.C02
open Gozod.Cont

set_option linter.unusedVariables false in
/-- `hv` is not used, here, in the next theorem and in `runOw_issues_sub` (`c02_nil_ignores_refinements` is the other
    half); the statements are listed in vlib/c02.py as they stand. -/
theorem runOw_eq_run (cfg : Cfg) (env : Env) (n : Node) (v : V) (hc : cfg.owValidates = true)
    (hv : v.isNilLike = false) : runOw cfg env n v = run cfg env n v := by
  simp [runOw, owBypass, hc]

set_option linter.unusedVariables false in
theorem runOw_eq_run_noOverwrite (cfg : Cfg) (env : Env) (n : Node) (v : V)
    (ho : hasOverwrite (nodeChecks n) = false) (hv : v.isNilLike = false) : runOw cfg env n v = run cfg env n v := by
  simp [runOw, owBypass, ho]

theorem sizeOK_custom_false (cs : List SizeCk) (n : Nat) (h : SizeCk.custom false ∈ cs) : sizeOK cs n = false := by
  cases hs : sizeOK cs n with
  | false => rfl
  | true =>
    have := (List.all_eq_true.1 hs) _ h
    simp [SizeCk.holds] at this

theorem sizeOK_cons_overwrite (cs : List SizeCk) (n : Nat) : sizeOK (.overwrite :: cs) n = sizeOK cs n := by
  simp [sizeOK, SizeCk.holds]

theorem sizeOK_cons_custom_true (cs : List SizeCk) (n : Nat) : sizeOK (.custom true :: cs) n = sizeOK cs n := by
  simp [sizeOK, SizeCk.holds]

theorem c02_slice_checks (cfg : Cfg) (env : Env) (m : Mods) (t : Ty) (e : Mid) (cs : List SizeCk) (v : V)
    (hc : cfg.owValidates = true) (hv : v.isNilLike = false) :
    (runOw cfg env (.slice m t e cs) v).isOk = true ↔
      ∃ xs, extractSlice t v = some xs ∧ sizeOK cs xs.length = true ∧ ∀ x ∈ xs, acc env e x = true := by
  rw [runOw_eq_run cfg env _ v hc hv]; exact c02_slice cfg env m t e cs v hv

def c02_overwrite_full : Prop :=
  ∀ (cfg : Cfg) (env : Env) (m : Mods) (t : Ty) (e : Mid) (cs : List SizeCk) (v : V), v.isNilLike = false →
    ((runOw cfg env (.slice m t e cs) v).isOk = true ↔
      ∃ xs, extractSlice t v = some xs ∧ sizeOK cs xs.length = true ∧ ∀ x ∈ xs, acc env e x = true)

/-- The code before /repo 49e6e91: `Slice[string](String().Min(3)).Min(5).Overwrite(id).Parse([]string{"ab"})`
    was accepted — neither the size check nor the element schema was consulted. (The order matters: a size check attached
    AFTER the overwrite met the converted value in the pre-pass and did reject; `owBypass` does not model that.) -/
theorem c02_overwrite_skipped_legacy : ¬ c02_overwrite_full := by
  intro h
  have := (h { owValidates := false } (fun _ _ => .err (mk .tooSmall []) []) {} .str 0 [.min 5, .overwrite]
    (.slice .str (some [.atom .str 1])) rfl).1 (by decide)
  obtain ⟨xs, hx, hs, _⟩ := this
  simp only [extractSlice, ↓reduceIte, Option.some.injEq] at hx
  subst hx
  revert hs; decide

set_option linter.unusedVariables false in
/-- so the path theorems of C05 about `run` carry over to `runOw`. -/
theorem runOw_issues_sub (cfg : Cfg) (env : Env) (n : Node) (v : V) (hv : v.isNilLike = false) :
    ∀ i ∈ (runOw cfg env n v).issues, i ∈ (run cfg env n v).issues := by
  intro i hi
  unfold runOw at hi
  by_cases hb : owBypass cfg n v = true
  · simp [hb, Res.issues] at hi
  · simpa [hb] using hi

/-- The code before /repo 7db47f1 (refinements ran on an accepted nil):
    `Map(K, V).Refine(func(map[any]any) bool { return true }).Nilable().Parse(nil)` was rejected, `Object{}.Refine(false)` let nil through. -/
theorem c02_refine_on_nil_legacy :
    (runOwNilLegacy {} (fun _ v => .ok v) (.map { nilable := true } none none [.custom true]) .nil).isOk = false
      ∧ (runOwNilLegacy {} (fun _ v => .ok v) (.map { nilable := true } none none []) .nil).isOk = true
      ∧ (runOwNilLegacy {} (fun _ v => .ok v) (.object { nilable := true } [] .strip none {} [.custom false]) .nil).isOk = true := by
  decide

/-- with `c02_nil_path`: the container's own flags decide a nil-like input, whatever refinements are attached. -/
theorem c02_nil_ignores_refinements (cfg : Cfg) (env : Env) (n : Node) (v : V) (hv : v.isNilLike = true) :
    runOw cfg env n v = run cfg env n v := by
  simp [runOw, owBypass, hv]

/-- a field the call names (every field for `Required()`) may not be absent, whatever its schema's Optional flag and an
    earlier `Partial` said. -/
theorem required_fixed_named (r : ReqCall) (shape : List Field) (p : Partial) (f' : Field)
    (hf : f' ∈ (requiredFixed r shape p).1) (hn : (r.names shape).contains f'.name = true) :
    fieldOptional (requiredFixed r shape p).2 f' = false := by
  simp only [requiredFixed] at hf ⊢
  obtain ⟨g, _, hg⟩ := List.mem_map.1 hf
  have hname : f'.name = g.name := by
    rw [← hg]
    by_cases hc : (r.names shape).contains g.name = true
    · rw [if_pos hc]
    · rw [if_neg hc]
  have hopt : f'.optional = false := by
    rw [← hg, if_pos (hname ▸ hn)]
  have hmem : f'.name ∈ r.names shape := by simpa using hn
  unfold fieldOptional
  by_cases hp : p.on = true
  · simp [hp, hopt, hmem]
  · simp [hp, hopt]

theorem required_fixed_other (r : ReqCall) (shape : List Field) (p : Partial) (f : Field)
    (hn : (r.names shape).contains f.name = false) :
    fieldOptional (requiredFixed r shape p).2 f = fieldOptional p f := by
  have hmem : f.name ∉ r.names shape := by simpa using hn
  simp only [requiredFixed]
  unfold fieldOptional
  by_cases hp : p.on = true
  · cases p.exceptions <;> simp [hp, hmem]
  · simp [hp]

/-- The code before /repo 75cf747: `Required()` made EVERY field optional, `Required(ks)` every field not in `ks`. -/
theorem required_legacy_all_optional (shape : List Field) (p : Partial) (f : Field) :
    fieldOptional (requiredLegacy .all shape p).2 f = true := by
  simp [requiredLegacy, fieldOptional]

theorem required_legacy_others_optional (ks : List Nat) (shape : List Field) (p : Partial) (f : Field)
    (h : ks.contains f.name = false) : fieldOptional (requiredLegacy (.keys ks) shape p).2 f = true := by
  have hmem : f.name ∉ ks := by simpa using h
  simp [requiredLegacy, fieldOptional, hmem]

/-- `Object{a: String()}.Required().Parse({})`: rejected by the fixed code, accepted before. -/
theorem c02_required_witness :
    let sh : List Field := [{ name := 1, m := 0 }]
    (let (s, p) := applyRequired { reqFix := true } (some .all) sh {}
     (run {} (fun _ v => .ok v) (.object {} s .strip none p []) (.map .str .any (some []))).isOk) = false
    ∧ (let (s, p) := applyRequired { reqFix := false } (some .all) sh {}
       (run {} (fun _ v => .ok v) (.object {} s .strip none p []) (.map .str .any (some []))).isOk) = true := by
  decide

end Gozod.C02
