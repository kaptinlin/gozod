/-
  C07 — the converter's dispatch and constant tables, REGENERATED from /repo/jsonschema/to.go and
  /repo/core/constants.go into `Gozod/Gen/ToJsonCases.lean` on every run (harness/cmd/c07/cases.go, go/ast),
  against what the hand transcription `toJS` (Model/JsonSchema.lean) assumes.  Every statement quantifies over the
  WHOLE regenerated table, so an edit of the type switch or of a constant table changes a proof obligation here.
-/
import Gozod.Gen.ToJsonCases
import Gozod.Model.JsonSchema
namespace Gozod.C07
open Gozod.Jsc Gozod.Gen.ToJsonCases

inductive SKind
  | str | int (k : IntKind) | flt | bool | nil | any | never | enum | lit
  | obj | slice | arr | tup | record | union | xor | and
  deriving DecidableEq, Repr

/-- the constructor of `S` for the schemas whose `Internals().Type` is this code. -/
def modelledAs : Code → Option SKind
  | .String => some .str
  | .Int => some (.int .int) | .Int8 => some (.int .i8) | .Int16 => some (.int .i16) | .Int32 => some (.int .i32)
  | .Int64 => some (.int .i64)
  | .Uint => some (.int .uint) | .Uint8 => some (.int .u8) | .Uint16 => some (.int .u16) | .Uint32 => some (.int .u32)
  | .Uint64 => some (.int .u64)
  | .Float64 => some .flt
  | .Bool => some .bool | .Nil => some .nil | .Any => some .any | .Never => some .never
  | .Enum => some .enum | .Literal => some .lit
  | .Object => some .obj | .Slice => some .slice | .Array => some .arr | .Tuple => some .tup | .Record => some .record
  | .Union => some .union | .Xor => some .xor | .Intersection => some .and
  | _ => none

/-- Optional()/Nilable() of the modelled types are flags on the same code and ARE modelled (`S.opt` / `S.nul`); the codes
    `Optional`/`Nilable`/… here are the separate wrapper schema types. -/
def unmodelled : List Code :=
  [ -- produce a document
    .Number, .Integer, .Float, .Float32, .Uintptr, .Unknown, .Struct, .Map, .Discriminated, .Lazy, .File,
    .Date, .Email, .Time, .Iso, .ISODateTime, .ISODate, .ISOTime, .ISODuration,
    .IPv4, .IPv6, .CIDRv4, .CIDRv6, .URL, .Hostname, .MAC, .E164,
    -- wrapper schema types: the document of the inner schema
    .Optional, .Nilable, .Default, .Prefault, .Refine, .Check, .Pipe, .Pipeline, .Transform,
    -- conversion error unless Unrepresentable:"any" (outside the property)
    .Set, .BigInt, .NaN, .StringBool, .Function, .Custom, .Complex64, .Complex128, .NonOptional ]

/-- no checks, smallest shape: its document's head is what the branch must produce. -/
def SKind.sample : SKind → S
  | .str => .str [] | .int k => .int k [] | .flt => .flt [] | .bool => .bool | .nil => .nil | .any => .any | .never => .never
  | .enum => .enum [[97]] | .lit => .lit [.bool true]
  | .obj => .obj .strip .none false [] .nil | .slice => .slice .bool [] | .arr => .arr .none [] .nil | .tup => .tup .none [] .nil
  | .record => .record (.str []) .bool [] | .union => .union (.cons .bool .nil) | .xor => .xor (.cons .bool .nil)
  | .and => .and .bool .bool

def jtype : JType → TypeName
  | .string => .string | .integer => .integer | .number => .number | .boolean => .boolean | .null => .null

def kwTypes : KwList → List TypeName
  | .nil => []
  | .cons (.type t) ks => t :: kwTypes ks
  | .cons _ ks => kwTypes ks

def headTypes : JS → List TypeName
  | .node kws => kwTypes kws
  | .bool _ => []

def kwHasNot : KwList → Bool
  | .nil => false
  | .cons (.not _) _ => true
  | .cons _ ks => kwHasNot ks

def headHasNot : JS → Bool
  | .node kws => kwHasNot kws
  | .bool _ => false

/-- the per-type converter `toJS` transcribes; the leaf kinds are literals inside doConvert. -/
def SKind.converter : SKind → List Call
  | .str => [.applyStringBag]
  | .int _ => [.applyNumericRangeDefaults]
  | .flt => [.applyNumericRangeDefaults]
  | .bool => [] | .nil => [] | .any => [] | .never => []
  | .enum => [.convertEnum] | .lit => [.convertLiteral]
  | .obj => [.convertObject] | .slice => [.convertArray] | .arr => [.convertArray] | .tup => [.convertTuple]
  | .record => [.convertRecord] | .union => [.convertUnion] | .xor => [.convertXor] | .and => [.convertIntersection]

/-- leaf: the branch is a lib.Schema literal whose `type` is the one `toJS` emits (at depth > 1, no checks);
    composite: the branch delegates to the per-type converter and sets no type itself. -/
def SKind.isLeaf : SKind → Bool
  | .str | .int _ | .flt | .bool | .nil | .any | .never => true
  | _ => false

def branchOK (k : SKind) (b : Branch) : Bool :=
  b.calls == k.converter && !b.unrep && !b.inner && !b.fallsThrough && !b.isDefault && b.format.isNone
  && (if k.isLeaf then
        -- `Any` is constructed Nilable (convert wraps it in anyOf[{}, null]): no type at the head either way
        b.types.map jtype == headTypes (toJS false false false k.sample)
        && b.notKw == headHasNot (toJS false false false k.sample)
      else b.types.isEmpty && !b.notKw)

def branchOf (c : Code) : List Branch := branches.filter (fun b => b.codes.contains c)

/-- what `S` leaves out: the unmodelled codes whose branch can produce a document without recursing into a modelled inner
    schema and without an error.  (`.Lazy` and `.Map` have no constructor in `S`; `X.lazy` and `X.mapOf` of
    Model/JsonSchemaLazy.lean model them.) -/
def unmodelledWithDocument : List Code :=
  [.Number, .Integer, .Float, .Float32, .Uintptr, .Unknown, .Struct, .Map, .Discriminated, .Lazy, .File,
   .Date, .Email, .Time, .Iso, .ISODateTime, .ISODate, .ISOTime, .ISODuration,
   .IPv4, .IPv6, .CIDRv4, .CIDRv6, .URL, .Hostname, .MAC, .E164]

def producesDocument (c : Code) : Bool :=
  (branchOf c).any (fun b => !b.unrep && !b.fallsThrough && !b.isDefault)

/-- one conjunction: a single evaluation, in which the kernel computes each `branchOf c` once. -/
theorem dispatch_facts :
    (∀ c ∈ Code.all, (branchOf c).length = 1)
    ∧ unmodelled.filter producesDocument = unmodelledWithDocument
    ∧ ∀ c ∈ unmodelled, producesDocument c = false →
        (branchOf c).all (fun b => (b.inner && b.unrep) || b.fallsThrough || (b.unrep && b.calls.isEmpty && b.types.isEmpty)) = true := by
  decide +kernel

/-- every type code has its own clause in doConvert's switch — none left to `default`, none twice. -/
theorem c07_codes_covered : ∀ c ∈ Code.all, (branchOf c).length = 1 := dispatch_facts.1

theorem c07_cases_partition : ∀ c ∈ Code.all, (modelledAs c).isSome = !unmodelled.contains c := by decide +kernel

/-- every branch of a modelled code is the branch `toJS` transcribes: same per-type converter, same `type`
    (from `toJS` itself on a sample term), no error path, no recursion into an inner schema. -/
theorem c07_modelled_branches :
    ∀ b ∈ branches, ∀ c ∈ b.codes, ∀ k, modelledAs c = some k → branchOK k b = true := by decide +kernel

/-- after the switch: `applyBag` and nothing else (in the model: `numKws`, `lengthKws`, `itemsKws`, `propsKws`). -/
theorem c07_tail_is_applyBag : tailCalls = [.applyBag] := rfl

theorem c07_unmodelled_gap : unmodelled.filter producesDocument = unmodelledWithDocument := dispatch_facts.2.1

/-- the other unmodelled codes are wrapper schema types (document of `Inner()`/`Output()`, else an error) or end in
    `ErrUnrepresentableType` (directly or through `fallthrough` into `default`). -/
theorem c07_unmodelled_rest :
    ∀ c ∈ unmodelled, producesDocument c = false →
      (branchOf c).all (fun b => (b.inner && b.unrep) || b.fallsThrough || (b.unrep && b.calls.isEmpty && b.types.isEmpty)) = true :=
  dispatch_facts.2.2

/-- the `default` clause is an error unless Unrepresentable:"any". -/
theorem c07_default_unrepresentable : ∀ b ∈ branches, b.isDefault = true → b.unrep = true ∧ b.codes = [] := by decide +kernel

def kindCode : IntKind → Code
  | .int => .Int | .i8 => .Int8 | .i16 => .Int16 | .i32 => .Int32 | .i64 => .Int64
  | .uint => .Uint | .u8 => .Uint8 | .u16 => .Uint16 | .u32 => .Uint32 | .u64 => .Uint64

def rangeOf (c : Code) : Option (Int × Int) := (rangeDefaults.find? (fun r => r.1 == c)).map (·.2)

/-- the depth-1 range defaults of the model are the source's table (in quarters). -/
theorem c07_range_defaults_int (k : IntKind) :
    (rangeOf (kindCode k)).map (fun r => (4 * r.1, 4 * r.2)) = some k.defaults := by
  cases k <;> decide +kernel

theorem c07_range_defaults_flt :
    (rangeOf .Float64).map (fun r => (4 * r.1, 4 * r.2)) = some (-fltDefault, fltDefault) := by decide +kernel

/-- `top` in `toJS top o n` is `c.depth == 1`. -/
theorem c07_range_defaults_depth : rangeDefaultsDepth = 1 := rfl

/-- range defaults exactly where `toJS` gives the kind some (`numKws … top dflt`). -/
theorem c07_range_defaults_domain :
    ∀ c ∈ Code.all, ∀ k, modelledAs c = some k →
      (rangeOf c).isSome = (match k with | .int _ => true | .flt => true | _ => false) := by decide +kernel

def modelledBagKeys : List (BagKey × KwField) :=
  [(.minLength, .MinLength), (.maxLength, .MaxLength),
   (.minimum, .Minimum), (.maximum, .Maximum), (.exclusiveMinimum, .ExclusiveMinimum), (.exclusiveMaximum, .ExclusiveMaximum),
   (.multipleOf, .MultipleOf),
   (.minItems, .MinItems), (.maxItems, .MaxItems), (.minProperties, .MinProperties), (.maxProperties, .MaxProperties)]

/-- every Bag key of a modelled check is copied to exactly the keyword the model emits. -/
theorem c07_bag_keywords :
    ∀ p ∈ modelledBagKeys, (bagTable.filter (fun r => r.1 == p.1)) = [p] := by decide +kernel

def kwField : Kw → Option KwField
  | .minLength _ => some .MinLength | .maxLength _ => some .MaxLength
  | .minimum _ => some .Minimum | .maximum _ => some .Maximum
  | .exclusiveMinimum _ => some .ExclusiveMinimum | .exclusiveMaximum _ => some .ExclusiveMaximum
  | .multipleOf _ => some .MultipleOf
  | .minItems _ => some .MinItems | .maxItems _ => some .MaxItems
  | .minProperties _ => some .MinProperties | .maxProperties _ => some .MaxProperties
  | _ => none

/-- the model's Bag → keyword functions emit only keywords of `modelledBagKeys`, each from the Bag slot of that key: one
    instance per function with every slot filled — a TEST of the transcription; the general statement is the definitions
    read together with `c07_bag_keywords`. -/
theorem c07_bag_model_instances :
    (lengthKws ⟨some 1, some 2⟩).map kwField = [some .MinLength, some .MaxLength]
    ∧ (itemsKws ⟨some 1, some 2⟩).map kwField = [some .MinItems, some .MaxItems]
    ∧ (propsKws ⟨some 1, some 2⟩).map kwField = [some .MinProperties, some .MaxProperties]
    ∧ (numKws 1 [.gte 1, .lte 9, .mul 2] false (0, 0)).map kwField = [some .Minimum, some .Maximum, some .MultipleOf]
    ∧ (numKws 1 [.gt 1, .lt 9] false (0, 0)).map kwField = [some .ExclusiveMinimum, some .ExclusiveMaximum] := by decide +kernel

/-- Bag keys that reach a keyword of ANOTHER name (File's minSize/maxSize → min/maxLength, mime → contentMediaType):
    none of them is written by a modelled check. -/
theorem c07_bag_renamed :
    bagTable.filter (fun r => !(modelledBagKeys.contains r) && !([(BagKey.format, KwField.Format),
      (.contentEncoding, .ContentEncoding), (.contentMediaType, .ContentMediaType)].contains r))
      = [(.minSize, .MinLength), (.maxSize, .MaxLength), (.mime, .ContentMediaType)] := by decide +kernel

/-- the option values the converter compares against are the four of the model's `Opts` (`ioInput`, `unrepAny`,
    `reusedRef`, `cyclesThrow`); `Target` is compared with nothing (`Opts.draft07` is read by nothing). -/
theorem c07_option_tests : OptTest.all = [.Cycles_throw, .IO_input, .Reused_ref, .Unrepresentable_any] := rfl

/-- what Reused:"ref" may move to `$defs`: modelled kinds, and `Struct`. -/
theorem c07_composite_types :
    compositeTypes = [.Object, .Struct, .Slice, .Array, .Record, .Union, .Intersection]
    ∧ ∀ c ∈ compositeTypes, (modelledAs c).isSome = true ∨ c = .Struct := by decide +kernel

end Gozod.C07
