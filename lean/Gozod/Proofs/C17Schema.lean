/-
  C17, third sentence: "A coercing schema then validates the coerced value exactly as the non-coercing
  schema validates that value."

  The coercing schema is `CoerceSchema.parseValue` — the transcription of `parsePrimitiveValue` — and the
  non-coercing schema is C01's `Prim.parse` with C16's checks; `driver_c17` executes both.  The transcription is
  tied to internal/engine/parser.go in Proofs/C17Dispatch.lean (`parsePrimitiveValue_order`, `schema_parse_routes`).

  Without `Coerce` the transcription is C01's `Prim.parse` (`parseValue_plain`).  `holds_exact` composes with C16:
  each check on the coerced value is its documented meaning (`specHolds`); for BigInt bounds the check is
  `NumBig.xcmp` and the spec `op.holdsInt`, so this has content.
-/
import Gozod.Proofs.C17
import Gozod.Proofs.C10Prim
import Gozod.Proofs.C16Big
import Gozod.Proofs.C16Float
import Gozod.Model.CoerceSchema

namespace Gozod.C17S
open Gozod Gozod.Coerce Gozod.CoerceSchema

def preds (cs : List CP) : List (Check CP Unit) := cs.map (fun p => Check.pred p false none)

theorem seenAt_preds (e : Env CP Unit Unit Val) (cs : List CP) (v : Val) : ∀ k, seenAt e (preds cs) k v = v
  | 0 => C10.seenAt_zero ..
  | k + 1 => by
    cases cs with
    | nil => rfl
    | cons c cs => exact seenAt_preds e cs v k

/-- `validateWithChecks` / `validatePointer` on a value of the schema's type: the chain has no overwrite, so the
    value comes back unchanged, exactly when every check holds on it (`C10.checked_okVal_iff`). -/
theorem checked_iff (s : Schema) (ptrIn : Bool) (v w : Val) :
    Prim.checked (env s.tgt) s.internals ptrIn v = .okVal w ↔ (w = v ∧ ∀ p ∈ s.checks, holds s.tgt p v = true) := by
  rw [C10.checked_okVal_iff, C10.forall_failsAt_false_iff, show s.internals.checks = preds s.checks from rfl, and_comm]
  simp only [seenAt_preds]
  refine and_congr Iff.rfl ⟨fun h p hp => ?_, fun h k c hk => ?_⟩
  · obtain ⟨k, hk⟩ := List.mem_iff_getElem?.mp hp
    simpa [checkFails, env] using h k (.pred p false none) (by simp [preds, hk])
  · obtain ⟨p, hp, rfl⟩ : ∃ p, s.checks[k]? = some p ∧ Check.pred p false none = c := by simpa [preds] using hk
    simpa [checkFails, env] using h p (List.mem_of_getElem? hp)

theorem checked_ptr (s : Schema) (v : Val) :
    Prim.checked (env s.tgt) s.internals true v = Prim.checked (env s.tgt) s.internals false v :=
  (C10.checked_eq_run ..).trans (C10.checked_eq_run ..).symm

theorem plain_internals (s : Schema) : s.plain.internals = s.internals := rfl
theorem plain_tgt (s : Schema) : s.plain.tgt = s.tgt := rfl

/-- C17 (schemas). For an input that does not already have the schema's type (and is not nil), the
    coercing schema answers exactly what the NON-coercing schema answers on `coerce.To[T](input)`;
    a failed coercion is the invalid-type error. -/
theorem c17_schema_eq (f g : F → List Nat) (s : Schema) (ptr : Bool) (x : Src)
    (hc : s.coerce = true) (hex : exact s.tgt x = none) (hn : x ≠ .nilptr) :
    parseValue f g s ptr x = plainOnCoerced f g s x := by
  unfold parseValue plainOnCoerced
  rw [hex]
  cases x with
  | nilptr => exact absurd rfl hn
  | _ => simp only [hc, ↓reduceIte, plain_internals, Prim.parse]

/-- …spelled out: `plainOnCoerced` is `Prim.parse` (C01's `ParsePrimitive`) of the plain schema on the value. -/
theorem plainOnCoerced_ok (f g : F → List Nat) (s : Schema) (x : Src) (v : Val) (h : to f g s.tgt x = .ok v) :
    plainOnCoerced f g s x = Prim.parse (env s.tgt) s.plain.internals (.val v) := by
  unfold plainOnCoerced; rw [h]

theorem plainOnCoerced_err (f g : F → List Nat) (s : Schema) (x : Src) (e : CErr) (h : to f g s.tgt x = .error e) :
    plainOnCoerced f g s x = .errType := by
  unfold plainOnCoerced; rw [h]

/-- C17 (schemas, order). Coercion is attempted only after the exact type match fails: on an input that
    already has the schema's type (directly or behind a pointer) the coercing schema is the plain schema. -/
theorem c17_schema_exact_first (f g : F → List Nat) (s : Schema) (ptr : Bool) (x : Src) (v : Val)
    (h : exact s.tgt x = some v) : parseValue f g s ptr x = parsePlain s.plain ptr x := by
  unfold parseValue parsePlain classify
  rw [plain_tgt, h]
  cases ptr <;> simp [Prim.parse, plain_internals]

/-- Without `Coerce`, the transcription of `parsePrimitiveValue` is C01's `ParsePrimitive`. -/
theorem parseValue_plain (f g : F → List Nat) (s : Schema) (ptr : Bool) (x : Src) (hc : s.coerce = false) :
    parseValue f g s ptr x = parsePlain s ptr x := by
  unfold parseValue parsePlain classify
  cases hex : exact s.tgt x with
  | some v => cases ptr <;> simp [Prim.parse]
  | none =>
    cases x <;> simp [hc, Prim.parse]

/-- C17 (schemas, every target, every check chain). The coercing schema returns `w` for an input of another
    type exactly when `coerce.To[T]` produced `w` — nothing is changed between coercion and validation —
    and every check of the chain holds on `w`. -/
theorem c17_schema_sound (f g : F → List Nat) (s : Schema) (ptr : Bool) (x : Src) (w : Val)
    (hc : s.coerce = true) (hex : exact s.tgt x = none) (hn : x ≠ .nilptr) :
    parseValue f g s ptr x = .okVal w ↔ (to f g s.tgt x = .ok w ∧ ∀ p ∈ s.checks, holds s.tgt p w = true) := by
  rw [c17_schema_eq f g s ptr x hc hex hn]
  unfold plainOnCoerced
  cases hto : to f g s.tgt x with
  | error e => simp
  | ok v =>
    simp only [Prim.parse, plain_internals]
    rw [checked_iff s false v w]
    constructor
    · intro ⟨h1, h2⟩; subst h1; exact ⟨rfl, h2⟩
    · intro ⟨h1, h2⟩; injection h1 with h1; subst h1; exact ⟨rfl, h2⟩

theorem checked_cases (s : Schema) (ptrIn : Bool) (v : Val) :
    Prim.checked (env s.tgt) s.internals ptrIn v = .okVal v ∨
      ∃ ps, ps ≠ [] ∧ Prim.checked (env s.tgt) s.internals ptrIn v = .errChecks ps := by
  have := C10.checked_cases (env s.tgt) s.internals ptrIn v
  rwa [show s.internals.checks = preds s.checks from rfl, seenAt_preds] at this

/-- A coercing schema never answers nil / non-optional for such an input: a value, the check issues, or invalid type. -/
theorem c17_schema_outcomes (f g : F → List Nat) (s : Schema) (ptr : Bool) (x : Src)
    (hc : s.coerce = true) (hex : exact s.tgt x = none) (hn : x ≠ .nilptr) :
    (∃ v, to f g s.tgt x = .ok v ∧ (parseValue f g s ptr x = .okVal v ∨ ∃ ps, ps ≠ [] ∧ parseValue f g s ptr x = .errChecks ps)) ∨
    (∃ e, to f g s.tgt x = .error e ∧ parseValue f g s ptr x = .errType) := by
  rw [c17_schema_eq f g s ptr x hc hex hn]
  unfold plainOnCoerced
  cases hto : to f g s.tgt x with
  | error e => exact Or.inr ⟨e, rfl, rfl⟩
  | ok v => exact Or.inl ⟨v, rfl, checked_cases s false v⟩

/-- The coerced value fits the schema's type (what `c17_integer_sound` guarantees for integer targets). -/
def ValWf (t : Tgt) : Val → Prop
  | .int n => (match t with
    | .int ty => ty.inRange n
    | _ => True)
  | _ => True

/-- The bound / divisor is what the schema method accepts: an `int64` (integer schemas), a `float64`. -/
def CPWf : CP → Prop
  | .cmp _ b => C16.Num.wf b
  | .mul d => C16.Num.wf d
  | _ => True

theorem isPrefix_spec (p bs : List Nat) : isPrefix p bs = (decide (p.length ≤ bs.length) && bs.take p.length == p) := by
  induction p generalizing bs with
  | nil => simp [isPrefix]
  | cons a p ih =>
    cases bs with
    | nil => simp [isPrefix]
    | cons b bs =>
      simp only [isPrefix, ih bs, List.length_cons, List.take_succ_cons]
      by_cases hab : a = b
      · subst hab; simp
      · have : (a == b) = false := by simpa using hab
        rw [this]
        simp only [Bool.false_and]
        symm
        rw [Bool.and_eq_false_iff]
        right
        simp only [beq_eq_false_iff_ne, ne_eq, List.cons.injEq, not_and]
        intro h; exact absurd h.symm hab

theorem specCmp_ofInt (op : CmpOp) (ty : IntTy) (n : Int) (b : Num) :
    specCmp op (Num.ofInt ty n) b = specCmp op (.i n) b := by
  unfold specCmp; rw [C16.ofInt_toF]; rfl

/-- Every check of the chain, evaluated by the code's algorithm on the coerced value, is its documented
    meaning — whenever the documentation gives one (`specHolds = some r`; the float ε-rule of MultipleOf has
    none and is C16F's).  A check on a value of another kind than it is made for is false on both sides. -/
theorem holds_exact (t : Tgt) (p : CP) (v : Val) (r : Bool) (hv : ValWf t v) (hp : CPWf p)
    (hs : specHolds t p v = some r) : holds t p v = r := by
  cases p with
  | cmp op b =>
    cases v with
    | int n =>
      cases t with
      | int ty =>
        cases hs
        exact (C16.c16_cmp op _ b (C16.ofInt_wf ty n hv) hp).trans (specCmp_ofInt op ty n b)
      | _ => cases hs; rfl
    | flt x =>
      cases t with
      | f32 => cases hs; exact C16.c16_cmp op _ b trivial hp
      | f64 => cases hs; exact C16.c16_cmp op _ b trivial hp
      | _ => cases hs; rfl
    | _ => cases hs; rfl
  | mul d =>
    cases v with
    | int n =>
      cases t with
      | int ty =>
        have intDivisor (hd : C16.isInt d = true) :
            holds (.int ty) (.mul d) (.int n) = specMultipleOfInt n (C16.ival d) :=
          (C16F.multipleOfNum_ints (C16.ofInt_isInt ty n) hd).trans
            ((C16.multipleOfInts_exact _ d (C16.ofInt_wf ty n hv) hp (C16.ofInt_isInt ty n) hd).trans
              (by rw [C16.ofInt_ival]))
        cases d with
        | i dv => cases hs; exact intDivisor rfl
        | u dv => cases hs; exact intDivisor rfl
        | f _ => cases hs
      | _ => cases hs; rfl
    | flt x => cases t <;> cases hs <;> rfl
    | _ => cases hs; rfl
  | cmpBig op b =>
    cases v with
    | int n =>
      cases t with
      | big => cases hs; exact C16B.c16_big_cmp op (.big n) (.big b) n b rfl rfl trivial trivial
      | _ => cases hs; rfl
    | _ => cases hs; cases t <;> rfl
  | mulBig d =>
    cases v with
    | int n =>
      cases t with
      | big => cases hs; exact C16B.c16_big_multiple (.big n) (.big d) n d rfl rfl trivial trivial
      | _ => cases hs; rfl
    | _ => cases hs; cases t <;> rfl
  | minLen k => cases v <;> cases hs <;> rfl
  | maxLen k => cases v <;> cases hs <;> rfl
  | hasPrefix q =>
    cases v with
    | str bs => cases hs; exact isPrefix_spec q bs
    | _ => cases hs; rfl
  | refine => cases hs; rfl

/-- The BigInt bound: the code's `cmpBig` path against the comparison of the integers. -/
theorem c17_bigint_check_exact (op : CmpOp) (v b : Int) :
    holds .big (.cmpBig op b) (.int v) = op.holdsInt v b :=
  holds_exact .big (.cmpBig op b) (.int v) _ trivial trivial rfl

theorem c17_schema_check_exact (ty : IntTy) (op : CmpOp) (b n : Int) (hn : ty.inRange n) (hb : IntTy.i64.inRange b) :
    holds (.int ty) (.cmp op (.i b)) (.int n) = op.holdsInt n b :=
  (holds_exact (.int ty) (.cmp op (.i b)) (.int n) _ hn hb rfl).trans (C16.specCmp_ints op (.i n) (.i b) rfl rfl)

theorem c17_schema_check_exact_float (t : Tgt) (ht : t = .f32 ∨ t = .f64) (op : CmpOp) (x b : F) :
    holds t (.cmp op (.f b)) (.flt x) = specCmp op (.f x) (.f b) := by
  rcases ht with rfl | rfl <;> exact holds_exact _ (.cmp op (.f b)) (.flt x) _ trivial trivial rfl

/-- Coercing integer schemas, end to end: what such a schema returns for an input of another type is exactly
    the integer the input denotes, within the type's range, and every check of the chain that has a documented
    meaning holds of it in that meaning. -/
theorem c17_schema_int_sound (sem : C17.StrSem) (f g : F → List Nat) (s : Schema) (ty : IntTy) (ptr : Bool) (x : Src)
    (w : Val) (ht : s.tgt = .int ty) (hc : s.coerce = true) (hwf : C17.wf x) (hex : exact s.tgt x = none) (hn : x ≠ .nilptr)
    (hcp : ∀ p ∈ s.checks, CPWf p) (h : parseValue f g s ptr x = .okVal w) :
    ∃ n, w = .int n ∧ C17.denotesInt sem x n ∧ ty.inRange n ∧
      ∀ p ∈ s.checks, ∀ r, specHolds s.tgt p (.int n) = some r → r = true := by
  have ⟨hto, hall⟩ := (c17_schema_sound f g s ptr x w hc hex hn).mp h
  rw [ht, C17.to_int] at hto
  cases hi : toInteger ty x with
  | error e => rw [hi] at hto; cases hto
  | ok n =>
    rw [hi] at hto
    have ⟨hd, hr⟩ := C17.c17_integer_sound sem ty x n hwf hi
    simp only [Functor.map, Except.map] at hto
    injection hto with hto; subst hto
    refine ⟨n, rfl, hd, hr, ?_⟩
    intro p hp r hs
    have hv : ValWf s.tgt (.int n) := by rw [ht]; exact hr
    rw [← holds_exact s.tgt p (.int n) r hv (hcp p hp) hs]
    exact hall p hp

def seven : StrInfo := StrInfo.ofText [0x20, 0x37] "7" (some (.fin 7 0)) (some (.fin 7 0))

example :
    let s : Schema := { tgt := .int .i8, checks := [.cmp .gte (.i 5), .mul (.i 7), .refine], coerce := true }
    exact s.tgt (.str seven) = none ∧
    parseValue (fun _ => []) (fun _ => []) s false (.str seven) = .errChecks [2] ∧        -- 7 is odd: the refinement fails
    parseValue (fun _ => []) (fun _ => []) { s with checks := [.cmp .gte (.i 5), .mul (.i 7)] } false (.str seven) = .okVal (.int 7) ∧
    parseValue (fun _ => []) (fun _ => []) s.plain false (.str seven) = .errType ∧
    plainOnCoerced (fun _ => []) (fun _ => []) s (.str seven) = .errChecks [2] := by
  refine ⟨rfl, ?_, ?_, ?_, ?_⟩ <;> decide

example : parseValue (fun _ => []) (fun _ => []) { tgt := .f64, checks := [.cmp .gt (.f (.fin 1 1))], coerce := true } false (.int .i8 1) = .okVal (.flt (.fin 1 0)) ∧
    parseValue (fun _ => []) (fun _ => []) { tgt := .f64, checks := [.cmp .lt (.f .nan)], coerce := true } false (.int .i8 1) = .errChecks [0] ∧
    holds .big (.cmpBig .gt (2 ^ 53)) (.int (2 ^ 53 + 1)) = true ∧
    holds (.int .i8) (.minLen 0) (.int 3) = false := by
  decide

set_option exponentiation.threshold 2000 in
theorem bigToF64_exact (v : Int) (h : v.natAbs < 2 ^ 53) : bigToF64 v = .fin v 0 := by
  have hrm : roundMag 53 1074 v.natAbs 0 = (v.natAbs, 0) := by
    by_cases h0 : v.natAbs = 0
    · rw [h0]; rfl
    · have hl := (Nat.log2_lt h0).mpr h
      exact ((C17.roundMag_correct 53 1074 v.natAbs 0 h0).2 _ rfl).1 (by omega)
  obtain ⟨m, k', hrm', e | ⟨hge, -⟩⟩ := C17.roundFin_cases 53 1074 1024 v 0 <;> cases hrm.symm.trans hrm'
  · refine e.trans (congrArg (F.fin · 0) ?_)
    split <;> omega
  · have h53 : (2 : Nat) ^ 53 ≤ 2 ^ 1024 * 2 ^ 0 :=
      Nat.le_trans (Nat.pow_le_pow_right (by decide) (by decide)) (Nat.le_mul_of_pos_right _ (Nat.pow_pos (by decide)))
    exact absurd (Nat.lt_of_lt_of_le h (Nat.le_trans h53 hge)) (Nat.lt_irrefl _)

/-- The code before commit 4945548 compared BigInt bounds through float64 (`bigCmpViaFloat`): exact below 2^53 … -/
theorem legacy_bigint_check_partial (op : CmpOp) (v b : Int) (hv : v.natAbs < 2 ^ 53) (hb : b.natAbs < 2 ^ 53) :
    bigCmpViaFloat op v b = op.holdsInt v b := by
  unfold bigCmpViaFloat
  rw [bigToF64_exact v hv, bigToF64_exact b hb]
  simp only [finOrOverflow, F.cmp, Int.pow_zero, Int.mul_one]
  exact C16.ofOrdering_compare op v b

/-- … and wrong above: `BigInt().Gt(2^53).Parse(2^53+1)` is refused, `BigInt().Gt(0).Parse(2^1024)` too. -/
theorem legacy_bigint_check_witness :
    bigCmpViaFloat .gt (2 ^ 53 + 1) (2 ^ 53) = false ∧ bigCmpViaFloat .gt (2 ^ 1024) 0 = false := by
  decide +kernel

end Gozod.C17S
