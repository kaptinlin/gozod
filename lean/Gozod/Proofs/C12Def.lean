/-
  C12 — the converter's reads of definition-held data (`Model/DefData.lean`).

  The member list of a literal, the entries of an enum, … live behind the `Def` pointer that a schema shares with its
  whole family, and accessor methods hand them to the converter — `ZodLiteral.Values()` by reference.  The converter's
  reading (accessor, boxing loop, flattening) only ALLOCATES, so every value graph of the store is observed as before;
  what the document shows is `membersSpec`, a function of the definition alone.  Excluded shape, with witnesses:
  `convLiteralInPlace` (boxing fast path + in-place de-duplication, the shape of seeded/C12c).
-/
import Gozod.Model.DefData
import Gozod.Proofs.StoreLemmas

namespace Gozod.C12Def
open Gozod.Store Gozod.DefData

/-- closed heap: every reference stored in a node points at an allocated cell -/
def NodeClosed (σ : Store) : Prop :=
  ∀ l kv, σ.heap l = some (.node kv) → ∀ p ∈ kv, ∀ m, p.2 = .ref m → m < σ.next

def below (σ : Store) : UVal → Prop
  | .scalar _ => True
  | .ref l => l < σ.next

theorem readNode_below (σ : Store) (hc : NodeClosed σ) (l : Loc) : ∀ p ∈ readNode σ.heap l, below σ p.2 := by
  intro p hp
  unfold readNode at hp
  cases hh : σ.heap l with
  | none => simp [hh] at hp
  | some c =>
    cases c with
    | node kv =>
      simp only [hh] at hp
      cases hv : p.2 with
      | scalar n => trivial
      | ref m => exact hc l kv hh p hp m hv
    | _ => simp [hh] at hp

theorem frame_ser {σ σ' : Store} (he : ExtFrom σ.next σ σ') (hc : NodeClosed σ) : ∀ (v : UVal), below σ v → ∀ (f : Nat),
    ser f σ'.heap v = ser f σ.heap v
  | _, _, 0 => rfl
  | .scalar _, _, _ + 1 => rfl
  | .ref l, hv, f + 1 => by
    simp only [ser, readNode_congr l (he.2 l hv), List.flatMap_def]
    rw [List.map_congr_left fun p hp => by rw [frame_ser he hc p.2 (readNode_below σ hc l p hp) f]]

theorem below_mono {σ σ' : Store} (h : σ.next ≤ σ'.next) (v : UVal) (hv : below σ v) : below σ' v := by
  cases v with
  | scalar n => trivial
  | ref l => exact Nat.lt_of_lt_of_le hv h

/-! `Grows` is `Store.Keeps σ.next` (Proofs/C08Frame.lean) with `NodeClosed` for `BagClosed`.  C12Opts carries both: the
  histories need bags closed for every Override, the shown document needs nodes closed under `OptsOK`. -/

def Grows (σ σ' : Store) : Prop := ExtFrom σ.next σ σ' ∧ (NodeClosed σ → NodeClosed σ')

theorem Grows.refl (σ : Store) : Grows σ σ := ⟨ExtFrom.refl _ _, id⟩

theorem Grows.trans {a b c : Store} (h1 : Grows a b) (h2 : Grows b c) : Grows a c :=
  ⟨h1.1.step h2.1, fun h => h2.2 (h1.2 h)⟩

theorem shallow_read (σ : Store) (l : Loc) : readNode (shallow σ l).1.heap (shallow σ l).2 = readNode σ.heap l := by
  simp only [shallow, readNode, alloc_loc, alloc_get]

theorem shallow_below (σ : Store) (l : Loc) : below (shallow σ l).1 (.ref (shallow σ l).2) := Nat.lt_succ_self _

theorem shallow_grows (σ : Store) (l : Loc) : Grows σ (shallow σ l).1 := by
  refine ⟨alloc_ext σ.next σ _ (Nat.le_refl _), fun hc x kv hx p hp m hm => Nat.lt_succ_of_lt ?_⟩
  rcases upd_cases hx with e | hx
  · have := readNode_below σ hc l p (Cell.node.inj e ▸ hp)
    rwa [hm] at this
  · exact hc x kv hx p hp m hm

theorem ser_shallow (σ : Store) (hc : NodeClosed σ) (l : Loc) (f : Nat) :
    ser (f + 1) (shallow σ l).1.heap (.ref (shallow σ l).2) = ser (f + 1) σ.heap (.ref l) := by
  simp only [ser, shallow_read]
  rw [List.flatMap_def, List.flatMap_def, List.map_congr_left fun p hp => by
    rw [frame_ser (shallow_grows σ l).1 hc p.2 (readNode_below σ hc l p hp) f]]

theorem access_grows (a : Acc) (σ : Store) (l : Loc) : Grows σ (access a σ l).1 := by
  cases a with
  | alias => exact .refl σ
  | copy => exact shallow_grows σ l

theorem access_read (a : Acc) (σ : Store) (l : Loc) :
    readNode (access a σ l).1.heap (access a σ l).2 = readNode σ.heap l := by
  cases a with
  | alias => rfl
  | copy => exact shallow_read σ l

theorem access_ser (a : Acc) (σ : Store) (hc : NodeClosed σ) (l : Loc) (f : Nat) :
    ser (f + 1) (access a σ l).1.heap (.ref (access a σ l).2) = ser (f + 1) σ.heap (.ref l) := by
  cases a with
  | alias => rfl
  | copy => exact ser_shallow σ hc l f

theorem flatten_grows (σ : Store) (l : Loc) : Grows σ (flatten σ l).1 := by
  unfold flatten
  split
  · exact shallow_grows σ _
  · exact .refl σ

theorem convLiteral_grows (a : Acc) (σ : Store) (l : Loc) : Grows σ (convLiteral a σ l).1 :=
  ((access_grows a σ l).trans (shallow_grows _ _)).trans (flatten_grows _ _)

theorem convLiteral_ext (a : Acc) (σ : Store) (l : Loc) : ExtFrom σ.next σ (convLiteral a σ l).1 :=
  (convLiteral_grows a σ l).1

/-- after the conversion every allocated value graph — the definition of the converted schema (shared with its
    ancestors and siblings), any other definition, any member — serialises exactly as before, to any depth. -/
theorem c12_def_pure (a : Acc) (σ : Store) (hc : NodeClosed σ) (l : Loc) (v : UVal) (hv : below σ v) (f : Nat) :
    ser f (convLiteral a σ l).1.heap v = ser f σ.heap v :=
  frame_ser (convLiteral_ext a σ l) hc v hv f

/-- the document's members are a function of the definition: the member list the converter ends up with serialises to
    `membersSpec`. -/
theorem members_eq_spec (a : Acc) (σ : Store) (hc : NodeClosed σ) (l : Loc) :
    members (convLiteral a σ l) = membersSpec σ.heap l := by
  have g1 := access_grows a σ l
  have g2 : Grows σ (box (access a σ l).1 (access a σ l).2).1 := g1.trans (shallow_grows _ _)
  have hr2 : readNode (box (access a σ l).1 (access a σ l).2).1.heap (box (access a σ l).1 (access a σ l).2).2
      = readNode σ.heap l := by
    unfold box; rw [shallow_read, access_read]
  unfold members convLiteral membersSpec flatten
  simp only [hr2]
  split
  · rename_i k m hm
    -- single slice member: a private copy of the member's elements
    -- 5 + 1 is `Store.depth` (here and below)
    show ser (5 + 1) _ _ = ser (5 + 1) _ _
    rw [ser_shallow _ (g2.2 hc) m 5]
    exact frame_ser g2.1 hc (.ref m) (readNode_below σ hc l (k, .ref m) (by rw [hm]; exact List.mem_singleton_self _)) 6
  · show ser (5 + 1) _ _ = ser (5 + 1) _ _
    unfold box
    rw [ser_shallow _ (g1.2 hc) _ 5, access_ser a σ hc l 5]

theorem membersSpec_frame {σ σ' : Store} (he : ExtFrom σ.next σ σ') (hc : NodeClosed σ) (l : Loc) (hl : l < σ.next) :
    membersSpec σ'.heap l = membersSpec σ.heap l := by
  unfold membersSpec
  rw [readNode_congr l (he.2 l hl)]
  split
  · rename_i k m hm
    exact frame_ser he hc (.ref m) (readNode_below σ hc l (k, .ref m) (by rw [hm]; exact List.mem_singleton_self _)) depth
  · exact frame_ser he hc (.ref l) hl depth

theorem convAll_grows : ∀ (ops : List (Acc × Loc)) (σ : Store), Grows σ (convAll σ ops)
  | [], σ => .refl σ
  | (a, l) :: rest, σ => (convLiteral_grows a σ l).trans (convAll_grows rest _)

/-- after any number of conversions of any schemas of the family (with any accessors), a schema's conversion shows the
    members it shows when converted first, and its definition is observed as before. -/
theorem c12_def_after_others (σ : Store) (hc : NodeClosed σ) (ops : List (Acc × Loc)) (a : Acc) (l : Loc) (hl : l < σ.next) :
    members (convLiteral a (convAll σ ops) l) = members (convLiteral a σ l) ∧
    ∀ f, ser f (convAll σ ops).heap (.ref l) = ser f σ.heap (.ref l) := by
  obtain ⟨he, hc'⟩ := convAll_grows ops σ
  refine ⟨?_, fun f => frame_ser he hc (.ref l) hl f⟩
  rw [members_eq_spec a _ (hc' hc) l, members_eq_spec a σ hc l]
  exact membersSpec_frame he hc l hl

/-- converting the same schema twice (or its parent after the child: the definition is the same cell) -/
theorem c12_def_twice (σ : Store) (hc : NodeClosed σ) (a b : Acc) (l : Loc) (hl : l < σ.next) :
    members (convLiteral a (convLiteral b σ l).1 l) = members (convLiteral a σ l) :=
  (c12_def_after_others σ hc [(b, l)] a l hl).1

/-- whether the accessor copies or aliases makes no difference to the document -/
theorem c12_def_acc_irrelevant (σ : Store) (hc : NodeClosed σ) (l : Loc) :
    members (convLiteral .alias σ l) = members (convLiteral .copy σ l) := by
  rw [members_eq_spec _ σ hc l, members_eq_spec _ σ hc l]

/-- `LiteralOf([]any{"a","b","a"})`: members a=1, b=2 -/
def σRepeat : Store := (mkSlice { heap := fun _ => none, next := 1 } [.scalar 1, .scalar 2, .scalar 1]).1
def lRepeat : Loc := 1

/-- `Literal[any]([]any{"x","y","x"})`: ONE member, itself a slice (x=7, y=8) -/
def σFlat : Store :=
  let r := mkSlice { heap := fun _ => none, next := 1 } [.scalar 7, .scalar 8, .scalar 7]
  (mkSlice r.1 [r.2]).1
def lFlat : Loc := 2

def closedUpTo (σ : Store) (n : Nat) : Bool :=
  (List.range n).all fun l => match σ.heap l with
    | some (.node kv) => kv.all fun p => match p.2 with
      | .ref m => decide (m < σ.next)
      | .scalar _ => true
    | _ => true

theorem closed_of_check (σ : Store) (h : closedUpTo σ σ.next = true) (hout : ∀ l, σ.next ≤ l → σ.heap l = none) :
    NodeClosed σ := by
  intro l kv hl p hp m hm
  by_cases h' : l < σ.next
  · simp only [closedUpTo, List.all_eq_true, List.mem_range] at h
    have := h l h'
    rw [hl] at this
    simp only [List.all_eq_true] at this
    have := this p hp
    rw [hm] at this
    simpa using this
  · rw [hout l (Nat.le_of_not_lt h')] at hl; cases hl

theorem σRepeat_closed : NodeClosed σRepeat := by
  refine closed_of_check σRepeat (by decide) (fun l hl => ?_)
  have hn : σRepeat.next = 2 := rfl
  rw [hn] at hl
  -- `l : Loc`; `omega` wants the order and the inequality read at `Nat`
  have hl' : @LE.le Nat _ 2 l := hl
  have : @Ne Nat l 1 := by omega
  simp [σRepeat, mkSlice, alloc, upd, this]

theorem σFlat_closed : NodeClosed σFlat := by
  refine closed_of_check σFlat (by decide) (fun l hl => ?_)
  have h3 : σFlat.next = 3 := rfl
  rw [h3] at hl
  have hl' : @LE.le Nat _ 3 l := hl
  have h1 : @Ne Nat l 1 := by omega
  have h2 : @Ne Nat l 2 := by omega
  simp [σFlat, mkSlice, alloc, upd, h1, h2]

/-- non-vacuity on the two definitions of seeded/C12c's class; the documents are `enum [a,b,a]` and (flattened)
    `enum [x,y,x]` -/
example : members (convLiteral .alias σRepeat lRepeat) = [1, 0, 0, 1, 1, 0, 2, 2, 0, 1, 3] := by decide
example : members (convLiteral .alias σFlat lFlat) = [1, 0, 0, 7, 1, 0, 8, 2, 0, 7, 3] := by decide
example : members (convLiteral .alias (convLiteral .alias σFlat lFlat).1 lFlat) = members (convLiteral .alias σFlat lFlat) :=
  c12_def_twice σFlat σFlat_closed .alias .alias lFlat (by decide)

/-- Witness (excluded shape): with the boxing fast path and the in-place de-duplication the definition
    `["a","b","a"]` reads `["a","b",nil]` after one conversion … -/
theorem inplace_dedup_changes_definition :
    ser depth (convLiteralInPlace σRepeat lRepeat).1.heap (.ref lRepeat) ≠ ser depth σRepeat.heap (.ref lRepeat) := by
  decide

/-- … and for the single-slice member the member itself is rewritten, so the next conversion of the schema (or of any
    relative) shows other members: `[x,y]` then `[x,y,nil]`. -/
theorem inplace_dedup_changes_next_document :
    let r := convLiteralInPlace σFlat lFlat
    membersSpec r.1.heap lFlat ≠ membersSpec σFlat.heap lFlat ∧
    ser depth r.1.heap (.ref lFlat) ≠ ser depth σFlat.heap (.ref lFlat) := by
  decide

end Gozod.C12Def
