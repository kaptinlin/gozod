/-
  C11 — const / enum documents whose members are JSON values of every kind.

  The members are `Json` values and validity is `jsonEq` (Draft 2020-12 §4.2.2), stated independently of `Json.isPrim`.
  `fromEnumJ` / `fromConstJ` are the converter on such members; on primitive members they are `fromJS` on the document.
-/
import Gozod.Proofs.C11Fragment
import Gozod.Proofs.C11Json
namespace Gozod.C11
open Gozod.Jsc Gozod.C07

variable {fx : Fx}

theorem jsonEq_ofPrim (x : Json) (p : Prim) : jsonEq x (.ofPrim p) = x.isPrim p := by
  cases x <;> cases p <;> rfl

theorem jsonEq_str_left (s : Str) (v : Json) : jsonEq (.str s) v = true → v = .str s := by
  cases v <;> simp [jsonEq]
  intro h; exact h.symm

theorem jsonEq_str_right (x : Json) (s : Str) : jsonEq x (.str s) = true → x = .str s := by
  cases x <;> simp [jsonEq]

theorem jsonEq_refl_scalar (v : Json) (h : v.toPrim?.isSome = true) : jsonEq v v = true := by
  cases v <;> simp_all [jsonEq, Json.toPrim?]

/-- objects are compared as key → value maps, arrays in order, numbers by value (1 = 1.0 = `num 4`); a string never
    equals the value its text spells. -/
example : jsonEq (.obj (.cons [97] (.num 4) (.cons [98] (.arr (.cons .null .nil)) .nil)))
                 (.obj (.cons [98] (.arr (.cons .null .nil)) (.cons [97] (.num 4) .nil))) = true := by decide +kernel
example : jsonEq (.arr (.cons (.num 4) (.cons (.num 8) .nil))) (.arr (.cons (.num 8) (.cons (.num 4) .nil))) = false := by
  decide +kernel
example : jsonEq (.str [49]) (.num 4) = false ∧ jsonEq (.num 4) (.str [49]) = false
    ∧ jsonEq (.str [91, 49, 93]) (.arr (.cons (.num 4) .nil)) = false := by decide +kernel

theorem jsonEq_null_left (x : Json) : jsonEq .null x = x.isNull := by cases x <;> rfl
theorem jsonEq_null_right (v : Json) : jsonEq v .null = v.isNull := by cases v <;> rfl

theorem any_jsonEq_comm (vs : List Json) (x : Json) (h : ∀ v ∈ vs, jsonEq v x = jsonEq x v) :
    vs.any (fun v => jsonEq v x) = vs.any (fun v => jsonEq x v) := by
  induction vs with
  | nil => rfl
  | cons v vs ih =>
    simp only [List.forall_mem_cons] at h
    simp only [List.any_cons, h.1, ih h.2]

theorem toPrim_ofPrim (p : Prim) : (Json.ofPrim p).toPrim? = some p := by cases p <;> rfl

theorem ofPrim_of_toPrim (v : Json) (p : Prim) (h : v.toPrim? = some p) : v = .ofPrim p := by
  cases v <;> simp [Json.toPrim?] at h <;> subst h <;> rfl

theorem allStrsJ_ofPrim (ps : List Prim) : allStrsJ (ps.map Json.ofPrim) = allStrs ps := by
  induction ps with
  | nil => rfl
  | cons p ps ih => cases p <;> simp only [List.map_cons, allStrsJ, allStrs, Json.ofPrim, ih]

theorem allStrs_some (ps : List Prim) (strs : List Str) (h : allStrs ps = some strs) : ps = strs.map Prim.str := by
  induction ps generalizing strs with
  | nil => simp [allStrs] at h; subst h; rfl
  | cons p ps ih =>
    cases p <;> simp [allStrs] at h
    obtain ⟨r, hr, rfl⟩ := h
    simp [ih r hr]

theorem allStrsJ_some (vs : List Json) (strs : List Str) (h : allStrsJ vs = some strs) : vs = strs.map Json.str := by
  induction vs generalizing strs with
  | nil => simp [allStrsJ] at h; subst h; rfl
  | cons v vs ih =>
    cases v <;> simp [allStrsJ] at h
    obtain ⟨r, hr, rfl⟩ := h
    simp [ih r hr]

theorem toS_literalSchemaJ_ofPrim (p : Prim) : litOf p = .ok s → (literalSchemaJ (.ofPrim p)).toS? = some s := by
  cases p <;> simp [litOf, literalSchemaJ, Json.ofPrim, LitZ.toS?, Json.toPrim?] <;> intro h <;> exact h

theorem litOf_ok (p : Prim) : ∃ s, litOf p = .ok s := by cases p <;> exact ⟨_, rfl⟩

theorem litsToS_prims : (ps : List Prim) →
    ∃ ss, seqR (ps.map litOf) = .ok ss ∧ litsToS? ((ps.map Json.ofPrim).map literalSchemaJ) = some ss
  | [] => ⟨[], rfl, rfl⟩
  | p :: ps => by
    obtain ⟨ss, h1, h2⟩ := litsToS_prims ps
    obtain ⟨s, hs⟩ := litOf_ok p
    refine ⟨s :: ss, ?_, ?_⟩
    · simp only [List.map_cons, seqR, hs, h1]
    · simp only [List.map_cons, litsToS?, toS_literalSchemaJ_ofPrim p hs, h2]

/-- on primitive members `fromEnumJ` is `fromJS` on the document `{"enum": ps}`: on every tree when no member is null,
    and with null members on the trees without C11-nullable-union (with it `fromJS` wraps the Union in Nilable, which
    `CE` does not model: `parseEnumFx`). -/
theorem fromEnumJ_prims_fx (T : Str → Bool) (st : Bool) (ps : List Prim) (h : ps ≠ [])
    (hfx : fx.nullUnion = false ∨ ps.contains .null = false) :
    ∃ s, (fromEnumJ (ps.map Json.ofPrim)).toS? = some s ∧ fromJS fx T st (.node (.ofList [.enum ps])) = .ok s := by
  obtain ⟨ss, h2, h3⟩ := litsToS_prims ps
  have hn : (fx.nullUnion && ss.any admitsNil) = false := by
    rcases hfx with hfx | hfx
    · rw [hfx]; rfl
    · rw [seqR_lits _ hfx] at h2
      cases h2
      rw [lits_noNil _ hfx, Bool.and_false]
  rw [fromJS_enum T st ps h, h2]
  obtain ⟨v, vs, rfl⟩ := List.exists_cons_of_ne_nil h
  rw [List.map_cons, fromEnumJ, ← List.map_cons, allStrsJ_ofPrim]
  cases allStrs (v :: vs) with
  | some strs => exact ⟨.enum strs, rfl, rfl⟩
  | none => exact ⟨.union (slistOf ss), by rw [CE.toS?, h3]; rfl, congrArg Except.ok (by rw [unionOf, hn]; rfl)⟩

theorem fromEnumJ_prims (T : Str → Bool) (st : Bool) (ps : List Prim) (h : ps ≠ []) (hfx : fx.nullUnion = false) :
    ∃ s, (fromEnumJ (ps.map Json.ofPrim)).toS? = some s ∧ fromJS fx T st (.node (.ofList [.enum ps])) = .ok s :=
  fromEnumJ_prims_fx T st ps h (.inl hfx)

theorem fromConstJ_prim (T : Str → Bool) (st : Bool) (p : Prim) :
    ∃ s, (fromConstJ (.ofPrim p)).toS? = some s ∧ fromJS fx T st (.node (.ofList [.const p])) = .ok s := by
  obtain ⟨s, hs⟩ := litOf_ok p
  exact ⟨s, by simp only [fromConstJ, CE.toS?, toS_literalSchemaJ_ofPrim p hs], by rw [fromJS_const, hs]⟩

theorem enumValidJ_prims (ps : List Prim) (x : Json) :
    enumValidJ (ps.map Json.ofPrim) x = jsValid (.node (.ofList [.enum ps])) x := by
  simp only [enumValidJ, jsValid_node, List.all_cons, List.all_nil, kwValid, List.any_map, Function.comp_def,
    jsonEq_ofPrim, Bool.and_true]

theorem constValidJ_prim (p : Prim) (x : Json) :
    constValidJ (.ofPrim p) x = jsValid (.node (.ofList [.const p])) x := by
  simp only [constValidJ, jsValid_node, List.all_cons, List.all_nil, kwValid, jsonEq_ofPrim, Bool.and_true]

theorem containsBy_single (v x : Json) : containsBy literalEqual [v] x = some (jsonEq v x) := by
  simp only [containsBy, literalEqual_eq]
  cases jsonEq v x <;> rfl

theorem parse_literalSchemaJ (v x : Json) : (literalSchemaJ v).parseBy literalEqual x = some (jsonEq v x) := by
  cases v with
  | null => simp only [literalSchemaJ, LitZ.parseBy, jsonEq_null_left]
  | _ =>
    simp only [literalSchemaJ, LitZ.parseBy, containsBy_single]
    cases hx : x.isNull with
    | false => rfl
    | true => rw [(isNull_iff x).1 hx, jsonEq_null_right]; rfl

theorem unionParse_members (vs : List Json) (x : Json) :
    unionParseBy literalEqual (vs.map literalSchemaJ) x = some (vs.any (fun v => jsonEq v x)) := by
  induction vs with
  | nil => rfl
  | cons v vs ih =>
    simp only [List.map_cons, unionParseBy, parse_literalSchemaJ, List.any_cons]
    cases jsonEq v x <;> simp [ih]

theorem any_jsonEq_strs (strs : List Str) (x : Json) :
    (strs.map Json.str).any (fun v => jsonEq x v) = (match x with | .str s => strs.contains s | _ => false) := by
  cases x with
  | str s => simp only [List.any_map, Function.comp_def, jsonEq, List.contains_eq_any_beq]
  | _ => simp [jsonEq]

/-- `convertEnum`'s schema on every instance: the members are compared by JSON equality, member first (the orientation
    of `literalEqual`) — except that a Union rejects nil before its members are asked. -/
theorem parse_fromEnumJ_total (vs : List Json) (x : Json) (hne : vs ≠ []) :
    (fromEnumJ vs).parse x = some (!(x.isNull && (allStrsJ vs).isNone) && vs.any (fun v => jsonEq v x)) := by
  obtain ⟨v, vs', rfl⟩ := List.exists_cons_of_ne_nil hne
  simp only [fromEnumJ, CE.parse]
  cases hs : allStrsJ (v :: vs') with
  | some strs =>
    rw [allStrsJ_some _ strs hs, any_jsonEq_comm _ x (fun v hv => by
      obtain ⟨s, _, rfl⟩ := List.mem_map.1 hv; exact (jsonEq_symm_scalar x (.str s) rfl).symm), any_jsonEq_strs]
    simp only [CE.parseBy, Option.isNone_some, Bool.and_false, Bool.not_false, Bool.true_and]
    cases x <;> rfl
  | none =>
    cases hx : x.isNull with
    | true => simp [CE.parseBy, hx]
    | false => simpa [CE.parseBy, hx] using unionParse_members (v :: vs') x

/-! `CE.parse` is `convertEnum`'s schema WITHOUT the Nilable wrapper of /repo 8dd0167 (`parseEnumFx` at `nullUnion = false`,
    `parseEnumFx_legacy`).  Every statement of this file about `.parse` is about it; the tree the driver runs is `parseEnumFx cur`
    (`c11_enum`, no class excluded). -/

/-- the one class of const / enum cases `CE.parse` gets wrong: a null instance against an enum that lists null and is not
    all strings — the enum becomes a Union, whose nil path precedes the members (finding nullable-union). -/
def nullCase (vs : List Json) (x : Json) : Bool := x.isNull && vs.any (fun v => v.isNull)

theorem parse_fromEnumJ (vs : List Json) (x : Json) (hne : vs ≠ []) (hn : nullCase vs x = false) :
    (fromEnumJ vs).parse x = some (vs.any (fun v => jsonEq v x)) := by
  rw [parse_fromEnumJ_total vs x hne]
  cases hx : x.isNull with
  | false => rfl
  | true =>
    rw [(isNull_iff x).1 hx] at hn ⊢
    have : vs.any (fun v => v.isNull) = false := hn
    simp only [jsonEq_null_right, this, Bool.and_false]

/-- C11 for enum documents, members and instances of every JSON kind:
    FromJSONSchema returns a schema whose ParseAny does not panic and accepts
    exactly the instances JSON-equal to a member — outside the nullable-union class. -/
theorem c11_enum_partial (vs : List Json) (x : Json) (hne : vs ≠ []) (hn : nullCase vs x = false)
    (hv : ∀ v ∈ vs, uniqKeys v = true) (hx : uniqKeys x = true) :
    (fromEnumJ vs).parse x = some (enumValidJ vs x) := by
  rw [parse_fromEnumJ vs x hne hn, enumValidJ, any_jsonEq_comm vs x (fun v h => jsonEq_symm v x (hv v h) hx)]

example : nullCase [.arr (.cons (.num 4) .nil), .str [91, 49, 93], .null, .obj .nil] (.arr (.cons (.num 4) .nil)) = false := by
  decide +kernel

/-- full strength over all members and instances, for `CE.parse`: FALSE, in the nullable-union class only. -/
def c11_members_full : Prop :=
  ∀ (vs : List Json) (x : Json), vs ≠ [] → (∀ v ∈ vs, uniqKeys v = true) → uniqKeys x = true →
    (fromEnumJ vs).parse x = some (enumValidJ vs x)

/-- in the excluded class the produced schema always rejects, although the instance is valid. -/
theorem c11_enum_null_rejected (vs : List Json) (h : nullCase vs .null = true) (hs : (allStrsJ vs).isNone = true) :
    (fromEnumJ vs).parse .null = some false ∧ enumValidJ vs .null = true := by
  have hne : vs ≠ [] := by rintro rfl; exact absurd h (by decide)
  refine ⟨by rw [parse_fromEnumJ_total vs .null hne, hs]; rfl, ?_⟩
  simpa only [enumValidJ, jsonEq_null_left, nullCase, Json.isNull, Bool.true_and] using h

theorem allStrsJ_none_of_null (vs : List Json) (h : vs.any (fun v => v.isNull) = true) : (allStrsJ vs).isNone = true := by
  induction vs with
  | nil => simp at h
  | cons v vs ih =>
    cases v with
    | str s =>
      have := ih (by simpa [Json.isNull] using h)
      cases hs : allStrsJ vs with
      | none => simp [allStrsJ, hs]
      | some r => simp [hs] at this
    | _ => simp [allStrsJ]

theorem witness_null_member :
    (fromEnumJ [.null, .num 4]).parse .null = some false ∧ enumValidJ [.null, .num 4] .null = true
    ∧ (fromEnumJ [.null]).parse .null = some false ∧ enumValidJ [.null] .null = true := by decide +kernel

theorem c11_members_full_false : ¬ c11_members_full := by
  intro h
  have := h [.null, .num 4] .null (by simp) (by decide) (by decide)
  rw [witness_null_member.1, witness_null_member.2.1] at this
  exact absurd this (by decide)

theorem parseEnumFx_fixed (hfx : fx.nullUnion = true) (vs : List Json) (x : Json) (hne : vs ≠ []) :
    parseEnumFx fx vs x = some (vs.any (fun v => jsonEq v x)) := by
  rw [parseEnumFx, parse_fromEnumJ_total vs x hne, enumNilable, hfx]
  cases hx : x.isNull with
  | false => simp
  | true =>
    rw [(isNull_iff x).1 hx]
    simp only [jsonEq_null_right]
    cases hn : vs.any (fun v => v.isNull) with
    | false => simp
    | true => simp [allStrsJ_none_of_null vs hn]

theorem c11_enum_fixed (hfx : fx.nullUnion = true) (vs : List Json) (x : Json) (hne : vs ≠ [])
    (hv : ∀ v ∈ vs, uniqKeys v = true) (hx : uniqKeys x = true) :
    parseEnumFx fx vs x = some (enumValidJ vs x) := by
  rw [parseEnumFx_fixed hfx vs x hne, enumValidJ, any_jsonEq_comm vs x (fun v h => jsonEq_symm v x (hv v h) hx)]

/-- C11 for enum documents on the tree the driver runs, FULL strength (/repo 8dd0167: `cur.nullUnion = true`):
    members and instances of every JSON kind, null included — no `nullCase` hypothesis. -/
theorem c11_enum (vs : List Json) (x : Json) (hne : vs ≠ []) (hv : ∀ v ∈ vs, uniqKeys v = true) (hx : uniqKeys x = true) :
    parseEnumFx cur vs x = some (enumValidJ vs x) :=
  c11_enum_fixed (fx := cur) rfl vs x hne hv hx

example : parseEnumFx cur [.null, .num 4, .arr (.cons .null .nil)] .null = some true := by decide +kernel

theorem parseEnumFx_legacy (hfx : fx.nullUnion = false) (vs : List Json) (x : Json) :
    parseEnumFx fx vs x = (fromEnumJ vs).parse x := by
  simp [parseEnumFx, enumNilable, hfx]

example : parseEnumFx { cur with nullUnion := true } [.null, .num 4] .null = some true
    ∧ parseEnumFx { cur with nullUnion := false } [.null, .num 4] .null = some false := by decide +kernel

/-- every member of an enum document is accepted — no other member shadows it (what seeded/C11b breaks); for `CE.parse` a null
    member is the exception (nullable-union). -/
theorem c11_enum_members_accepted (vs : List Json) (m : Json) (hm : m ∈ vs) (hnn : m.isNull = false)
    (hu : uniqKeys m = true) : (fromEnumJ vs).parse m = some true := by
  rw [parse_fromEnumJ vs m (List.ne_nil_of_mem hm) (by simp [nullCase, hnn])]
  exact congrArg some (List.any_eq_true.2 ⟨m, hm, jsonEq_refl m hu⟩)

/-- C11 for const documents at full strength: any value (null, scalar, array, object), any instance. -/
theorem c11_const (v x : Json) (hv : uniqKeys v = true) (hx : uniqKeys x = true) :
    (fromConstJ v).parse x = some (constValidJ v x) := by
  rw [constValidJ, ← jsonEq_symm v x hv hx]
  exact parse_literalSchemaJ v x

def scalarCase (vs : List Json) (x : Json) : Bool :=
  !vs.isEmpty && x.toPrim?.isSome && !nullCase vs x

theorem c11_enum_scalar_instance (vs : List Json) (x : Json) (h : scalarCase vs x = true) :
    (fromEnumJ vs).parse x = some (enumValidJ vs x) := by
  simp only [scalarCase, Bool.and_eq_true, Bool.not_eq_true', List.isEmpty_eq_false_iff] at h
  rw [parse_fromEnumJ vs x h.1.1 h.2, enumValidJ, any_jsonEq_comm vs x (fun v _ => jsonEq_symm_scalar v x h.1.2)]

example : scalarCase [.arr (.cons (.num 4) .nil), .str [91, 49, 93], .null, .obj .nil] (.str [91, 49, 93]) = true := by
  decide +kernel

theorem accepts_lit_prim (p : Prim) (x : Json) : accepts (.lit [p]) x = jsonEq (.ofPrim p) x := by
  rw [← jsonEq_symm_scalar x (.ofPrim p) (by rw [toPrim_ofPrim]; rfl), jsonEq_ofPrim]
  simp only [accepts, List.any_cons, List.any_nil, Bool.or_false]

theorem literalSchemaJ_of_notNull (v : Json) (h : v.isNull = false) : literalSchemaJ v = .lit v := by
  cases v with
  | null => exact absurd h (by decide)
  | _ => rfl

theorem parse_toS_lit (l : LitZ) (s : S) (x : Json) (h : l.toS? = some s) (hl : ∀ v, l = .lit v → v.isNull = false) :
    l.parseBy literalEqual x = some (acceptsDecoded s x) := by
  cases l with
  | nil => cases h; rfl
  | lit v =>
    simp only [LitZ.toS?, Option.map_eq_some_iff] at h
    obtain ⟨p, hp, rfl⟩ := h
    rw [← literalSchemaJ_of_notNull v (hl v rfl), parse_literalSchemaJ, ofPrim_of_toPrim v p hp]
    simp only [acceptsDecoded, plainify, accepts_lit_prim]

theorem literalSchemaJ_lit (v w : Json) (h : literalSchemaJ v = .lit w) : w.isNull = false := by
  cases v <;> simp [literalSchemaJ] at h <;> subst h <;> rfl

theorem unionParse_toS (x : Json) : (ls : List LitZ) → (ss : List S) → litsToS? ls = some ss →
    (∀ l ∈ ls, ∀ v, l = .lit v → v.isNull = false) →
    unionParseBy literalEqual ls x = some (anyAccepts (plainifyL (slistOf ss)) x)
  | [], ss, h, _ => by simp [litsToS?] at h; subst h; rfl
  | l :: ls, ss, h, hl => by
    simp only [litsToS?] at h
    cases h1 : l.toS? with
    | none => simp [h1] at h
    | some s =>
      cases h2 : litsToS? ls with
      | none => simp [h1, h2] at h
      | some ss' =>
        simp [h1, h2] at h
        subst h
        have ih := unionParse_toS x ls ss' h2 (fun l' hl' => hl l' (by simp [hl']))
        have hp := parse_toS_lit l s x h1 (hl l (by simp))
        simp only [unionParseBy, hp, ih, slistOf, plainifyL, anyAccepts, acceptsDecoded]
        cases accepts (plainify s) x <;> simp

/-- the two views agree wherever both exist (all members scalars): the verdict `CE.parse` computes for an enum document
    is the verdict of C07's schema model on the `S` term `fromJS` returns for it. -/
theorem parse_toS_enum (vs : List Json) (s : S) (x : Json) (h : (fromEnumJ vs).toS? = some s) :
    (fromEnumJ vs).parse x = some (acceptsDecoded s x) := by
  cases vs with
  | nil => simp [fromEnumJ, CE.toS?] at h; subst h; simp [fromEnumJ, CE.parse, CE.parseBy, acceptsDecoded, plainify, accepts]
  | cons v vs' =>
    simp only [fromEnumJ, CE.parse] at h ⊢
    cases hs : allStrsJ (v :: vs') with
    | some strs =>
      simp only [hs, CE.toS?, Option.some.injEq] at h
      subst h
      cases x <;> simp [CE.parseBy, acceptsDecoded, plainify, accepts]
    | none =>
      simp only [hs, CE.toS?, Option.map_eq_some_iff] at h
      obtain ⟨ss, hss, rfl⟩ := h
      have := unionParse_toS x _ ss hss (by
        intro l hl w hw
        obtain ⟨u, _, hu⟩ := List.mem_map.1 hl
        exact literalSchemaJ_lit u w (hu.trans hw))
      simp only [CE.parseBy, this, acceptsDecoded, plainify, accepts]
      cases x.isNull <;> simp

theorem parse_toS_const (v : Json) (s : S) (x : Json) (h : (fromConstJ v).toS? = some s) :
    (fromConstJ v).parse x = some (acceptsDecoded s x) := by
  simp only [fromConstJ, CE.toS?] at h
  exact parse_toS_lit _ s x h (fun w hw => literalSchemaJ_lit v w hw)

/-- `legacyParse`, the code before e48d4b1 (`Contains` compared with `==`), panicked on an instance of the same composite kind as a member, valid instances included. -/
theorem legacy_composite_member_panics :
    (fromEnumJ [.arr (.cons (.num 4) .nil), .str [120]]).legacyParse (.arr (.cons (.num 4) .nil)) = none
    ∧ (fromEnumJ [.arr (.cons (.num 4) .nil), .str [120]]).legacyParse (.arr .nil) = none
    ∧ (fromEnumJ [.arr (.cons (.num 4) .nil), .str [120]]).legacyParse (.str [120]) = some true
    ∧ (fromConstJ (.obj (.cons [97] (.num 4) .nil))).legacyParse (.obj (.cons [97] (.num 4) .nil)) = none
    ∧ (fromEnumJ [.arr (.cons (.num 4) .nil), .str [120]]).parse (.arr (.cons (.num 4) .nil)) = some true
    ∧ (fromEnumJ [.arr (.cons (.num 4) .nil), .str [120]]).parse (.arr .nil) = some false
    ∧ (fromConstJ (.obj (.cons [97] (.num 4) .nil))).parse (.obj (.cons [97] (.num 4) .nil)) = some true := by
  decide +kernel

/-- `Contains` compares with `literalEqual` (since /repo e48d4b1): a const / enum schema never panics. -/
theorem c11_members_no_panic (vs : List Json) (x : Json) : ∃ b, (fromEnumJ vs).parse x = some b := by
  cases vs with
  | nil => exact ⟨true, rfl⟩
  | cons v vs' => exact ⟨_, parse_fromEnumJ_total (v :: vs') x (List.cons_ne_nil v vs')⟩

theorem litTypeOK_of_eq (v x : Json) (h : jsonEq x v = true) : litTypeOK v x = true := by
  cases v <;> cases x <;> simp_all [jsonEq, litTypeOK]

theorem rtLitValid_nonarray (v x : Json) (hv : v.isArr = false) : rtLitValid v x = jsonEq x v := by
  have key : (litTypeOK v x && (jsonEq x v || false)) = jsonEq x v := by
    cases h : jsonEq x v with
    | true => simp [litTypeOK_of_eq v x h]
    | false => simp
  cases v <;> simp [Json.isArr] at hv <;> simpa [rtLitValid] using key

theorem rtValid_literalSchemaJ (v x : Json) (hv : v.isArr = false) : (literalSchemaJ v).rtValid x = jsonEq x v := by
  cases v with
  | null => simp only [literalSchemaJ, LitZ.rtValid, jsonEq_null_right]
  | arr xs => simp [Json.isArr] at hv
  | _ => simp only [literalSchemaJ, LitZ.rtValid]; exact rtLitValid_nonarray _ x hv

/-- round trip for enum documents without an array member (scalars, null, objects, any mixture): ToJSONSchema of the
    produced schema validates exactly the instances of the original — the null member included, which Parse gets wrong. -/
theorem c11_roundtrip_enum (vs : List Json) (x : Json) (hne : vs ≠ []) (hv : vs.any (fun v => v.isArr) = false) :
    (fromEnumJ vs).rtValid x = enumValidJ vs x := by
  obtain ⟨v, vs', rfl⟩ := List.exists_cons_of_ne_nil hne
  simp only [fromEnumJ]
  cases hs : allStrsJ (v :: vs') with
  | some strs =>
    simp only [CE.rtValid, enumValidJ]
    rw [allStrsJ_some _ strs hs, any_jsonEq_strs]
    cases x <;> rfl
  | none =>
    simp only [CE.rtValid, enumValidJ, List.any_map]
    generalize v :: vs' = l at hv
    induction l with
    | nil => rfl
    | cons w l ih =>
      simp only [List.any_cons, Bool.or_eq_false_iff] at hv
      simp only [List.any_cons, Function.comp, rtValid_literalSchemaJ w x hv.1, ← ih hv.2]

theorem c11_roundtrip_const (v x : Json) (hv : v.isArr = false) : (fromConstJ v).rtValid x = constValidJ v x := by
  simp only [fromConstJ, CE.rtValid, constValidJ, rtValid_literalSchemaJ v x hv]

example : [Json.obj (.cons [97] (.num 4) .nil), .null, .str [120], .num 6].any (fun v => v.isArr) = false := by decide +kernel

/-- full strength: FALSE — an array member is flattened by to.go's `convertLiteral` (finding array-literal-flattened). -/
def c11_roundtrip_members_full : Prop := ∀ (v x : Json), (fromConstJ v).rtValid x = constValidJ v x

/-- `{const:[1]}` accepts `[1]` (since e48d4b1) but comes back as `{const:1,type:number}`, which rejects `[1]` and
    accepts `1`; `{const:[1,"a"]}` comes back as `{enum:[1,"a"],type:number}`; `{const:[]}` as `{}`. -/
theorem witness_roundtrip_array_const :
    (fromConstJ (.arr (.cons (.num 4) .nil))).parse (.arr (.cons (.num 4) .nil)) = some true
    ∧ constValidJ (.arr (.cons (.num 4) .nil)) (.arr (.cons (.num 4) .nil)) = true
    ∧ (fromConstJ (.arr (.cons (.num 4) .nil))).rtValid (.arr (.cons (.num 4) .nil)) = false
    ∧ (fromConstJ (.arr (.cons (.num 4) .nil))).rtValid (.num 4) = true
    ∧ constValidJ (.arr (.cons (.num 4) .nil)) (.num 4) = false
    ∧ (fromConstJ (.arr (.cons (.num 4) (.cons (.str [97]) .nil)))).rtValid (.str [97]) = false
    ∧ (fromConstJ (.arr .nil)).rtValid (.str [120]) = true := by decide +kernel

theorem c11_roundtrip_members_full_false : ¬ c11_roundtrip_members_full := by
  intro h
  have := h (.arr (.cons (.num 4) .nil)) (.num 4)
  rw [witness_roundtrip_array_const.2.2.2.1, witness_roundtrip_array_const.2.2.2.2.1] at this
  exact absurd this (by decide)

end Gozod.C11
