/-
  C14 — schema operations over the REGENERATED tables of C08 and C12.

  `c14_schema_ops_read_only` (C14.lean) is about the three hand-written operation classes of the store model.  Here the
  same statement is made about what the translators of C08 and C12 extract from the library's working tree on every run:

    * `Gen.C14M.methodOps` (C08's translator harness/opsgen, run by ./check C14 into C14's own copy of the table, so that
      C08 runs about other trees cannot swap it): one row per exported method of a schema type whose result can be a schema;
    * `Gen.ConvAccess` (harness/cmd/c12, C12): the write sites of the converter.
  `c14_schema_ops_table` puts them together: a schema operation's write set is fresh or under a lock.
-/
import Gozod.Proofs.C14
import Gozod.Proofs.C08Rows
import Gozod.Proofs.C12Access
import Gozod.Gen.C14MethodOps

namespace Gozod.C14
open Gozod.Store Gozod.StoreC08 Gozod.LockSet

/-- the shared location (C14 lock-set table) a receiver-rooted cache fill (C08 method table: declaring type, path)
    writes.  A cache fill that is not listed here falsifies `c14_chain_table_recv_writes`. -/
def memoLocs : List (String × String × String) :=
  [("ZodLazy", "internals.innerType", "types.ZodLazyInternals.innerType")]

def memoLocOf (owner path : String) : Option String :=
  (memoLocs.find? (fun e => e.1 == owner && e.2.1 == path)).map (·.2.2)

/-- the lock-set table has writes of the location, each synchronised (inside once.Do, an atomic store, or under a
    mutex in W mode) -/
def writesSynchronised (t : List Access) (loc : String) : Bool :=
  let ws := t.filter (fun a => a.loc == loc && a.write)
  !ws.isEmpty && ws.all (fun a => match a.sync with | .none => false | .mutexR _ => false | _ => true)

def recvWritesOK (t : List Access) (r : MethodRow) : Bool :=
  r.recvWrites.all (fun w => match w with
    | .onceMemo p => (match memoLocOf r.owner p with | some loc => writesSynchronised t loc | none => false)
    | .write _ => false)

def rowOK (t : List Access) (r : MethodRow) : Bool :=
  (r.cls == .covered || r.cls == .memo) && recvWritesOK t r && !r.regRecv

/-- `Gen.C14M.methodOps` is a left-nested `++` of chunks: evaluated as it stands, every row is reached through up to
    forty appends.  `List.all_append` (likewise `length_append`, `filter_append`) first splits the question into one
    per chunk, and the kernel then walks each chunk once. -/
theorem methodOps_rowOK : Gozod.Gen.C14M.methodOps.all (rowOK Gozod.Gen.LockSets.table) = true := by
  delta Gozod.Gen.C14M.methodOps
  simp only [List.all_append]
  decide +kernel

theorem methodOps_all_of_rowOK {p : MethodRow → Bool}
    (h : ∀ r, rowOK Gozod.Gen.LockSets.table r = true → p r = true) : Gozod.Gen.C14M.methodOps.all p = true :=
  List.all_eq_true.2 fun r hr => h r (List.all_eq_true.1 methodOps_rowOK r hr)

theorem rowOK_iff (t : List Access) (r : MethodRow) : rowOK t r = true ↔
    ((r.cls == .covered || r.cls == .memo) = true ∧ recvWritesOK t r = true) ∧ (!r.regRecv) = true := by
  simp only [rowOK, Bool.and_eq_true]

/-- every row of the method table regenerated by THIS run (C14's own copy, `Gen/C14MethodOps.lean`) is of a class the
    C08 frame theorem covers — nothing rooted at the receiver is written except Once cache fills, no untracked construct,
    no uncovered route.  (The same statement as C08.table_all_covered, about this table.) -/
theorem c14_method_table_covered :
    Gozod.Gen.C14M.methodOps.all (fun r => r.cls == .covered || r.cls == .memo) = true :=
  methodOps_all_of_rowOK fun r h => ((rowOK_iff _ r).1 h).1.1

theorem methodOps_row_cls (r : MethodRow) (hr : r ∈ Gozod.Gen.C14M.methodOps) : r.cls = .covered ∨ r.cls = .memo := by
  have h := List.all_eq_true.mp c14_method_table_covered r hr
  simp only [Bool.or_eq_true, beq_iff_eq] at h
  exact h

/-- whatever method of the regenerated table a goroutine calls on a shared schema — any row, any of its syntactically
    possible results, any run-time parameters — its writes all go to locations ≥ σ.next, which it allocated itself (and
    which no other goroutine can reach before the call returns). -/
theorem c14_chain_table_fresh (cfg : Cfg) (hcfg : cfg.cloneBagAlways = true) (σ : Store) (recv : Schema)
    (r : MethodRow) (hr : r ∈ Gozod.Gen.C14M.methodOps) (x : MethodResult) (hx : x ∈ r.results) (p : Params)
    (hc : BagClosed σ) (hw : WfS σ recv) :
    ExtFrom σ.next σ (applyXOp cfg σ recv (x.denote false p)).1 :=
  (C08.applyXOp_spec cfg hcfg σ recv _ hc hw
    (C08.denote_ok x (C08.covered_results r (methodOps_row_cls r hr) x hx) p)).1

/-- the hypotheses are inhabited, and the table is the whole method surface -/
example : (Gozod.Gen.C14M.methodOps.any (fun r => !r.results.isEmpty)) = true ∧ 1000 ≤ Gozod.Gen.C14M.methodOps.length := by
  refine ⟨by decide +kernel, ?_⟩
  delta Gozod.Gen.C14M.methodOps
  simp only [List.length_append]
  decide +kernel

/-- over the WHOLE regenerated method table, the only writes rooted at the receiver are sync.Once cache fills, each a location
    of the regenerated lock-set table all of whose writes are synchronised.  (Today no row has one: `memoLocs` and the
    `.onceMemo` arm are exercised by the example below only.) -/
theorem c14_chain_table_recv_writes :
    Gozod.Gen.C14M.methodOps.all (recvWritesOK Gozod.Gen.LockSets.table) = true :=
  methodOps_all_of_rowOK fun r h => ((rowOK_iff _ r).1 h).1.2

/-- non-vacuity: the rows `ZodLazy.Unwrap` / `Coerce` had before /repo 63e6816 (the cache fill was an assignment inside
    once.Do; since then it is an atomic Store, which C08's translator does not list) pass because the lock-set table
    has the location with synchronised writes; a row writing its receiver anywhere else fails -/
example : recvWritesOK Gozod.Gen.LockSets.table
    ⟨"ZodLazy", "Unwrap", "ZodLazy", [⟨.access, 0, false, false, false, "", []⟩], [.onceMemo "internals.innerType"], false, false, [], []⟩ = true ∧
  recvWritesOK Gozod.Gen.LockSets.table
    ⟨"ZodBool", "Nilable", "ZodBool", [⟨.clone, 0, false, false, false, "", []⟩], [.write "SetNilable() on the receiver's internals"], false, false, [], []⟩ = false ∧
  recvWritesOK Gozod.Gen.LockSets.table
    ⟨"ZodX", "M", "ZodX", [⟨.access, 0, false, false, false, "", []⟩], [.onceMemo "internals.other"], false, false, [], []⟩ = false := by decide +kernel

/-- the registry map is written only inside `core.mu` held in W mode, and every access to it holds that mutex — what
    `Describe` / `Meta` (rows with `regResult`) add for their RESULT is under the lock. -/
theorem c14_registry_writes_locked :
    writesSynchronised Gozod.Gen.LockSets.table "core.Registry.meta" = true ∧
    (only "core.Registry.meta" Gozod.Gen.LockSets.table).all (fun a => mutexOf a.sync == some "core.mu" && wellLocked a) = true ∧
    Gozod.Gen.C14M.methodOps.all (fun r => !r.regRecv) = true :=
  ⟨by decide +kernel, by decide +kernel, methodOps_all_of_rowOK fun r h => ((rowOK_iff _ r).1 h).2⟩

/-- non-vacuity: rows that register their result exist -/
example : (Gozod.Gen.C14M.methodOps.filter (·.regResult)).length ≥ 10 := by
  delta Gozod.Gen.C14M.methodOps
  simp only [List.filter_append, List.length_append]
  decide +kernel

/-- over the tables regenerated from jsonschema/to.go — every write through a reference writes memory the conversion
    made itself; what an aliasing accessor handed out is only read; every value stored into the document is private;
    no mutating method is called on schema data. -/
theorem c14_convert_table_private :
    (∀ w ∈ Gozod.Gen.ConvAccess.writeSites, C12Access.Origin.isPrivate w.origin = true) ∧
    (∀ a ∈ Gozod.Gen.ConvAccess.accessorAlias, a.alias = true →
        ∀ w ∈ Gozod.Gen.ConvAccess.writeSites, C12Access.writesTo a.method w = false) ∧
    (∀ d ∈ Gozod.Gen.ConvAccess.docStores, C12Access.VOrigin.isPrivate d.origin = true) ∧
    Gozod.Gen.ConvAccess.mutatorCalls = [] :=
  ⟨C12Access.c12_writes_private, C12Access.c12_aliasing_accessors_read_only, C12Access.c12_doc_stores_private,
   C12Access.c12_no_mutator_calls⟩

inductive TOp
  | method (r : MethodRow) (x : MethodResult) (p : Params)   -- a row of `Gen.C14M.methodOps`, one of its results
  | conv                                                      -- ToJSONSchema
  | parseNil                                                  -- Parse(nil) resolving a default

def TOp.ok : TOp → Prop
  | .method r x _ => r ∈ Gozod.Gen.C14M.methodOps ∧ x ∈ r.results
  | _ => True

def runT (cfg : Cfg) (σ : Store) (s : Schema) : TOp → Store
  | .method _ x p => (applyXOp cfg σ s (x.denote false p)).1
  | .conv => (convert cfg σ s).1
  | .parseNil => (Store.parseNil cfg σ s).1

/-- every schema operation — ANY method of the regenerated method table, conversion, default-resolving Parse — leaves
    every pre-existing store location untouched (its writes are fresh); the writes the store does not model are the
    Once cache fills and the registry insertions of the tables, which are synchronised locations of the regenerated
    lock-set table.  A method that starts writing its receiver, a converter write site that stops being private, or an
    unsynchronised cache breaks this theorem — the converter only through the last conjunct: the first one, for
    `.conv`, is about `Store.convert`, pure by its definition under `convScratch`; the table facts are conjoined to
    it, not used for it. -/
theorem c14_schema_ops_table (cfg : Cfg) (h1 : cfg.cloneBagAlways = true) (h2 : cfg.convScratch = true)
    (h3 : cfg.deepDefault = true) (σ : Store) (s : Schema) (o : TOp) (ho : o.ok)
    (hc : BagClosed σ) (hw : WfS σ s) (hd : C15.WfD σ.next σ.heap s) :
    ExtFrom σ.next σ (runT cfg σ s o) ∧
    Gozod.Gen.C14M.methodOps.all (recvWritesOK Gozod.Gen.LockSets.table) = true ∧
    writesSynchronised Gozod.Gen.LockSets.table "core.Registry.meta" = true ∧
    (∀ w ∈ Gozod.Gen.ConvAccess.writeSites, C12Access.Origin.isPrivate w.origin = true) := by
  refine ⟨?_, c14_chain_table_recv_writes, c14_registry_writes_locked.1, c14_convert_table_private.1⟩
  cases o with
  | method r x p => exact c14_chain_table_fresh cfg h1 σ s r ho.1 x ho.2 p hc hw
  | conv => exact c14_schema_ops_read_only cfg h1 h2 h3 σ s .conv hc hw hd trivial
  | parseNil => exact c14_schema_ops_read_only cfg h1 h2 h3 σ s .parseNil hc hw hd trivial

end Gozod.C14
