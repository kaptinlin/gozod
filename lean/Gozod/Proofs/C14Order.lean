/-
  C14 — deadlock freedom of the library's own locking, over the regenerated lock-order table.

  General part (any table, any rank): threads that keep the lock discipline `wr` (a lock is only acquired while
  every lock held ranks strictly below it; nothing held at the end) never reach a state in which unfinished
  threads exist and none can move (`no_deadlock`).
  Table part (`Gozod.Gen.LockOrder.table`, regenerated from every non-test file of the library): every locking
  function keeps the discipline, for the rank computed from the table's own acquired-while-holding relation
  (`lockorder_disciplined`: callbacks that take no library lock; `lockorder_disciplined_callbacks_partial`: callbacks
  that take no Once).  Since /repo 1703379 no code the library does not control runs under a mutex; `once.Do` is
  counted as a lock, and a getter re-entering it is out of scope (`getter_reenter_undisciplined`).
  Witness about the legacy `Registry.Range` (callback under the read lock): `range_reenter_stuck`.
-/
import Gozod.Model.LockOrder
import Gozod.Gen.LockOrder

namespace Gozod.C14
open Gozod.LockOrder

theorem exists_max {α : Type} (f : α → Nat) : ∀ (l : List α), l ≠ [] → ∃ a ∈ l, ∀ b ∈ l, f b ≤ f a
  | [], h => absurd rfl h
  | [a], _ => ⟨a, List.mem_cons_self, fun b hb => by rw [List.mem_singleton.1 hb]; exact Nat.le_refl _⟩
  | a :: b :: r, _ => by
    obtain ⟨m, hm, hmax⟩ := exists_max f (b :: r) (List.cons_ne_nil _ _)
    rcases Nat.le_total (f m) (f a) with hc | hc
    · exact ⟨a, List.mem_cons_self,
        List.forall_mem_cons.2 ⟨Nat.le_refl _, fun x hx => Nat.le_trans (hmax x hx) hc⟩⟩
    · exact ⟨m, List.mem_cons_of_mem _ hm, List.forall_mem_cons.2 ⟨hc, hmax⟩⟩

/-- the lock a thread is waiting for (0 when it is not about to acquire) -/
def wants (t : Thread) : Nat :=
  match t.rest with
  | .acq n :: _ => n
  | _ => 0

theorem held_lt_wants (t : Thread) (h : wr t.held t.rest = true) (hrel : ∀ n r, t.rest ≠ .rel n :: r) :
    ∀ m ∈ t.held, t.rest ≠ [] ∧ m < wants t := by
  intro m hm
  unfold wants
  cases hr : t.rest with
  | nil =>
    rw [hr, wr, List.isEmpty_iff] at h
    rw [h] at hm
    cases hm
  | cons e r =>
    cases e with
    | rel n => exact absurd hr (hrel n r)
    | acq n =>
      rw [hr, wr, Bool.and_eq_true, List.all_eq_true] at h
      exact ⟨List.cons_ne_nil _ _, of_decide_eq_true (h.1 m hm)⟩

/-- if every thread keeps the discipline and some thread is not finished, some thread can move. -/
theorem progress (ts : List Thread) (h : ∀ t ∈ ts, wr t.held t.rest = true)
    (hu : ∃ t ∈ ts, t.rest ≠ []) : ∃ t ∈ ts, enabled ts t = true := by
  by_cases hrel : ∃ t ∈ ts, ∃ n r, t.rest = .rel n :: r
  · obtain ⟨t, ht, n, r, hr⟩ := hrel
    exact ⟨t, ht, by rw [enabled, hr]⟩
  · -- every unfinished thread is about to acquire; the one that wants the highest lock can: whoever held that lock
    -- would be waiting for a higher one
    have hrel' : ∀ t ∈ ts, ∀ n r, t.rest ≠ .rel n :: r := fun t ht n r hr => hrel ⟨t, ht, n, r, hr⟩
    have hunf : ∀ t, t ∈ ts.filter (fun t => !t.rest.isEmpty) ↔ t ∈ ts ∧ t.rest ≠ [] := by
      simp only [List.mem_filter, Bool.not_eq_true', List.isEmpty_eq_false_iff, implies_true]
    obtain ⟨t, htm, hmax⟩ := exists_max wants (ts.filter (fun t => !t.rest.isEmpty)) (by
      obtain ⟨t, ht⟩ := hu
      exact List.ne_nil_of_mem ((hunf t).2 ht))
    obtain ⟨ht, htr⟩ := (hunf t).1 htm
    refine ⟨t, ht, ?_⟩
    cases hrest : t.rest with
    | nil => exact absurd hrest htr
    | cons e r =>
      cases e with
      | rel n => exact absurd hrest (hrel' t ht n r)
      | acq n =>
        simp only [enabled, hrest, List.all_eq_true, Bool.not_eq_true', List.contains_eq_mem, decide_eq_false_iff_not]
        intro u hu' hmem
        obtain ⟨hur, hlt⟩ := held_lt_wants u (h u hu') (hrel' u hu') n hmem
        have := hmax u ((hunf u).2 ⟨hu', hur⟩)
        simp only [wants, hrest] at this hlt
        omega

theorem wr_step (t : Thread) (h : wr t.held t.rest = true) : wr (stepT t).held (stepT t).rest = true := by
  unfold stepT
  cases hr : t.rest with
  | nil => simpa [hr] using h
  | cons e r =>
    cases e with
    | rel n => rw [hr] at h; simpa [wr] using h
    | acq n =>
      rw [hr] at h
      simp only [wr, Bool.and_eq_true] at h
      exact h.2

inductive Step : List Thread → List Thread → Prop
  | mk (pre : List Thread) (t : Thread) (post : List Thread) :
      enabled (pre ++ t :: post) t = true → Step (pre ++ t :: post) (pre ++ stepT t :: post)

inductive Reach : List Thread → List Thread → Prop
  | refl (ts) : Reach ts ts
  | step {a b c} : Reach a b → Step b c → Reach a c

theorem forall_mem_replace {α : Type} {P : α → Prop} {pre post : List α} {t t' : α}
    (h : ∀ u ∈ pre ++ t :: post, P u) (ht : P t → P t') : ∀ u ∈ pre ++ t' :: post, P u := by
  simp only [List.forall_mem_append, List.forall_mem_cons] at h ⊢
  exact ⟨h.1, ht h.2.1, h.2.2⟩

theorem reach_wr {a b : List Thread} (hr : Reach a b) (h : ∀ t ∈ a, wr t.held t.rest = true) :
    ∀ t ∈ b, wr t.held t.rest = true := by
  induction hr with
  | refl => exact h
  | step _ hs ih =>
    cases hs with
    | mk pre t post _ => exact forall_mem_replace ih (wr_step t)

/-- from threads that hold nothing and run disciplined programs, every reachable state in which some thread is
    unfinished has a thread that can move. -/
theorem no_deadlock (progs : List (List PEv)) (h : ∀ p ∈ progs, wr [] p = true)
    (ts : List Thread) (hr : Reach (progs.map (fun p => ⟨[], p⟩)) ts) (hu : ∃ t ∈ ts, t.rest ≠ []) :
    ∃ t ∈ ts, enabled ts t = true := by
  refine progress ts (reach_wr hr ?_) hu
  intro t ht
  obtain ⟨p, hp, rfl⟩ := List.mem_map.1 ht
  exact h p hp

theorem wr_append : ∀ (a : List PEv) (held : List Nat) (b : List PEv),
    wr held a = true → wr [] b = true → wr held (a ++ b) = true
  | [], held, b, ha, hb => by
    simp only [wr, List.isEmpty_iff] at ha
    subst ha
    simpa using hb
  | .acq n :: r, held, b, ha, hb => by
    simp only [wr, Bool.and_eq_true, List.cons_append] at ha ⊢
    exact ⟨ha.1, wr_append r _ b ha.2 hb⟩
  | .rel n :: r, held, b, ha, hb => by
    simp only [wr, List.cons_append] at ha ⊢
    exact wr_append r _ b ha hb

theorem wr_segments (segs : List (List PEv)) (h : ∀ s ∈ segs, wr [] s = true) : wr [] segs.flatten = true := by
  induction segs with
  | nil => rfl
  | cons s r ih =>
    simp only [List.flatten_cons]
    exact wr_append s [] _ (h s (by simp)) (ih (fun x hx => h x (List.mem_cons_of_mem _ hx)))

theorem disciplined_wr (tbl : List Fn) (cbBody : List Ev) (h : disciplined tbl cbBody = true) (f : Fn) (hf : f ∈ tbl) :
    ∃ p, flatten tbl (order tbl) cbBody (fuelFor tbl) 0 f.evs = some p ∧ wr [] p = true := by
  simp only [disciplined, List.all_eq_true] at h
  have := h f hf
  cases hfl : flatten tbl (order tbl) cbBody (fuelFor tbl) 0 f.evs with
  | none => simp [hfl] at this
  | some p => exact ⟨p, rfl, by simpa [hfl] using this⟩

/-- every locking function of the library, with the functions it calls while holding a lock inlined, acquires locks
    in strictly increasing rank and releases what it took — provided callbacks (`Registry.Range`'s `f`) take no
    library lock. -/
theorem lockorder_disciplined : disciplined Gen.LockOrder.table [] = true := by decide +kernel

/-- the table is not empty and names at least the registry mutex and both regex-cache mutexes -/
example : (mutexes Gen.LockOrder.table).length ≥ 3 ∧ Gen.LockOrder.table.length ≥ 7 := by decide +kernel

/-- no lock is ever acquired while another (or the same) lock is held -/
theorem lockorder_no_nesting : edges Gen.LockOrder.table = [] := by decide +kernel

/-- the sync.Once objects of the table (their `Do` is a lock held for the length of the function it runs) -/
def onceLocks : List String := ["types.ZodLazyInternals.once"]

/-- the places where the library runs code it does not control while holding a lock: only the lazy schema's getter,
    which `resolveInner` runs inside `once.Do` (the Once counted as a lock). -/
theorem cb_under_lock_sites : cbUnderLock Gen.LockOrder.table = [("types.ZodLazy.resolveInner", "Getter")] := by decide +kernel

/-- the full statement: whatever a callback does — every locking function of the library in turn — the discipline holds.
    False for the callback `[.call "types.ZodLazy.resolveInner"]` (`#eval`), but not refuted here: evaluating `disciplinedCb` over
    the whole table follows the re-entrant nesting until the fuel is gone; the witness below is the one-row sub-table. -/
def lockorder_disciplined_any_callback_full : Prop :=
  ∀ cbBody : List Ev, (∀ e ∈ cbBody, ∃ f ∈ Gen.LockOrder.table, e = Ev.call f.name) →
    disciplinedCb Gen.LockOrder.table cbBody = true

def callsBack (f : Fn) : Bool := f.evs.any (fun e => match e with | .cb _ => true | _ => false)

/-- what a callback may do: call every locking function of the library that takes no sync.Once and does not itself call
    back (a callback that starts another `Range` with a callback nests without bound; the model inlines) -/
def callbackSafe : List Ev :=
  (Gen.LockOrder.table.filter (fun f => !takesAny onceLocks f && !callsBack f)).map (fun f => Ev.call f.name)

/-- callbacks — the Range callback (outside the lock) and the lazy getter (inside `once.Do`) — that call any of the
    library's locking functions except those that go through a lazy schema's `once.Do` (`callbackSafe`: the registry,
    the locale table, the regex caches — what chaining methods, Describe/Meta and format checks use) keep the
    discipline, for the rank computed with the callbacks' acquisitions. -/
theorem lockorder_disciplined_callbacks_partial : disciplinedCb Gen.LockOrder.table callbackSafe = true := by decide +kernel

example : callbackSafe.length ≥ 8 := by decide +kernel

/-- the rows of the regenerated table the witness is about (a sub-table: the re-entrant getter nests without bound, and
    the evaluation of `disciplinedCb` follows the nesting until the fuel is gone, for every row of the table it is given) -/
def getterTable : List Fn :=
  [⟨"types.ZodLazy.resolveInner", [.acq "types.ZodLazyInternals.once" true, .cb "Getter", .rel "types.ZodLazyInternals.once"]⟩]

theorem getterTable_in_table : ∀ f ∈ getterTable, f ∈ Gen.LockOrder.table := by
  simp [getterTable, Gen.LockOrder.table]

/-- Witness: a getter that resolves a lazy schema (parses with the schema being resolved, or — the Once being one lock
    per TYPE in this table — with any other lazy schema) re-enters `once.Do` (`false` because `flatten` runs out of fuel, not because
    `wr` finds a rank out of order).  OUT of the property's scope: `sync.Once` documents that a re-entrant `Do` deadlocks, and a getter
    that parses with the schema it is defining does not terminate without the Once either (resolveInner → getter → Parse →
    resolveInner …).  The usual recursive definition — the getter DERIVES from the lazy schema — runs `cloneState`, whose
    `once.Do` is on the fresh clone's own Once (types/lazy.go); the table, with one Once per type, counts that as the same
    lock too, which is why `callbackSafe` leaves `cloneState` out. -/
theorem getter_reenter_undisciplined :
    disciplinedCb getterTable [.call "types.ZodLazy.resolveInner"] = false := by decide +kernel

/-- … and the model thread is stuck inside the getter -/
theorem getter_reenter_stuck :
    let cbBody := [Ev.call "types.ZodLazy.resolveInner"]
    let p := [PEv.acq 0, PEv.acq 0]   -- what the thread runs first: Do, and inside it the getter's Do on the same Once
    let t1 := stepT ⟨[], p⟩
    disciplinedCb getterTable cbBody = false ∧ enabled [⟨[], p⟩] ⟨[], p⟩ = true ∧ t1.rest ≠ [] ∧ enabled [t1] t1 = false :=
  ⟨getter_reenter_undisciplined, rfl, List.cons_ne_nil _ _, rfl⟩

/-- every program made of calls of the table's locking functions (each call made while holding nothing, callbacks
    lock-free) is deadlock-free together with any number of such programs -/
theorem table_no_deadlock (calls : List (List Fn)) (hc : ∀ c ∈ calls, ∀ f ∈ c, f ∈ Gen.LockOrder.table)
    (progs : List (List PEv))
    (hp : progs = calls.map (fun c => (c.map (fun f =>
      (flatten Gen.LockOrder.table (order Gen.LockOrder.table) [] (fuelFor Gen.LockOrder.table) 0 f.evs).getD [])).flatten))
    (ts : List Thread) (hr : Reach (progs.map (fun p => ⟨[], p⟩)) ts) (hu : ∃ t ∈ ts, t.rest ≠ []) :
    ∃ t ∈ ts, enabled ts t = true := by
  refine no_deadlock progs ?_ ts hr hu
  intro p hpm
  subst hp
  obtain ⟨c, hcm, rfl⟩ := List.mem_map.1 hpm
  refine wr_segments _ ?_
  intro s hs
  obtain ⟨f, hf, rfl⟩ := List.mem_map.1 hs
  obtain ⟨q, hq, hw⟩ := disciplined_wr _ _ lockorder_disciplined f (hc c hcm f hf)
  simpa [hq] using hw

/-- `Registry.Range` before `fix: Range calls back outside the lock` -/
def legacyTable : List Fn := [
  ⟨"core.Registry.Get", [.acq "core.mu" false, .rel "core.mu"]⟩,
  ⟨"core.Registry.Range", [.acq "core.mu" false, .cb "f", .rel "core.mu"]⟩]

/-- Witness (legacy code): a `Range` callback that calls `Registry.Get` (every chaining method of every schema type does, on
    `GlobalRegistry`) re-acquires the registry mutex it runs under: the discipline is broken … -/
theorem range_reenter_undisciplined :
    disciplined legacyTable (body legacyTable "core.Registry.Get") = false := by decide +kernel

/-- … and in the model the thread is stuck after its first step (in Go: as soon as a writer — `Add`, `Remove`, any
    `Describe`/`Meta` — queues between the two read locks; at once when the callback itself writes). -/
theorem range_reenter_stuck :
    let p := (flatten legacyTable (order legacyTable) (body legacyTable "core.Registry.Get")
      (fuelFor legacyTable) 0 (body legacyTable "core.Registry.Range")).getD []
    let t1 := stepT ⟨[], p⟩
    p ≠ [] ∧ enabled [⟨[], p⟩] ⟨[], p⟩ = true ∧ t1.rest ≠ [] ∧ enabled [t1] t1 = false := by decide +kernel

end Gozod.C14
