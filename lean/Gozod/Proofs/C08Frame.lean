/-
  The argument every frame theorem of C08 / C12 makes, once.

  An operation of the repaired code is a *fresh step*: it writes no location that existed when it started and keeps
  bags closed.  A family of store-dwelling objects is *framed* when what is observed of an allocated object, and its
  being allocated, survive every such step, and its identity lies below the allocation pointer.  Then a fresh step
  leaves every live object as it was and whatever it makes at or above the old pointer is new (`Framed.step`,
  `Framed.new`), and so does every chain of fresh steps (`Chain.frame`).  Schemas, schemas with type-local key sets,
  objects and composites are the instances; the histories of C08 and C12 are the chains.

  "A step that only allocates" is written in four ways, each for its user: `Keeps n σ σ'` for a PIECE of a call (the bound `n`
  is the pointer the whole call started from, so pieces compose by `Keeps.trans`); `Made W id σ r` for a whole call that
  returns an object (`Keeps σ.next`, closedness already discharged, plus the result allocated and new: what the `*_spec`
  theorems conclude); the hypothesis of
  `Chain.cons` for a step of a history (the same, under the invariant, for any number of added objects); and
  `C12Def.Grows` for the converter's reads of value graphs, which is `Keeps σ.next` with `NodeClosed` for `BagClosed`.
-/
import Gozod.Proofs.StoreLemmas

namespace Gozod.Store

def Keeps (n : Nat) (σ σ' : Store) : Prop := ExtFrom n σ σ' ∧ (BagClosed σ → BagClosed σ')

theorem Keeps.refl (n : Nat) (σ : Store) : Keeps n σ σ := ⟨ExtFrom.refl _ _, id⟩

theorem Keeps.le {n : Nat} {σ σ' : Store} (h : Keeps n σ σ') : σ.next ≤ σ'.next := h.1.1

theorem Keeps.trans {n : Nat} {a b c : Store} (h1 : Keeps n a b) (h2 : Keeps n b c) : Keeps n a c :=
  ⟨h1.1.trans h2.1, fun h => h2.2 (h1.2 h)⟩

theorem Keeps.alloc {n : Nat} {σ : Store} {c : Cell} (hn : n ≤ σ.next) (hok : BagClosed σ → cellOk (σ.next + 1) c) :
    Keeps n σ (alloc σ c).1 :=
  ⟨alloc_ext n σ c hn, fun h => bagClosed_alloc σ c h (hok h)⟩

theorem Keeps.write {n : Nat} {σ : Store} {l : Loc} {c : Cell} (hl : n ≤ l) (hok : BagClosed σ → cellOk σ.next c) :
    Keeps n σ (write σ l c) :=
  ⟨write_ext n σ l c hl, fun h => bagClosed_write σ l c h (hok h)⟩

section
variable {α β : Type}

/-- `W σ x`: `x` is allocated in `σ`; `O h x`: what is observed of `x` in heap `h`; `id x`: its identity. -/
structure Framed (W : Store → α → Prop) (O : (Loc → Option Cell) → α → β) (id : α → Loc) : Prop where
  obs : ∀ {σ σ' : Store} (x : α), W σ x → ExtFrom σ.next σ σ' → O σ'.heap x = O σ.heap x
  wf : ∀ {σ σ' : Store} (x : α), W σ x → ExtFrom σ.next σ σ' → W σ' x
  old : ∀ {σ : Store} {x : α}, W σ x → id x < σ.next

variable {W : Store → α → Prop} {O : (Loc → Option Cell) → α → β} {id : α → Loc}

theorem Framed.live (F : Framed W O id) {σ σ' : Store} {live extra : List α} (hl : ∀ x ∈ live, W σ x)
    (he : ExtFrom σ.next σ σ') (hx : ∀ x ∈ extra, W σ' x) : ∀ x ∈ live ++ extra, W σ' x :=
  fun x h => (List.mem_append.1 h).elim (fun h => F.wf x (hl x h) he) (hx x)

theorem Framed.step (F : Framed W O id) {σ σ' : Store} {live : List α} {r : α} (hl : ∀ x ∈ live, W σ x)
    (he : ExtFrom σ.next σ σ') (hr : W σ' r) :
    (∀ x ∈ live ++ [r], W σ' x) ∧ ∀ x ∈ live, O σ'.heap x = O σ.heap x :=
  ⟨F.live hl he fun _ h => List.mem_singleton.1 h ▸ hr, fun x hx => F.obs x (hl x hx) he⟩

theorem Framed.new (F : Framed W O id) {σ : Store} {live : List α} {r : α} (hl : ∀ x ∈ live, W σ x)
    (hs : σ.next ≤ id r) : ∀ x ∈ live, id r ≠ id x :=
  fun x hx e => Nat.not_le_of_lt (F.old (hl x hx)) (e ▸ hs)

def Made (W : Store → α → Prop) (id : α → Loc) (σ : Store) (r : Store × α) : Prop :=
  ExtFrom σ.next σ r.1 ∧ BagClosed r.1 ∧ W r.1 r.2 ∧ σ.next ≤ id r.2

/-- the same call seen as making a richer object `x` around its result (a schema with key sets, an object, a composite) -/
theorem Made.lift {γ : Type} {W' : Store → γ → Prop} {id' : γ → Loc} {σ : Store} {r : Store × α} {x : γ}
    (h : Made W id σ r) (hx : ExtFrom σ.next σ r.1 → W r.1 r.2 → W' r.1 x) (hid : id' x = id r.2) :
    Made W' id' σ (r.1, x) :=
  ⟨h.1, h.2.1, hx h.1 h.2.2.1, hid ▸ h.2.2.2⟩

/-- a call followed by more fresh writes (`σ2`: a key set allocated, the result's own registry cell rewritten) -/
theorem Framed.made_then (F : Framed W O id) {σ σ2 : Store} {r : Store × α} (h : Made W id σ r)
    (he : ExtFrom r.1.next r.1 σ2) (hb : BagClosed σ2) : Made W id σ (σ2, r.2) :=
  ⟨h.1.step he, hb, F.wf r.2 h.2.2.1 he, h.2.2.2⟩

/-- a history as a chain of steps.  A step may assume the invariant (bags closed, live objects allocated); `N n x` is what the
    history promises of the identity of an added object `x`, `n` the pointer the step started from (`fun _ _ => True`: nothing). -/
inductive Chain (W : Store → α → Prop) (N : Nat → α → Prop) : Store → List α → Store → List α → Prop
  | nil {σ live} : Chain W N σ live σ live
  | cons {σ live σ' extra σ'' live''} :
      (BagClosed σ → (∀ x ∈ live, W σ x) → ExtFrom σ.next σ σ' ∧ BagClosed σ' ∧ ∀ x ∈ extra, W σ' x ∧ N σ.next x) →
      Chain W N σ' (live ++ extra) σ'' live'' → Chain W N σ live σ'' live''

theorem Chain.one {N : Nat → α → Prop} {σ σ' σ'' : Store} {live live'' : List α} {r : α}
    (h : BagClosed σ → (∀ x ∈ live, W σ x) → ExtFrom σ.next σ σ' ∧ BagClosed σ' ∧ W σ' r ∧ N σ.next r)
    (t : Chain W N σ' (live ++ [r]) σ'' live'') : Chain W N σ live σ'' live'' :=
  .cons (fun hc hw => ⟨(h hc hw).1, (h hc hw).2.1, fun _ hy => List.mem_singleton.1 hy ▸ (h hc hw).2.2⟩) t

/-- a step that changes the store and adds no object: a conversion -/
theorem Chain.store {N : Nat → α → Prop} {σ σ' σ'' : Store} {live live'' : List α}
    (h : BagClosed σ → (∀ x ∈ live, W σ x) → ExtFrom σ.next σ σ' ∧ BagClosed σ')
    (t : Chain W N σ' live σ'' live'') : Chain W N σ live σ'' live'' :=
  .cons (extra := []) (fun hc hw => ⟨(h hc hw).1, (h hc hw).2, nofun⟩) ((List.append_nil live).symm ▸ t)

theorem Chain.frame (F : Framed W O id) {N : Nat → α → Prop} (hN : ∀ {n m x}, n ≤ m → N m x → N n x)
    {σ σ' : Store} {live live' : List α} (h : Chain W N σ live σ' live') (hc : BagClosed σ)
    (hw : ∀ x ∈ live, W σ x) :
    (BagClosed σ' ∧ ∀ x ∈ live', W σ' x) ∧ (∃ extra, live ++ extra = live' ∧ ∀ y ∈ extra, N σ.next y) ∧
    σ.next ≤ σ'.next ∧ ∀ x ∈ live, O σ'.heap x = O σ.heap x := by
  induction h with
  | nil => exact ⟨⟨hc, hw⟩, ⟨[], List.append_nil _, nofun⟩, Nat.le_refl _, fun _ _ => rfl⟩
  | @cons σ live σ' extra _ _ hs _ ih =>
    obtain ⟨he, hc', hx⟩ := hs hc hw
    obtain ⟨hi, ⟨rest, rfl, hr⟩, hn, ho⟩ := ih hc' (F.live hw he fun x h => (hx x h).1)
    refine ⟨hi, ⟨extra ++ rest, (List.append_assoc ..).symm, fun y hy => ?_⟩, Nat.le_trans he.1 hn, fun x h => ?_⟩
    · exact (List.mem_append.1 hy).elim (fun h => (hx y h).2) fun h => hN he.1 (hr y h)
    · rw [ho x (List.mem_append_left _ h), F.obs x (hw x h) he]

end

theorem framedS : Framed WfS obs Schema.self := ⟨obs_frame, wfs_frame, WfS.self_lt⟩

end Gozod.Store
