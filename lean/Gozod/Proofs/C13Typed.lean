/-
  C13 — "the generated file type-checks against the library" as theorems over the WHOLE regenerated
  method table (`Gozod.Gen.methodTable`: reflection over the library, harness/cmd/c13/methods.go).
  A chain whose calls are drawn, in any number and order, from a finite list of call shapes is well typed once the
  set of types reachable from its constructor's type is closed under those shapes (`closedB`, a finite check over
  the table); renaming or removing a library method gozodgen emits, or changing a parameter kind, breaks that check.
  Then `why` refines that judgement (`whyAgrees_all`); the kind × tag rows; legacy-writer witnesses.
-/
import Gozod.Model.GenTyped
import Gozod.Model.GenSem
import Gozod.Gen.MethodTable
import Gozod.Gen.WriterFacts
import Gozod.Gen.KindRows
namespace Gozod.C13
open Gozod.GenEmit Gozod.GenTyped Gozod.TagParser

inductive AShape | int64Lit | floatLit | strLit | regexp | boolLit
  deriving DecidableEq, Repr

/-- the shape of a classified argument (`none`: no shape — not a literal, or an integer outside int64) -/
def absOf : ArgClass → Option AShape
  | .intLit n => if -(2 ^ 63) ≤ n ∧ n ≤ 2 ^ 63 - 1 then some .int64Lit else none
  | .floatLit _ _ => some .floatLit
  | .strLit => some .strLit | .regexp => some .regexp | .boolLit => some .boolLit
  | .other => none

def absFits : AShape → PK → Bool
  | _, .any => true
  | _, .other => false
  | _, .schemaOf => false
  | .int64Lit, .basic b => b == .int || b == .int64 || isFloaty b
  | .floatLit, .basic b => isFloaty b
  | .strLit, .basic b => b == .string
  | .boolLit, .basic b => b == .bool
  | .regexp, .regexp => true
  | .regexp, .basic _ => false
  | _, .regexp => false

def absFitsAll : List AShape → List PK → Bool
  | [], [] => true
  | a :: as, p :: ps => absFits a p && absFitsAll as ps
  | _, _ => false

abbrev Shape := String × List AShape

def absStep (T : MethodTable) (ty : Nat) (sh : Shape) : Option Nat :=
  match T.method? ty sh.1 with
  | some m => if absFitsAll sh.2 m.params then m.result else none
  | none => none

def closedB (T : MethodTable) (R : List Nat) (shapes : List Shape) : Bool :=
  R.all fun ty => shapes.all fun sh => match absStep T ty sh with | some ty' => R.contains ty' | none => false

def closure (T : MethodTable) (shapes : List Shape) : Nat → List Nat → List Nat
  | 0, R => R
  | n + 1, R => closure T shapes n (shapes.foldl (fun acc sh => R.foldl (fun acc ty =>
      match absStep T ty sh with | some ty' => if acc.contains ty' then acc else acc ++ [ty'] | none => acc) acc) R)

def shapeOf (c : Call) : Option Shape :=
  (c.args.mapM fun a => absOf a.cls).map fun as => (c.name, as)

def allowed (shapes : List Shape) (c : Call) : Bool :=
  match shapeOf c with | some sh => shapes.contains sh | none => false

theorem fits_of_abs (a : ArgClass) (s : AShape) (p : PK) (ha : absOf a = some s) (hf : absFits s p = true) :
    fits a p = some true := by
  cases a with
  | other => cases ha
  | floatLit i w | strLit | boolLit | regexp =>
    cases ha
    cases p <;> first | rfl | cases hf | (simp only [absFits] at hf; simp [fits, hf])
  | intLit n =>
    simp only [absOf] at ha
    split at ha
    · next hr =>
      cases ha
      cases p with
      | any => rfl
      | other | schemaOf | regexp => cases hf
      | basic b =>
        -- an integer of the int64 range is representable in `int`, `int64` and the float kinds
        simp only [absFits, Bool.or_eq_true, beq_iff_eq] at hf
        have e : (2:Int)^63 = 9223372036854775808 := by decide
        rcases hf with (rfl | rfl) | h
        · simp [fits, intFits, intRange]; omega
        · simp [fits, intFits, intRange]; omega
        · cases b <;> simp [isFloaty] at h <;> simp [fits, intFits, intRange, isFloaty]
    · cases ha

theorem fitsAll_of_abs : ∀ (as : List ArgClass) (ss : List AShape) (ps : List PK),
    as.mapM absOf = some ss → absFitsAll ss ps = true → fitsAll as ps = some true
  | [], ss, ps, h, hf => by
    cases h
    cases ps with
    | nil => rfl
    | cons _ _ => cases hf
  | a :: as, ss, ps, h, hf => by
    simp only [List.mapM_cons, Option.bind_eq_bind, Option.pure_def, Option.bind_eq_some_iff] at h
    obtain ⟨s, ha, ss', has, h⟩ := h
    cases h
    cases ps with
    | nil => cases hf
    | cons p ps =>
      simp only [absFitsAll, Bool.and_eq_true] at hf
      simp [fitsAll, fits_of_abs a s p ha hf.1, fitsAll_of_abs as ss' ps has hf.2, and3]

theorem absStep_eq_some {T : MethodTable} {ty : Nat} {sh : Shape} {r : Nat} (h : absStep T ty sh = some r) :
    ∃ m, T.method? ty sh.1 = some m ∧ absFitsAll sh.2 m.params = true ∧ m.result = some r := by
  unfold absStep at h
  split at h
  · next m hm =>
    split at h
    · exact ⟨m, hm, ‹_›, h⟩
    · cases h
  · cases h

theorem step_of_allowed (T : MethodTable) (shapes : List Shape) (R : List Nat) (hc : closedB T R shapes = true)
    (ty : Nat) (hty : ty ∈ R) (c : Call) (ha : allowed shapes c = true) : ∃ ty' ∈ R, GenTyped.step T ty c = .ok ty' := by
  unfold allowed at ha
  split at ha
  · next sh hs =>
    obtain ⟨as, hm, rfl⟩ := Option.map_eq_some_iff.mp hs
    have h1 := List.all_eq_true.mp (List.all_eq_true.mp hc ty hty) _ (List.contains_iff_mem.mp ha)
    split at h1
    · next r hr =>
      obtain ⟨m, hmeth, hfit, hres⟩ := absStep_eq_some hr
      have hmm : (c.args.map Arg.cls).mapM absOf = some as := by rw [List.mapM_map]; exact hm
      exact ⟨r, List.contains_iff_mem.mp h1, by simp [GenTyped.step, stepCls, hmeth, fitsAll_of_abs _ as m.params hmm hfit, hres]⟩
    · cases h1
  · cases ha
theorem runCalls_of_allowed (T : MethodTable) (shapes : List Shape) (R : List Nat) (hc : closedB T R shapes = true) :
    ∀ (cs : List Call) (ty : Nat), ty ∈ R → cs.all (allowed shapes) = true → ∃ ty' ∈ R, runCalls T ty cs = .ok ty'
  | [], ty, hty, _ => ⟨ty, hty, rfl⟩
  | c :: cs, ty, hty, hall => by
    simp only [List.all_cons, Bool.and_eq_true] at hall
    obtain ⟨ty', hty', hs⟩ := step_of_allowed T shapes R hc ty hty c hall.1
    obtain ⟨ty'', hty'', hr⟩ := runCalls_of_allowed T shapes R hc cs ty' hty' hall.2
    exact ⟨ty'', hty'', by simp [runCalls, hs, hr]⟩

theorem wellTyped_of_allowed (T : MethodTable) (ti : Bool) (shapes : List Shape) (R : List Nat) (c : Chain) (ty₀ : Nat)
    (h0 : ctorType T ti c.ctor = some ty₀) (hin : ty₀ ∈ R) (hc : closedB T R shapes = true)
    (hall : c.calls.all (allowed shapes) = true) : wellTyped T ti c = some true := by
  obtain ⟨ty', _, hr⟩ := runCalls_of_allowed T shapes R hc c.calls ty₀ hin hall
  simp [wellTyped, h0, hr]

def modShapes : List Shape := [("Nilable", []), ("Optional", [])]
def numNames : List String := ["Min", "Max", "Gt", "Gte", "Lt", "Lte", "Default", "Prefault"]
def signNames : List String := ["Positive", "Negative", "NonNegative", "NonPositive"]

inductive KindClass | str | int | float | bool | enum | sized | modOnly | none
  deriving DecidableEq, Repr

def _root_.Gozod.GenEmit.Basic.cls : Basic → KindClass
  | .string => .str
  | .int | .int8 | .int16 | .int32 | .int64 | .uint | .uint8 | .uint16 | .uint32 | .uint64 => .int
  | .float32 | .float64 => .float
  | .bool => .bool
  | _ => .none

def shapesOf : KindClass → List Shape
  | .str => [("Min", [.int64Lit]), ("Max", [.int64Lit]), ("Length", [.int64Lit]), ("Email", []), ("Regex", [.regexp]),
             ("Default", [.strLit]), ("Prefault", [.strLit])] ++ modShapes
  | .int => numNames.map (·, [.int64Lit]) ++ signNames.map (·, []) ++ modShapes
  | .float => numNames.map (·, [.int64Lit]) ++ numNames.map (·, [.floatLit]) ++ signNames.map (·, []) ++ modShapes
  | .bool => [("Default", [.boolLit]), ("Prefault", [.boolLit])] ++ modShapes
  | .enum => [("Default", [.strLit]), ("Prefault", [.strLit])] ++ modShapes
  | .sized => [("Min", [.int64Lit]), ("Max", [.int64Lit]), ("Length", [.int64Lit])] ++ modShapes    -- slices, records
  | .modOnly => modShapes                                                                               -- time, nested structs, any
  | .none => []

/-- the 14 basic kinds gozodgen has a constructor for, and pointers to them -/
def scalarOf : Ty → Option Basic
  | .basic b => if b.cls = .none then none else some b
  | .ptr (.basic b) => if b.cls = .none then none else some b
  | _ => none

def classOfCtor (b : Basic) : CExpr → KindClass
  | .prim _ => b.cls
  | .uuid => .str
  | .url => .str
  | .enum _ => .enum
  | _ => .none

/-- the writer of /repo HEAD (a constant, not regenerated: `c13_writer_pinned` ties it to the tree) and the library's
    method table (regenerated) -/
def WF : WriterFacts := .head
def T := Gozod.Gen.methodTable

/-- The tree's writer is `WriterFacts.head`: each of the 12 + 3 structure facts harness/cmd/c13/facts.go reads off
    cmd/gozodgen/writer.go and analyzer.go with go/ast (`Gen/WriterFacts.lean`, regenerated) shows the variant of /repo HEAD.
    A tree in which a legacy variant reappears breaks this obligation — it is not followed. -/
theorem c13_writer_pinned :
    Gozod.Gen.writerFacts = WriterFacts.head ∧ Gozod.Gen.analyzerMultiName = true ∧
    Gozod.Gen.analyzerTagLiteral = true ∧ Gozod.Gen.analyzerSkipTestFiles = true := by decide

/-- the region of `c13_welltyped_partial` (`enum` with no member is outside). NB a condition on what `emitChain` produced
    for the tag, not on the tag — the statements whose scope is defined on the INPUT (field kind × tag) are `c13_rows_*`
    and `c13_matrix_welltyped` (Proofs/C13.lean). -/
def typedRegion (t : Ty) (sn : Str) (rs : List Rule) : Bool :=
  match scalarOf t, emitChain WF t sn rs with
  | some b, some c =>
    c.calls.all (allowed (shapesOf (classOfCtor b c.ctor))) &&
    (match c.ctor with | .enum vals => !vals.isEmpty | _ => true)
  | _, _ => false

/- three rounds of `closure` are fuel, not a claim: `closedB` checks that what they reached is closed (from a value type
   `Optional` / `Nilable` lead to its pointer variants and back, nothing further) -/
def startOK (ti : Bool) (e : CExpr) (k : KindClass) : Bool :=
  match ctorType T ti e with
  | some ty =>
    let R := closure T (shapesOf k) 3 [ty]
    R.contains ty && closedB T R (shapesOf k)
  | none => false

/-- Over the whole table: the types reachable from each scalar constructor through the shapes of its class
    exist, carry every method of the class with parameters that accept every argument of the shape, and are closed. -/
theorem c13_table_closed :
    (Basic.all.all fun b => b.cls == .none || startOK false (.prim b) b.cls) = true ∧
    startOK false .uuid .str = true ∧ startOK false (.enum [[0x22, 0x61, 0x22]]) .enum = true ∧
    (!WF.urlCtor || startOK false .url .str) = true := by
  decide +kernel

/-- the same obligation for the constructors of the non-scalar field types (`WF.sliceTyped`, `WF.recordTyped` are true:
    the guards are those of the writer's variants) -/
theorem c13_table_closed_containers :
    startOK false .time .modOnly = true ∧ startOK false (.fromStruct (asc "Inner")) .modOnly = true ∧ startOK false .any .modOnly = true ∧
    (!WF.sliceTyped || startOK false (.slice false (some (asc "string")) (.prim .string)) .sized) = true ∧
    (!WF.recordTyped || (startOK false (.record false (some (asc "int")) (.prim .int)) .sized &&
                         startOK false (.record true (some (asc "int")) (.prim .int)) .sized)) = true := by
  decide +kernel

theorem ctorType_enum_irrel (ti : Bool) (v w : List Str) (hv : v ≠ []) (hw : w ≠ []) : ctorType T ti (.enum v) = ctorType T ti (.enum w) := by
  cases v with
  | nil => exact absurd rfl hv
  | cons a as =>
    cases w with
    | nil => exact absurd rfl hw
    | cons b bs => simp [ctorType]

theorem wellTyped_of_startOK (ti : Bool) (c : Chain) (k : KindClass) (hs : startOK ti c.ctor k = true)
    (hall : c.calls.all (allowed (shapesOf k)) = true) : wellTyped T ti c = some true := by
  unfold startOK at hs
  cases h0 : ctorType T ti c.ctor with
  | none => simp [h0] at hs
  | some ty =>
    simp only [h0, Bool.and_eq_true] at hs
    exact wellTyped_of_allowed T ti (shapesOf k) _ c ty h0 (by simpa using hs.1) hs.2 hall

/-- Every expression gozodgen emits for a scalar field type-checks against the library: false (`c13_welltyped_full_false`). -/
def c13_welltyped_full : Prop :=
  ∀ (t : Ty) (sn : Str) (rs : List Rule) (c : Chain), (scalarOf t).isSome → emitChain WF t sn rs = some c → wellTyped T false c = some true

theorem scalarOf_eq_some {t : Ty} {b : Basic} (h : scalarOf t = some b) : (t = .basic b ∨ t = .ptr (.basic b)) ∧ b.cls ≠ .none := by
  unfold scalarOf at h
  split at h
  · split at h <;> cases h; exact ⟨.inl rfl, ‹_›⟩
  · split at h <;> cases h; exact ⟨.inr rfl, ‹_›⟩
  · cases h

theorem baseCtor_scalar (t : Ty) (sn : Str) (b : Basic) (hb : scalarOf t = some b) : baseCtor WF t sn = .prim b := by
  obtain ⟨rfl | rfl, hc⟩ := scalarOf_eq_some hb <;> cases b <;> first | rfl | exact absurd rfl hc

/-- the four shapes of `generateFieldSchemaCode` -/
theorem emitChain_ctor (W : WriterFacts) (t : Ty) (sn : Str) (rs : List Rule) (c : Chain) (he : emitChain W t sn rs = some c) :
    c.ctor = baseCtor W t sn ∨ c.ctor = .uuid ∨ (W.urlCtor = true ∧ c.ctor = .url) ∨ ∃ vals, c.ctor = .enum vals := by
  unfold emitChain at he
  simp only at he
  split at he
  · simp only [Option.map_eq_some_iff] at he; obtain ⟨_, _, rfl⟩ := he; exact Or.inr (Or.inl rfl)
  · split at he
    · rename_i hu
      simp only [Option.map_eq_some_iff] at he; obtain ⟨_, _, rfl⟩ := he; exact Or.inr (Or.inr (Or.inl ⟨hu.1, rfl⟩))
    · split at he
      · split at he
        · cases he
        · simp only [Option.map_eq_some_iff] at he; obtain ⟨_, _, rfl⟩ := he; exact Or.inr (Or.inr (Or.inr ⟨_, rfl⟩))
      · simp only [Option.map_eq_some_iff] at he; obtain ⟨_, _, rfl⟩ := he; exact Or.inl rfl

/-- Every emitted expression of the region type-checks against the whole regenerated method table: all scalar field
    types, all struct names, rule lists of any length and order. -/
theorem c13_welltyped_expr (t : Ty) (sn : Str) (rs : List Rule) (c : Chain)
    (hr : typedRegion t sn rs = true) (he : emitChain WF t sn rs = some c) : wellTyped T false c = some true := by
  unfold typedRegion at hr
  cases hb : scalarOf t with
  | none => simp [hb] at hr
  | some b =>
    simp only [hb, he, Bool.and_eq_true] at hr
    obtain ⟨hall, hen⟩ := hr
    have hcl := c13_table_closed
    have hbcls := (scalarOf_eq_some hb).2
    have hst : startOK false c.ctor (classOfCtor b c.ctor) = true := by
      rcases emitChain_ctor WF t sn rs c he with hct | hct | ⟨hu, hct⟩ | ⟨vals, hct⟩
      · rw [hct, baseCtor_scalar t sn b hb]
        have := List.all_eq_true.mp hcl.1 b (by cases b <;> decide)
        simpa [hbcls, classOfCtor] using this
      · rw [hct]; exact hcl.2.1
      · rw [hct]; simpa [hu, classOfCtor] using hcl.2.2.2
      · -- the type of `gozod.Enum(…)` does not depend on the members, as long as there is one
        rw [hct] at hen ⊢
        have hv : vals ≠ [] := by intro h; subst h; simp at hen
        have h := hcl.2.2.1
        unfold startOK at h ⊢
        rwa [ctorType_enum_irrel false vals [[0x22, 0x61, 0x22]] hv (by simp)]
    exact wellTyped_of_startOK false c _ hst hall

/-- the judgement on the FILE written for a one-field struct — what the driver's `statusOf` computes and the `texpr` op
    compares with `go build`: the expression is well typed AND every import written is used -/
def fileOK (rs : List Rule) (c : Chain) : Option Bool :=
  let ti := timeImported WF [rs] [c]
  match wellTyped T ti c with
  | some true => some (importsUsed WF [rs] [c])
  | some false => some false
  | none => if importsUsed WF [rs] [c] then none else some false

/-- In the region the generated file type-checks exactly when its imports are used (a rule of the region can write
    an import no expression uses, and the file then does not compile: `c13_unused_import_witnesses`). -/
theorem c13_welltyped_partial (t : Ty) (sn : Str) (rs : List Rule) (c : Chain)
    (hr : typedRegion t sn rs = true) (he : emitChain WF t sn rs = some c) (hti : timeImported WF [rs] [c] = false) :
    fileOK rs c = some (importsUsed WF [rs] [c]) := by
  have h := c13_welltyped_expr t sn rs c hr he
  simp [fileOK, hti, h]

def rule (n : String) (ps : List String := []) : Rule := ⟨asc n, if ps.isEmpty then none else some (ps.map asc)⟩

/-- `why` refines the typing judgement: it says `ok` exactly where `wellTyped` ∧ `importsUsed` hold -/
def whyAgrees (W : WriterFacts) (t : Ty) (sn : String) (rs : List Rule) : Bool :=
  match emitChain W t (asc sn) rs with
  | none => true
  | some c =>
    let ti := timeImported W [rs] [c]
    match why T W t sn rs, wellTyped T ti c with
    | .ok, some true => importsUsed W [rs] [c]
    | .ill _, some false => true
    | .ill _, some true => !importsUsed W [rs] [c]
    | .ill _, none => !importsUsed W [rs] [c]
    | .unjudged, none => true
    | _, _ => false

theorem ctorWhy_some (T : MethodTable) (ti : Bool) : ∀ (e : CExpr) (w : String), ctorWhy T ti e = some w → ctorType T ti e = none
  | .slice ptr none e, w, h | .record ptr none e, w, h => by
    have ih := ctorWhy_some T ti e
    simp only [ctorWhy, ctorType] at h ⊢
    generalize callPlain T (if ptr = true then _ else _) 1 = cp at h ⊢
    cases hc : ctorType T ti e <;> cases cp <;> simp_all
  | .slice ptr (some t) e, w, h | .record ptr (some t) e, w, h => by
    simp only [ctorWhy] at h
    cases hw : ctorWhy T ti e with
    | some w' => simp [ctorType, ctorWhy_some T ti e w' hw]
    | none => rw [hw] at h; simp only at h; split at h <;> simp_all
  | .lazyStruct n, w, h | .fromStruct t, w, h | .fromStructPtr t, w, h | .enum vals, w, h
  | .prim _, w, h | .primPtr _, w, h | .any, w, h | .time, w, h | .timePtr, w, h | .uuid, w, h | .url, w, h => by
    simp only [ctorWhy] at h; split at h <;> simp_all

theorem callsWhy_runCalls (T : MethodTable) : ∀ (cs : List Call) (ty : Nat),
    (callsWhy T ty cs = .ok ∧ ∃ r, runCalls T ty cs = .ok r) ∨ (callsWhy T ty cs = .unjudged ∧ runCalls T ty cs = .unjudged) ∨
      ∃ w, callsWhy T ty cs = .ill w ∧ runCalls T ty cs = .illTyped
  | [], ty => .inl ⟨rfl, ty, rfl⟩
  | c :: cs, ty => by
    simp only [callsWhy, runCalls]
    cases hm : T.method? ty c.name with
    | none => exact .inr (.inr ⟨_, rfl, by simp [GenTyped.step, stepCls, hm]⟩)
    | some m =>
      cases hs : GenTyped.step T ty c with
      | ok ty' => exact callsWhy_runCalls T cs ty'
      | unjudged => exact .inr (.inl ⟨rfl, rfl⟩)
      | illTyped => simp only; split <;> simp

theorem whyAgrees_all (W : WriterFacts) (t : Ty) (sn : String) (rs : List Rule) : whyAgrees W t sn rs = true := by
  unfold whyAgrees
  cases he : emitChain W t (asc sn) rs with
  | none => rfl
  | some c =>
    simp only [why, he, whyChain]
    cases hi : importsUsed W [rs] [c] with
    | false =>
      simp only [Bool.not_false, if_true]
      cases wellTyped T (timeImported W [rs] [c]) c with
      | none => rfl
      | some b => cases b <;> rfl
    | true =>
      simp only [Bool.not_true, Bool.false_eq_true, if_false, wellTyped]
      cases hw : ctorWhy T (timeImported W [rs] [c]) c.ctor with
      | some w => rw [ctorWhy_some T _ _ w hw]
      | none =>
        cases ht : ctorType T (timeImported W [rs] [c]) c.ctor with
        | none => rfl
        | some ty =>
          simp only
          rcases callsWhy_runCalls T c.calls ty with ⟨h1, r, h2⟩ | ⟨h1, h2⟩ | ⟨w, h1, h2⟩ <;> simp [h1, h2]

def whyChainOf (t : Gozod.Tags.FTy) (rules : List Gozod.Tags.TRule) : Why :=
  why T WF (GenSem.tyOf t) "" (rules.map GenSem.ruleOf)

def self : Ty := .named (asc "S")
def inner : Ty := .named (asc "Inner")

/-- a row is read with the transcriptions themselves: the tag by gozodgen's own tag parser -/
def rowOf (r : String × String) : Option (Ty × List Rule) :=
  match parseTy r.1, GenSplit.genParseTag (asc r.2) with
  | some t, .ok rs => some (t, rs)
  | _, _ => none

/-- every kind of field type the writer distinguishes × the tags of its class (struct name `S`), regenerated from
    harness/cmd/c13/wide.go (`kinds` × `kindTags`) on every run (`Gen/KindRows.lean`) -/
def kindRows : List (Ty × List Rule) := Gozod.Gen.kindRowsSrc.filterMap rowOf

def dedup : List String → List String
  | [] => []
  | x :: xs => if xs.contains x then dedup xs else x :: dedup xs

theorem mem_dedup {x : String} : ∀ {l : List String}, x ∈ dedup l ↔ x ∈ l
  | [] => Iff.rfl
  | y :: ys => by
    have ih := @mem_dedup x ys
    cases hc : ys.contains y with
    | true =>
      have hy : y ∈ ys := by simpa using hc
      simp only [dedup, hc, if_true, ih, List.mem_cons]
      exact ⟨Or.inr, fun h => h.elim (fun e => e ▸ hy) id⟩
    | false => simp only [dedup, hc, Bool.false_eq_true, if_false, List.mem_cons, ih]

def illClasses (W : WriterFacts) : List String :=
  dedup (kindRows.filterMap fun r => match why T W r.1 "S" r.2 with | .ill c => some c | _ => none)

/-- rows whose emitted argument is not a classified literal — a class of INPUTS: a `default=` / `prefault=` on a slice or
    map field (the argument is a composite literal `[]T{…}` or the parameter verbatim), and a float field with a bound whose
    parameter is not a canonical decimal (`lte=+7`, `min=007`: written verbatim). The typing judgement does not judge them
    (`why = .unjudged`); their files are judged by `go build` in the run only. -/
def compositeDefault (t : Ty) (rs : List Rule) : Bool :=
  (rs.any fun r => r.name = asc "default" ∨ r.name = asc "prefault") && (match t.deref with | .slice _ | .map _ _ => true | _ => false)
def boundNames : List Str := ["min", "max", "gt", "gte", "lt", "lte"].map asc
def nonCanonicalFloatBound (t : Ty) (rs : List Rule) : Bool :=
  t.deref.floaty && rs.any fun r => boundNames.contains r.name && (match r.params with | some (p :: _) => classifyRaw p == .other | _ => false)
def unjudgedRow (r : Ty × List Rule) : Bool := compositeDefault r.1 r.2 || nonCanonicalFloatBound r.1 r.2

def rowFacts (t : Ty) (rs : List Rule) : Bool :=
  (why T WF t "S" rs == .unjudged) == unjudgedRow (t, rs) &&
  match why T WF t "S" rs with
  | .ill c => Gozod.Gen.openCompileClasses.contains c
  | _ => true

/-- `rowOf` followed by `rowFacts`, in the shape the kernel evaluates well: it shares the evaluation of identical closed
    terms, and reading a `String` is the slow step of a row. With the pair taken apart first each distinct type text and tag
    text is parsed once, and with the parsed type handed on as it is what depends on the type alone is worked out once per type. -/
def srcRowFacts : String × String → Bool
  | (ty, tag) =>
    match parseTy ty, GenSplit.genParseTag (asc tag) with
    | some t, .ok rs => rowFacts t rs
    | _, _ => false

theorem kindRowsSrc_facts : Gozod.Gen.kindRowsSrc.all srcRowFacts = true := by decide +kernel

theorem rowOf_of_srcRowFacts (src : String × String) (h : srcRowFacts src = true) : ∃ r, rowOf src = some r ∧ rowFacts r.1 r.2 = true := by
  obtain ⟨ty, tag⟩ := src
  simp only [srcRowFacts] at h
  simp only [rowOf]
  split at h
  · next t rs _ _ => exact ⟨(t, rs), rfl, h⟩
  · cases h

theorem kindRows_facts (r : Ty × List Rule) (hr : r ∈ kindRows) :
    ((why T WF r.1 "S" r.2 == .unjudged) == unjudgedRow r && whyAgrees WF r.1 "S" r.2) = true ∧
    ∀ c, why T WF r.1 "S" r.2 = .ill c → c ∈ Gozod.Gen.openCompileClasses := by
  obtain ⟨src, hsrc, hrow⟩ := List.mem_filterMap.mp hr
  obtain ⟨r', hr', hf⟩ := rowOf_of_srcRowFacts src (List.all_eq_true.mp kindRowsSrc_facts src hsrc)
  obtain rfl : r' = r := Option.some.inj (hr'.symm.trans hrow)
  simp only [rowFacts, Bool.and_eq_true] at hf
  exact ⟨Bool.and_eq_true _ _ ▸ ⟨hf.1, whyAgrees_all ..⟩, fun c hc => by simpa [hc] using hf.2⟩

/-- every row of the source table is read (none is silently dropped), and the table is not short (600: a floor below
    the size of `kinds` × `kindTags` in /repo HEAD's harness, not an exact count) -/
theorem c13_kind_rows_read : kindRows.length = Gozod.Gen.kindRowsSrc.length ∧ 600 ≤ kindRows.length := by
  have h : kindRows.length = Gozod.Gen.kindRowsSrc.length := List.filterMap_length_eq_length.mpr fun src hsrc => by
    obtain ⟨r, hr, _⟩ := rowOf_of_srcRowFacts src (List.all_eq_true.mp kindRowsSrc_facts src hsrc)
    rw [hr]; rfl
  exact ⟨h, by rw [h]; decide +kernel⟩

/-- exactly the rows outside `unjudgedRow` are judged, and the reason given agrees with `wellTyped` ∧ `importsUsed` -/
theorem c13_rows_judged :
    (kindRows.all fun r => (why T WF r.1 "S" r.2 == .unjudged) == unjudgedRow r && whyAgrees WF r.1 "S" r.2) = true :=
  List.all_eq_true.mpr fun r hr => (kindRows_facts r hr).1

/-- The rows that do not type-check are listed `open:` classes (`Gen.openCompileClasses`, regenerated from
    known-findings.txt). A new way of emitting code that does not compile breaks this obligation; a repaired class
    simply has no row. -/
theorem c13_illtyped_rows_are_open :
    (illClasses WF).all (fun c => Gozod.Gen.openCompileClasses.contains c) = true := by
  refine List.all_eq_true.mpr fun c hc => ?_
  obtain ⟨r, hr, hw⟩ := List.mem_filterMap.mp (mem_dedup.mp hc)
  split at hw
  · next c' hc' => cases hw; simpa using (kindRows_facts r hr).2 c hc'
  · cases hw

/-- Full statement over the rows: every generated file type-checks. -/
def c13_rows_full : Prop := ∀ r ∈ kindRows, unjudgedRow r = false → why T WF r.1 "S" r.2 = .ok

/-- … outside the listed classes and the unjudged inputs -/
theorem c13_rows_partial : ∀ r ∈ kindRows, unjudgedRow r = false → (∀ c ∈ Gozod.Gen.openCompileClasses, why T WF r.1 "S" r.2 ≠ .ill c) → why T WF r.1 "S" r.2 = .ok := by
  intro r hr hu hno
  obtain ⟨hj, ho⟩ := kindRows_facts r hr
  cases hw : why T WF r.1 "S" r.2 with
  | ok => rfl
  | unjudged => simp [hw, hu] at hj
  | ill c => exact absurd hw (hno c (ho c hw))

/-! Witnesses: the writer of /repo 65a0069 … cef00ff (`WriterFacts.legacy`), and what is open in the tree under check. -/

def wt (W : WriterFacts) (t : Ty) (sn : String) (rs : List Rule) : Option Bool :=
  (emitChain W t (asc sn) rs).bind fun c => wellTyped T (timeImported W [rs] [c]) c

/-- one witness per class of generated file that does not type-check under `WriterFacts.legacy`
    (each re-derived by `go build` in the tie while that writer is the tree's) -/
theorem c13_illtyped_witnesses :
    wt .legacy (.basic .string) "C" [rule "url"] = some false ∧                                   -- ZodString has no method URL
    wt .legacy (.basic .string) "C" [rule "enum" ["a", "b"], rule "min" ["2"]] = some false ∧     -- gozod.Enum("a", "b").Min(2)
    wt .legacy (.slice (.basic .string)) "C" [rule "required"] = some false ∧                     -- gozod.Slice(elem): T cannot be inferred
    wt .legacy (.map (.basic .string) (.basic .int)) "C" [rule "required"] = some false ∧         -- gozod.Record(value): one argument short
    wt .legacy (.ptr (.slice (.basic .int))) "C" [rule "min" ["1"]] = some false ∧                -- gozod.FromStruct[[]int]().Min(1)
    wt .legacy (.ptr (.named (asc "C"))) "C" [rule "required"] = some false ∧                     -- gozod.Lazy(func() gozod.ZodType[any] { return gozod.FromStruct[C]() })
    wt .legacy (.slice (.ptr (.named (asc "C")))) "C" [] = some false ∧
    wt .legacy (.ptr .time) "C" [rule "required"] = some false ∧                                  -- gozod.FromStruct[time.Time](): package time is not imported
    wt .legacy (.basic .uint64) "C" [rule "max" ["18446744073709551615"]] = some false ∧          -- Max takes an int64
    wt .legacy (.basic .int) "C" [rule "gt" ["2.5"]] = some false ∧                               -- constant 2.5 truncated
    wt .legacy (.basic .string) "C" [rule "gt" ["2"]] = some false ∧                              -- ZodString has no Gt
    wt .legacy (.basic .bool) "C" [rule "min" ["1"]] = some false := by
  decide +kernel

/-- the self reference through a pointer or a slice is emitted the same way by every known writer (writer_test.go pins
    the text), and it does not type-check: `*ZodStruct[C, C]` is no `ZodType[any]` -/
theorem c13_lazy_self_reference_pinned :
    wt WF (.ptr (.named (asc "C"))) "C" [rule "required"] = some false ∧ wt WF (.slice (.ptr (.named (asc "C")))) "C" [] = some false ∧
    wt .head (.slice (.named (asc "C"))) "C" [] = some false := by
  decide +kernel

/-- `.IPv4()` / `.IPv6()` (rules outside docs/tags.md, cases of generateValidatorChain): no such method on ZodString, in every known writer -/
theorem c13_welltyped_full_false : ¬ c13_welltyped_full := by
  intro h
  have key : (emitChain WF (.basic .string) (asc "C") [rule "ipv4"]).any (fun c => wellTyped T false c != some true) = true := by
    decide +kernel
  obtain ⟨c, he, hw⟩ := (Option.any_eq_true _ _).mp key
  rw [h (.basic .string) (asc "C") [rule "ipv4"] c rfl he] at hw
  cases hw

/-- unused imports: `trim` / `lowercase` / `uppercase` write `import "strings"`, `ipv4` `net`, `refine` the core package
    — no emitted expression uses them (rules outside docs/tags.md); `WriterFacts.legacy` also wrote `net/url` for `url`;
    `regexp` is written exactly when a Regex call is (1af466f) -/
theorem c13_unused_import_witnesses :
    (["trim", "lowercase", "uppercase", "ipv4", "ipv6", "refine", "check"].all fun n =>
      match emitChain WF (.basic .string) (asc "C") [rule n] with
      | some c => !importsUsed WF [[rule n]] [c]
      | none => false) = true ∧
    (match emitChain .legacy (.basic .string) (asc "C") [rule "url"] with
      | some c => !importsUsed .legacy [[rule "url"]] [c]
      | none => false) = true ∧
    (match emitChain WF (.basic .string) (asc "C") [rule "regex" ["^a$"]] with
      | some c => importsUsed WF [[rule "regex" ["^a$"]]] [c]
      | none => false) = true := by
  decide +kernel

example : typedRegion (.basic .string) (asc "C") [rule "required", rule "min" ["2"], rule "regex" ["^[a-z]{2,4}$"], rule "email", rule "max" ["9"], rule "default" ["he\"llo"]] = true := by decide +kernel
example : typedRegion (.ptr (.basic .string)) (asc "C") [rule "uuid", rule "max" ["40"], rule "nilable"] = true := by decide +kernel
example : typedRegion (.basic .string) (asc "C") [rule "enum" ["red", "green"], rule "default" ["red"]] = true := by decide +kernel
example : typedRegion (.basic .int8) (asc "C") [rule "gte" ["-5"], rule "lt" ["100"], rule "default" ["3"]] = true := by decide +kernel
example : typedRegion (.ptr (.basic .float32)) (asc "C") [rule "gt" ["0.5"], rule "max" ["10"], rule "required"] = true := by decide +kernel
example : typedRegion (.basic .bool) (asc "C") [rule "default" ["true"]] = true := by decide +kernel
example : wt WF .time "C" [rule "required"] = some true ∧ wt WF (.named (asc "Inner")) "C" [] = some true ∧
    wt WF (.ptr (.named (asc "Inner"))) "C" [rule "required"] = some true := by decide +kernel

def modelMethods (W : WriterFacts) : List String :=
  ["Check", "Default", "Email", "Gt", "Gte", "IPv4", "IPv6"] ++ (if W.extraRules then ["Length"] else []) ++ ["Lt", "Lte", "Max", "Min"] ++
  (if W.extraRules then ["Negative"] else []) ++ ["Nilable"] ++ (if W.extraRules then ["NonNegative", "NonPositive"] else []) ++ ["Optional"] ++
  (if W.extraRules then ["Positive"] else []) ++ ["Prefault", "Refine", "Regex", "ToLowerCase", "ToUpperCase", "Trim", "URL"]

def modelCtors (W : WriterFacts) : List String :=
  ["Any", "Enum", "FromStruct", "Lazy", "Record", "Slice", "Time", "UUID"] ++ Basic.all.map Basic.ctorName ++
  (if W.urlCtor then ["URL"] else []) ++
  (if W.recordTyped then ["FromStructPtr", "RecordPtr", "SlicePtr", "TimePtr"] ++ Basic.all.map (·.ctorName ++ "Ptr") else [])

/-- go/ast over writer.go finds exactly the `.Name(` and `gozod.Name(` literals the transcription emits (sorted lists) -/
theorem c13_emitted_names :
    T.emittedMethods = modelMethods WF ∧ (∀ c ∈ T.emittedCtors, c ∈ modelCtors WF) ∧ (∀ c ∈ modelCtors WF, c ∈ T.emittedCtors) := by
  decide +kernel

end Gozod.C13
