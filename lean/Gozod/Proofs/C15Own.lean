/-
  C15 for EVERY schema-owned cell (`Gozod.Model.Owned`): not only the default / prefault handed out by Parse(nil), but
  the members of literals, the defaults of member schemas, and every schema embedded in an object / slice / record / union.

  Parse of any input with any schema only allocates, with no hypothesis at all (`parseS_ext`: the copy of a default is a
  `rebuild`, and nothing else stores).  For the code as it is (no literal hands out its declared member, `NoRet`) every
  cell of a result is allocated by the call or a cell of the caller's own input, never schema-owned (`own_result_fresh`);
  deep in-place mutation changes no reference (`own_mutate_reach`); so along ANY history of Parse calls and deep mutations
  of earlier results every cell that existed at the start holds what it held (`own_hist`).

  What `parseS` answers has three shapes: the value it was given (`parseS_keeps`: any, str, lit, slice, record), the copy
  of a default (`parseS_dflt_nil`), or a new cell holding those entries of the caller's map that the mode keeps
  (`parseS_obj_some`, `fold_obj_out`); `dflt` and `union` pass on what a member answers.

  (`parseS` and `stepC` copy with `Graph.copy`: on how it stands to the clone the code runs see the header of C15Agg.lean.)
-/
import Gozod.Model.Owned
import Gozod.Proofs.C15Agg

namespace Gozod.C15
open Gozod.Graph

/-- every cell the schema holds (literal members, defaults, those of every embedded schema) lies below `n` -/
def OwnedS (n : Nat) (h : GHeap) : GSchema → Prop
  | .any => True
  | .str _ => True
  | .lit _ ms => ∀ m ∈ ms, ∀ x ∈ reach gdepth h m, x < n
  | .dflt d t => (∀ x ∈ reach gdepth h d, x < n) ∧ OwnedS n h t
  | .obj _ _ kids => ∀ k, OwnedS n h (kids k)
  | .slice t => OwnedS n h t
  | .record t => OwnedS n h t
  | .union a b => OwnedS n h a ∧ OwnedS n h b

/-- the code as it is: no literal of the schema hands out its declared member -/
def NoRet : GSchema → Prop
  | .any => True
  | .str _ => True
  | .lit rm _ => rm = false
  | .dflt _ t => NoRet t
  | .obj _ _ kids => ∀ k, NoRet (kids k)
  | .slice t => NoRet t
  | .record t => NoRet t
  | .union a b => NoRet a ∧ NoRet b

theorem owned_ext {n m : Nat} {σ σ' : GStore} (hm : n ≤ m) (he : GExt n σ σ') :
    ∀ s, OwnedS n σ.heap s → OwnedS m σ'.heap s := by
  have key : ∀ d, (∀ x ∈ reach gdepth σ.heap d, x < n) → ∀ x ∈ reach gdepth σ'.heap d, x < m :=
    fun d hd x hx => Nat.lt_of_lt_of_le (bounded_frame he hd x hx) hm
  intro s
  induction s with
  | lit rm ms => intro h m hm; exact key m (h m hm)
  | dflt d t ih => intro h; exact ⟨key d h.1, ih h.2⟩
  | obj _ _ kids ih => intro h k; exact ih k (h k)
  | union a b iha ihb => intro h; exact ⟨iha h.1, ihb h.2⟩
  | slice t ih | record t ih => exact ih
  | any | str => exact id

/-- `foldEntries` on a cons, by the step's answer.  Only `_some` is used below; the other three characterise the definition. -/
theorem foldEntries_cons_none (step : GStore → Nat × GVal → StepRes) (p : Nat × GVal) (ps : Entries) (σ : GStore)
    (h : (step σ p).2 = none) : foldEntries step (p :: ps) σ = ((step σ p).1, none) := by
  rw [foldEntries, h]

theorem foldEntries_cons_skip (step : GStore → Nat × GVal → StepRes) (p : Nat × GVal) (ps : Entries) (σ : GStore)
    (h : (step σ p).2 = some none) :
    foldEntries step (p :: ps) σ = ((foldEntries step ps (step σ p).1).1,
      match (foldEntries step ps (step σ p).1).2 with
      | none => none
      | some out => some out) := by
  rw [foldEntries, h]
  rfl

theorem foldEntries_cons_keep (step : GStore → Nat × GVal → StepRes) (p : Nat × GVal) (ps : Entries) (σ : GStore)
    (x : Nat × GVal) (h : (step σ p).2 = some (some x)) :
    foldEntries step (p :: ps) σ = ((foldEntries step ps (step σ p).1).1,
      match (foldEntries step ps (step σ p).1).2 with
      | none => none
      | some out => some (x :: out)) := by
  rw [foldEntries, h]
  rfl

theorem foldEntries_cons_some {step : GStore → Nat × GVal → StepRes} {p : Nat × GVal} {ps : Entries} {σ : GStore}
    {out : Entries} (h : (foldEntries step (p :: ps) σ).2 = some out) :
    ∃ e out', (step σ p).2 = some e ∧ (foldEntries step ps (step σ p).1).2 = some out' ∧
      out = match e with | some x => x :: out' | none => out' := by
  unfold foldEntries at h
  split at h
  · cases h
  · next e he =>
    cases hr : (foldEntries step ps (step σ p).1).2 with
    | none => rw [hr] at h; cases h
    | some out' => rw [hr] at h; exact ⟨e, out', he, rfl, (Option.some.inj h).symm⟩

theorem fold_ext (step : GStore → Nat × GVal → StepRes) (hs : ∀ σ p, GExt σ.next σ (step σ p).1) (es : Entries) :
    ∀ σ, GExt σ.next σ (foldEntries step es σ).1 := by
  induction es with
  | nil => intro σ; exact GExt.refl _ _
  | cons p ps ih =>
    intro σ
    unfold foldEntries
    split
    · exact hs σ p
    · exact (hs σ p).seq (ih _)

theorem objStep_ext (mode : ObjMode) (fields : List Nat) (pk : Nat → GStore → GVal → GStore × Option GVal)
    (hpk : ∀ k σ v, GExt σ.next σ (pk k σ v).1) (σ : GStore) (p : Nat × GVal) :
    GExt σ.next σ (objStep mode fields pk σ p).1 := by
  unfold objStep
  split
  · exact hpk p.1 σ p.2
  · cases mode <;> exact GExt.refl _ _

def objKeeps (mode : ObjMode) (fields : List Nat) (p : Nat × GVal) : Bool :=
  match mode with
  | .strip => fields.contains p.1
  | _ => true

theorem objStep_some {mode : ObjMode} {fields : List Nat} {pk : Nat → GStore → GVal → GStore × Option GVal}
    {σ : GStore} {p : Nat × GVal} {e : Option (Nat × GVal)} (h : (objStep mode fields pk σ p).2 = some e) :
    e = if objKeeps mode fields p then some p else none := by
  unfold objStep at h
  split at h
  · next hc =>
    obtain ⟨_, _, rfl⟩ := Option.map_eq_some_iff.1 h
    cases mode <;> simp only [objKeeps, hc, ↓reduceIte]
  · next hc =>
    cases mode <;> simp only [unknownStep, Option.some.injEq, reduceCtorEq] at h <;>
      simp only [objKeeps, hc, ← h, Bool.false_eq_true, ↓reduceIte]

theorem fold_obj_out (mode : ObjMode) (fields : List Nat) (pk : Nat → GStore → GVal → GStore × Option GVal) :
    ∀ (es : Entries) (σ : GStore) (out : Entries), (foldEntries (objStep mode fields pk) es σ).2 = some out →
      out = es.filter (objKeeps mode fields) := by
  intro es
  induction es with
  | nil => intro σ out h; exact (Option.some.inj h).symm
  | cons p ps ih =>
    intro σ out h
    obtain ⟨e, out', he, hr, rfl⟩ := foldEntries_cons_some h
    rw [objStep_some he, ih _ out' hr, List.filter_cons]
    cases objKeeps mode fields p <;> rfl

theorem finish_none {r : GStore × Option Entries} (h : r.2 = none) : finish r = (r.1, none) := by
  simp only [finish, h]

theorem finish_some {r : GStore × Option Entries} {out : Entries} (h : r.2 = some out) :
    finish r = ((galloc r.1 out).1, some (.ref r.1.next)) := by
  simp only [finish, h]
  rfl

theorem finish_ext (r : GStore × Option Entries) : GExt r.1.next r.1 (finish r).1 := by
  unfold finish
  split
  · exact GExt.refl _ _
  · exact galloc_ext _ _ _ (Nat.le_refl _)

theorem lit_parse (rm : Bool) (ms : List GVal) (σ : GStore) (v : GVal) (hv : v ≠ .nil) :
    parseS (.lit rm ms) σ v =
      match litFind σ.heap ms v with
      | some m => (σ, some (if rm then m else v))
      | none => (σ, none) := by
  cases v <;> first | exact absurd rfl hv | rfl

theorem parseS_dflt_nil (d : GVal) (t : GSchema) (σ : GStore) :
    parseS (.dflt d t) σ .nil = ((copy true gdepth σ d).1, some (copy true gdepth σ d).2) := rfl

theorem dflt_parse (d : GVal) (t : GSchema) (σ : GStore) (v : GVal) (hv : v ≠ .nil) :
    parseS (.dflt d t) σ v = parseS t σ v := by
  cases v <;> first | exact absurd rfl hv | simp only [parseS]

theorem union_parse_some (a b : GSchema) {σ : GStore} {v r : GVal} (hv : v ≠ .nil) (ha : (parseS a σ v).2 = some r) :
    parseS (.union a b) σ v = ((parseS a σ v).1, some r) := by
  cases v <;> first | exact absurd rfl hv | simp only [parseS, ha]

theorem union_parse_none (a b : GSchema) {σ : GStore} {v : GVal} (hv : v ≠ .nil) (ha : (parseS a σ v).2 = none) :
    parseS (.union a b) σ v = parseS b (parseS a σ v).1 v := by
  cases v <;> first | exact absurd rfl hv | simp only [parseS, ha]

/-- `.slice` and `.record` are this one pass, over cells of a different kind -/
def valPass (ok : Entries → Bool) (pk : GStore → GVal → GStore × Option GVal) (σ : GStore) (v : GVal) :
    GStore × Option GVal :=
  match v with
  | .ref l => if ok (readG σ.heap l) then validated (foldEntries (valStep pk) (readG σ.heap l) σ) v else (σ, none)
  | _ => (σ, none)

theorem parseS_slice (t : GSchema) (σ : GStore) (v : GVal) : parseS (.slice t) σ v = valPass isSliceCell (parseS t) σ v := by
  cases v <;> rfl

theorem parseS_record (t : GSchema) (σ : GStore) (v : GVal) : parseS (.record t) σ v = valPass isMapCell (parseS t) σ v := by
  cases v <;> rfl

theorem valPass_ext (ok : Entries → Bool) (pk : GStore → GVal → GStore × Option GVal)
    (hpk : ∀ σ v, GExt σ.next σ (pk σ v).1) (σ : GStore) (v : GVal) : GExt σ.next σ (valPass ok pk σ v).1 := by
  unfold valPass
  split
  · split
    · unfold validated
      split <;> exact fold_ext _ (fun σ p => hpk σ p.2) _ σ
    · exact GExt.refl _ _
  · exact GExt.refl _ _

theorem valPass_some {ok : Entries → Bool} {pk : GStore → GVal → GStore × Option GVal} {σ : GStore} {v r : GVal}
    (h : (valPass ok pk σ v).2 = some r) : r = v := by
  unfold valPass at h
  split at h
  · split at h
    · unfold validated at h
      split at h
      · exact (Option.some.inj h).symm
      · cases h
    · cases h
  · cases h

def keepsRoot : GSchema → Bool
  | .any | .str _ | .lit false _ | .slice _ | .record _ => true
  | _ => false

theorem parseS_keeps {s : GSchema} (hk : keepsRoot s = true) {σ : GStore} {v r : GVal}
    (h : (parseS s σ v).2 = some r) : r = v := by
  cases s with
  | any => exact (Option.some.inj h).symm
  | str ss =>
    unfold parseS at h
    split at h
    · split at h
      · exact (Option.some.inj h).symm
      · cases h
    · cases h
  | lit rm ms =>
    obtain rfl : rm = false := by cases rm <;> first | rfl | cases hk
    unfold parseS at h
    split at h
    · cases h
    · split at h
      · exact (Option.some.inj h).symm
      · cases h
  | slice t => exact valPass_some (parseS_slice t σ v ▸ h)
  | record t => exact valPass_some (parseS_record t σ v ▸ h)
  | dflt | obj | union => cases hk

def objOk (fields : List Nat) (es : Entries) : Bool :=
  isMapCell es && fields.all (fun k => es.any (fun p => p.1 == k))

theorem parseS_obj_ref (mode : ObjMode) (fields : List Nat) (kids : Nat → GSchema) (σ : GStore) (l : Loc) :
    parseS (.obj mode fields kids) σ (.ref l) =
      if objOk fields (readG σ.heap l) then
        finish (foldEntries (objStep mode fields (fun k => parseS (kids k))) (readG σ.heap l) σ)
      else (σ, none) := rfl

theorem parseS_ext : ∀ (s : GSchema) (σ : GStore) (v : GVal), GExt σ.next σ (parseS s σ v).1 := by
  intro s
  induction s with
  | any => intro σ v; exact GExt.refl _ _
  | str ss =>
    intro σ v
    unfold parseS
    split <;> exact GExt.refl _ _
  | lit rm ms =>
    intro σ v
    unfold parseS
    split
    · exact GExt.refl _ _
    · split <;> exact GExt.refl _ _
  | dflt d t ih =>
    intro σ v
    unfold parseS
    split
    · exact copy_ext gdepth σ d
    · exact ih σ v
  | obj mode fields kids ih =>
    intro σ v
    unfold parseS
    split
    · split
      · exact (fold_ext _ (objStep_ext mode fields _ ih) _ σ).seq (finish_ext _)
      · exact GExt.refl _ _
    · exact GExt.refl _ _
  | slice t ih => intro σ v; rw [parseS_slice]; exact valPass_ext _ _ ih σ v
  | record t ih => intro σ v; rw [parseS_record]; exact valPass_ext _ _ ih σ v
  | union a b iha ihb =>
    intro σ v
    unfold parseS
    split
    · exact GExt.refl _ _
    · split
      · exact iha σ v
      · exact (iha σ v).seq (ihb _ v)

theorem parseS_obj_some {mode : ObjMode} {fields : List Nat} {kids : Nat → GSchema} {σ : GStore} {v r : GVal}
    (h : (parseS (.obj mode fields kids) σ v).2 = some r) :
    ∃ l τ, v = .ref l ∧ objOk fields (readG σ.heap l) = true ∧ GExt σ.next σ τ ∧
      parseS (.obj mode fields kids) σ v =
        ((galloc τ ((readG σ.heap l).filter (objKeeps mode fields))).1, some (.ref τ.next)) := by
  cases v with
  | ref l =>
    rw [parseS_obj_ref] at h ⊢
    by_cases hc : objOk fields (readG σ.heap l) = true
    · rw [if_pos hc] at h ⊢
      cases hout : (foldEntries (objStep mode fields (fun k => parseS (kids k))) (readG σ.heap l) σ).2 with
      | none => rw [finish_none hout] at h; cases h
      | some out =>
        obtain rfl := fold_obj_out mode fields _ _ σ out hout
        exact ⟨l, _, rfl, hc, fold_ext _ (objStep_ext mode fields _ (fun k => parseS_ext (kids k))) _ σ, finish_some hout⟩
    · rw [if_neg hc] at h
      cases h
  | scalar | nil | agg => cases h

/-- `parseS_ext` with two hypotheses that are NOT USED -/
def ParseExt (s : GSchema) : Prop :=
  ∀ (σ : GStore) (v : GVal) (n : Nat), n ≤ σ.next → OwnedS n σ.heap s → GExt σ.next σ (parseS s σ v).1

/-- Parse — of any value, with any schema of the language, accepted or refused — only allocates: every cell that existed
    before the call (the schema's, the caller's) holds what it held. -/
theorem own_parse_ext : ∀ s, ParseExt s :=
  fun s σ v _ _ _ => parseS_ext s σ v

theorem kept_cells (s : GSchema) {σ : GStore} {v : GVal} (hv : ∀ x ∈ reach gdepth σ.heap v, x < σ.next) :
    ∀ x ∈ reach gdepth (parseS s σ v).1.heap v,
      (σ.next ≤ x ∧ x < (parseS s σ v).1.next) ∨ x ∈ reach gdepth σ.heap v :=
  fun _ hx => Or.inr ((g_graph_frame gdepth _ _ _ v (parseS_ext s σ v) hv).1 ▸ hx)

/-- for the code as it is (`NoRet`): every cell reachable from what Parse returns — whatever the schema, whatever the
    input — was either allocated by this call or is reachable from the caller's own input.  With the schema's cells below
    `n ≤ σ.next` and the input's cells not among them, no schema-owned cell is handed out. -/
theorem own_result_fresh (s : GSchema) (hnr : NoRet s) (σ : GStore) (v : GVal) (n : Nat) (hn : n ≤ σ.next)
    (ho : OwnedS n σ.heap s) (hv : ∀ x ∈ reach gdepth σ.heap v, x < σ.next) (r : GVal)
    (hr : (parseS s σ v).2 = some r) :
    ∀ x ∈ reach gdepth (parseS s σ v).1.heap r,
      (σ.next ≤ x ∧ x < (parseS s σ v).1.next) ∨ x ∈ reach gdepth σ.heap v := by
  induction s generalizing σ v n r with
  | dflt d t ih =>
    by_cases hv0 : v = .nil
    · subst hv0
      cases hr
      exact fun x hx => Or.inl ((g_copyOK gdepth σ d n hn ho.1).2.2 x hx)
    · rw [dflt_parse d t σ v hv0] at hr ⊢
      exact ih hnr σ v n hn ho.2 hv r hr
  | obj mode fields kids =>
    obtain ⟨l, τ, rfl, _, e1, hp⟩ := parseS_obj_some hr
    rw [hp] at hr ⊢
    cases hr
    intro x hx
    rcases mem_reach_ref.1 hx with rfl | ⟨e, he, hx⟩
    · exact Or.inl ⟨e1.1, Nat.lt_succ_self _⟩
    · -- an entry of the new map is an entry of the caller's map: its cells are the caller's
      rw [readG_galloc_new] at he
      have hin := (List.mem_filter.1 he).1
      -- 15 = gdepth - 1: the entries of the root cell are followed one level less deep (`rw` needs the numeral the goal shows)
      rw [(g_graph_frame 15 _ _ _ e.2 (e1.seq (galloc_ext _ _ _ (Nat.le_refl _)))
        (fun y hy => hv y (mem_reach_ref.2 (.inr ⟨e, hin, hy⟩)))).1] at hx
      exact Or.inr (mem_reach_ref.2 (.inr ⟨e, hin, hx⟩))
  | union a b iha ihb =>
    by_cases hv0 : v = .nil
    · subst hv0
      cases hr
    · have ea := parseS_ext a σ v
      cases ha : (parseS a σ v).2 with
      | some r' =>
        rw [union_parse_some a b hv0 ha] at hr ⊢
        exact iha hnr.1 σ v n hn ho.1 hv r (Option.some.inj hr ▸ ha)
      | none =>
        rw [union_parse_none a b hv0 ha] at hr ⊢
        have hfr := (g_graph_frame gdepth σ.next σ _ v ea hv).1
        intro x hx
        rcases ihb hnr.2 _ v n (Nat.le_trans hn ea.1) (owned_ext (Nat.le_refl _) (ea.mono hn) b ho.2)
          (fun y hy => Nat.lt_of_lt_of_le (bounded_frame ea hv y hy) ea.1) r hr x hx with h | h
        · exact Or.inl ⟨Nat.le_trans ea.1 h.1, h.2⟩
        · exact Or.inr (hfr ▸ h)
  | lit rm ms =>
    obtain rfl : rm = false := hnr
    obtain rfl := parseS_keeps rfl hr
    exact kept_cells _ hv
  | any | str | slice | record =>
    obtain rfl := parseS_keeps rfl hr
    exact kept_cells _ hv

theorem reach_scalar (F : Nat) (h : GHeap) (k : Nat) : reach F h (.scalar k) = [] := by
  cases F <;> rfl

theorem scrub_reach (F : Nat) : ∀ (G : Nat) (h : GHeap) (v : GVal), reach F h (scrub G v) = reach F h v := by
  induction F with
  | zero => intro G h v; rfl
  | succ F ih =>
    intro G h v
    cases G with
    | zero => rfl
    | succ G =>
      cases v with
      | scalar k => rfl
      | nil => rfl
      | ref l => rfl
      | agg fs =>
        simp only [scrub, reach, List.flatMap_map]
        exact flatMap_congr' _ _ _ (fun p _ => ih G h p.2)

theorem readG_assign (σ : GStore) (l l' : Loc) (c : Entries) :
    readG (assign σ l c).heap l' = if l' = l then c else readG σ.heap l' := by
  by_cases h : l' = l <;> simp only [readG, assign, gupd, h, ↓reduceIte]

theorem assign_scrub_reach (σ : GStore) (l : Loc) (F : Nat) : ∀ (v : GVal),
    reach F (assign σ l (scrubCell (readG σ.heap l))).heap v = reach F σ.heap v := by
  induction F with
  | zero => intro v; rfl
  | succ F ih =>
    intro v
    cases v with
    | scalar k => rfl
    | nil => rfl
    | agg fs =>
      simp only [reach]
      exact flatMap_congr' _ _ _ (fun p _ => ih p.2)
    | ref l' =>
      simp only [reach, readG_assign]
      congr 1
      split
      · next hl =>
        -- the scrubbed cell: its references are kept, the entry added holds a scalar
        subst hl
        simp only [scrubCell, List.flatMap_append, List.flatMap_map, List.flatMap_cons, List.flatMap_nil,
          reach_scalar, List.append_nil]
        exact flatMap_congr' _ _ _ (fun p _ => (ih _).trans (scrub_reach F gdepth σ.heap p.2))
      · exact flatMap_congr' _ _ _ (fun p _ => ih p.2)

/-- the deep in-place mutation of everything reachable from `v` (every scalar at every nesting changed, an entry added to
    every cell) changes no reference: from any value `w` the same cells are reachable. -/
theorem own_mutate_reach (σ : GStore) (v w : GVal) :
    reach gdepth (mutateAll σ v).heap w = reach gdepth σ.heap w ∧ (mutateAll σ v).next = σ.next := by
  refine List.foldlRecOn (motive := fun (τ : GStore) => reach gdepth τ.heap w = reach gdepth σ.heap w ∧ τ.next = σ.next) _ _
    ⟨rfl, rfl⟩ fun τ hτ l _ => ?_
  exact ⟨(assign_scrub_reach τ l gdepth w).trans hτ.1, hτ.2⟩

def HInv (σ0 : GStore) (st : CState) : Prop :=
  GExt σ0.next σ0 st.σ ∧
  ∀ r : GVal, some r ∈ st.results → ∀ x ∈ reach gdepth st.σ.heap r, σ0.next ≤ x ∧ x < st.σ.next

theorem hinv_step (fam : List GSchema) (ins : List GVal) (σ0 : GStore)
    (hfam : ∀ s ∈ fam, NoRet s ∧ OwnedS σ0.next σ0.heap s)
    (hins : ∀ v ∈ ins, ∀ x ∈ reach gdepth σ0.heap v, x < σ0.next)
    (st : CState) (hi : HInv σ0 st) (c : CStep) : HInv σ0 (stepC fam ins st c) := by
  obtain ⟨he, hres⟩ := hi
  cases c with
  | mutate k =>
    simp only [stepC]
    split
    · next v hk =>
      have hv : some v ∈ st.results := List.mem_of_getElem? hk
      have hmr := fun w => own_mutate_reach st.σ v w
      refine ⟨he.trans (mutateAll_ext σ0.next st.σ v (fun x hx => (hres v hv x hx).1)), fun r hr x hx => ?_⟩
      rw [(hmr r).1] at hx
      rw [(hmr r).2]
      exact hres r hr x hx
    · exact ⟨he, hres⟩
  | parse j i =>
    simp only [stepC]
    split
    · next s v hj hi' =>
      have hs := hfam s (List.mem_of_getElem? hj)
      have hv0 := hins v (List.mem_of_getElem? hi')
      -- the caller's new copy of the input
      have hv : ∀ x ∈ reach gdepth st.σ.heap v, x < st.σ.next :=
        fun x hx => Nat.lt_of_lt_of_le (bounded_frame he hv0 x hx) he.1
      obtain ⟨ec, _, hcr⟩ := g_copyOK gdepth st.σ v st.σ.next (Nat.le_refl _) hv
      have he1 : GExt σ0.next σ0 (copy true gdepth st.σ v).1 := he.trans (ec.mono he.1)
      have ep := parseS_ext s (copy true gdepth st.σ v).1 (copy true gdepth st.σ v).2
      refine ⟨he1.trans (ep.mono he1.1), fun r hr x hx => ?_⟩
      rcases List.mem_append.1 hr with hr | hr
      · -- an earlier result: its cells existed, so they are as they were
        have e2 := ec.seq ep
        rw [(g_graph_frame gdepth _ _ _ r e2 (fun y hy => (hres r hr y hy).2)).1] at hx
        exact ⟨(hres r hr x hx).1, Nat.lt_of_lt_of_le (hres r hr x hx).2 e2.1⟩
      · -- the new result: new cells and cells of the caller's new copy
        rcases own_result_fresh s hs.1 _ _ σ0.next he1.1 (owned_ext (Nat.le_refl _) he1 s hs.2)
          (fun x hx => (hcr x hx).2) r (List.mem_singleton.1 hr).symm x hx with h | h
        · exact ⟨Nat.le_trans he1.1 h.1, h.2⟩
        · exact ⟨Nat.le_trans he.1 (hcr x h).1, Nat.lt_of_lt_of_le (hcr x h).2 ep.1⟩
    · exact ⟨he, hres⟩

/-- ANY history — Parse with any schema of the family of a newly built copy of any input, deep in-place mutation of any
    earlier result, in any order, any number of times. Every cell that existed at the start — all that the schemas hold
    and the caller's original inputs — holds what it held, and every result consists of cells allocated during the history.
    Nothing is assumed about where the caller writes: that it cannot reach a schema-owned cell is part of what is proved. -/
theorem own_hist (fam : List GSchema) (ins : List GVal) (σ0 : GStore)
    (hfam : ∀ s ∈ fam, NoRet s ∧ OwnedS σ0.next σ0.heap s)
    (hins : ∀ v ∈ ins, ∀ x ∈ reach gdepth σ0.heap v, x < σ0.next) (steps : List CStep) :
    HInv σ0 (runC fam ins { σ := σ0, results := [] } steps) := by
  exact List.foldlRecOn steps _ ⟨GExt.refl _ _, fun r hr => nomatch hr⟩ fun st hi c _ => hinv_step fam ins σ0 hfam hins st hi c

/-- after any history every value that lay in the initial store — every literal member, every default, every original
    input — consists of the same cells and looks the same, and every schema of the family still owns what it owned. -/
theorem own_hist_schema_look (fam : List GSchema) (ins : List GVal) (σ0 : GStore)
    (hfam : ∀ s ∈ fam, NoRet s ∧ OwnedS σ0.next σ0.heap s)
    (hins : ∀ v ∈ ins, ∀ x ∈ reach gdepth σ0.heap v, x < σ0.next) (steps : List CStep) :
    (∀ l, l < σ0.next → (runC fam ins { σ := σ0, results := [] } steps).σ.heap l = σ0.heap l) ∧
    (∀ w, (∀ x ∈ reach gdepth σ0.heap w, x < σ0.next) →
      reach gdepth (runC fam ins { σ := σ0, results := [] } steps).σ.heap w = reach gdepth σ0.heap w ∧
      ser gdepth (runC fam ins { σ := σ0, results := [] } steps).σ.heap w = ser gdepth σ0.heap w) ∧
    (∀ s ∈ fam, OwnedS σ0.next (runC fam ins { σ := σ0, results := [] } steps).σ.heap s) := by
  have h := (own_hist fam ins σ0 hfam hins steps).1
  exact ⟨h.2, fun w hw => g_graph_frame gdepth σ0.next σ0 _ w h hw, fun s hs => owned_ext (Nat.le_refl _) h s (hfam s hs).2⟩

/-- cell 1 = the schema's literal member `[7]`; cells 2 and 3 = two equal inputs `[7]` the caller built -/
def σw : GStore :=
  { heap := gupd (gupd (gupd (fun _ => none) 1 [(0, .scalar 7)]) 2 [(0, .scalar 7)]) 3 [(0, .scalar 7)], next := 4 }

def isRef (o : Option GVal) (l : Loc) : Bool :=
  match o with
  | some (.ref x) => x == l
  | _ => false

/-- Witness (a literal that continues with its declared member — the class of seeded/C15c): the result of the first
    Parse is the schema's own cell 1; one store through it, and the equal input 3 is refused by the same schema. -/
theorem lit_member_shared :
    let s := GSchema.lit true [.ref 1]
    let r := parseS s σw (.ref 2)
    isRef r.2 1 = true ∧
    (parseS s σw (.ref 3)).2.isSome = true ∧
    (parseS s (assign r.1 1 [(0, .scalar 99)]) (.ref 3)).2.isSome = false := by decide +kernel

/-- the code as it is: the caller's own value comes back; mutating everything reachable from it leaves the literal alone -/
example :
    let s := GSchema.lit false [.ref 1]
    let r := parseS s σw (.ref 2)
    isRef r.2 2 = true ∧ isRef (parseS s (mutateAll r.1 (.ref 2)) (.ref 3)).2 3 = true := by decide +kernel

/-- the hypotheses of `own_hist` are satisfiable: an object schema embedding the literal, a defaulted slice of it -/
example :
    let fam := [GSchema.lit false [.ref 1], .obj .strip [9] (fun _ => .lit false [.ref 1]), .dflt (.ref 1) (.slice (.lit false [.ref 1]))]
    (∀ s ∈ fam, NoRet s ∧ OwnedS σw.next σw.heap s) ∧ (∀ v ∈ [GVal.ref 2, .ref 3], ∀ x ∈ reach gdepth σw.heap v, x < σw.next) := by
  have h1 : ∀ m ∈ [GVal.ref 1], ∀ x ∈ reach gdepth σw.heap m, x < σw.next := by decide +kernel
  have h2 : ∀ x ∈ reach gdepth σw.heap (.ref 1), x < σw.next := by decide +kernel
  refine ⟨fun s hs => ?_, by decide⟩
  simp only [List.mem_cons, List.not_mem_nil, or_false] at hs
  rcases hs with rfl | rfl | rfl
  · exact ⟨rfl, h1⟩
  · exact ⟨fun _ => rfl, fun _ => h1⟩
  · exact ⟨rfl, h2, h1⟩

end Gozod.C15
