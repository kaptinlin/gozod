/-
  C18 — evaluating the regenerated tables in the kernel.  The tables are keyed by strings and the theorems about them are
  decided by the kernel, which compares two strings byte by byte after UTF-8 encoding both, again at every comparison, but
  two Nat literals in one step.  So strings are coded injectively as Nats (`natKey`), once per string, and the comparisons,
  `contains`, `lookup` and `find?` of a statement are rewritten into their `natKey` forms before they are evaluated.
-/
namespace Gozod.C18

/-- the bytes of the string as digits 1..256 in base 257 -/
def natKey (s : String) : Nat := s.toByteArray.data.toList.foldr (fun b n => n * 257 + (b.toNat + 1)) 0

theorem natKey_inj {a b : String} : natKey a = natKey b ↔ a = b := by
  refine ⟨fun h => String.toByteArray_inj.1 (ByteArray.ext (Array.ext' ?_)), congrArg natKey⟩
  unfold natKey at h
  generalize a.toByteArray.data.toList = x, b.toByteArray.data.toList = y at h
  induction x generalizing y <;> cases y <;> simp only [List.foldr_cons, List.foldr_nil] at h
  · rfl
  · omega
  · omega
  · next c x ih d y =>
    have := c.toNat_lt
    have := d.toNat_lt
    rw [ih y (by omega), UInt8.toNat_inj.1 (by omega : c.toNat = d.toNat)]

theorem beq_natKey (a b : String) : (a == b) = (natKey a == natKey b) := by
  rw [Bool.eq_iff_iff, beq_iff_eq, beq_iff_eq, natKey_inj]

/-- `f n`, with `n` evaluated first.  The kernel passes arguments unevaluated and remembers results by the syntactic form of
    the term: `f (natKey s.leaf)` is computed anew for every row `s`, whereas `evalFirst f (natKey s.leaf)` steps to `f 7`
    (say), which is computed once for all the rows with that leaf. -/
def evalFirst {β : Type} (f : Nat → β) : Nat → β
  | 0 => f 0
  | n + 1 => f (n + 1)

theorem evalFirst_eq {β : Type} (f : Nat → β) (n : Nat) : evalFirst f n = f n := by cases n <;> rfl

def evalFirstStr {β : Type} (f : String → β) : String → β
  | ⟨bytes, valid⟩ => f ⟨bytes, valid⟩

-- not the term `rfl`: as definitional rewrites these two send `simp` into a loop through `evalFirstStr`
theorem toList_first (s : String) : s.toList = evalFirstStr String.toList s := by cases s; rfl

/-- rewrites its own right-hand side: use with `simp (singlePass := true)` -/
theorem startsWith_first (s p : String) : s.startsWith p = evalFirstStr (String.startsWith · p) s := by cases s; rfl

theorem contains_natKey (l : List String) (k : String) :
    l.contains k = evalFirst (List.map natKey l).contains (natKey k) := by
  induction l <;> simp_all [evalFirst_eq, natKey_inj]

theorem lookup_natKey {β : Type} (l : List (String × β)) (k : String) :
    l.lookup k = evalFirst (fun n => (l.map fun e => (natKey e.1, e.2)).lookup n) (natKey k) := by
  induction l <;> simp_all [evalFirst_eq, List.lookup, beq_natKey]

/-- stated for the form `beq_natKey` leaves behind -/
theorem find?_natKey {α : Type} (l : List α) (f : α → String) (k : String) :
    l.find? (fun a => natKey (f a) == natKey k) = evalFirst (fun n => l.find? fun a => natKey (f a) == n) (natKey k) :=
  (evalFirst_eq (fun n => l.find? fun a => natKey (f a) == n) (natKey k)).symm

end Gozod.C18
