/-
  C15 — the relational half of the property for the `own` language (`Gozod.Model.Owned`).

  `own_hist` (C15Own) says: after any history every cell a schema holds contains what it contained.  The property's words
  are about ANSWERS: "mutating a value returned by Parse never changes what any later Parse returns".  The step from the
  first to the second is a congruence: what `parseS` answers depends only on how the schema's cells and the input LOOK
  (`Look`: the same tree `unfold` at every depth, C15Agg).

  `Agree`: every literal member / default of a schema looks the same (`ser gdepth`) in two stores.  With the same schema,
  stores that agree on it and inputs that look the same, Parse gives the same verdict and answers that look the same
  (`own_parse_congr`).  The deep copy a caller makes of a value looks like the value at every depth (`copy_look`).  So in
  ANY history two parses of (schema j, a new copy of input i) give the same verdict and answers that look the same
  (`own_hist_same_answer`).

  The induction (`own_parse_congr_from`) is stated from two STARTING stores: the schema's cells (`Held`) and the inputs
  (`Alike`) are looked at there, the parses run in any `Later` stores.  So nothing is carried along a run but `GExt`, and
  the two passes over a container only have to agree on the verdict (`fold_verdict`): what an object answers is a filter
  of the caller's entries (`fold_obj_out`), and `Sim` — the list equality `Look` gives for two cells — goes through a
  filter on keys by `List.filter_map`.
-/
import Gozod.Proofs.C15Own

namespace Gozod.C15
open Gozod.Graph

structure Alike (β1 β2 : GStore) (v1 v2 : GVal) : Prop where
  look : Look β1.heap v1 β2.heap v2
  b1 : Below β1 v1
  b2 : Below β2 v2

structure Later (β1 β2 σ1 σ2 : GStore) : Prop where
  e1 : GExt β1.next β1 σ1
  e2 : GExt β2.next β2 σ2

theorem Later.seq {β1 β2 σ1 σ2 τ1 τ2 : GStore} (h : Later β1 β2 σ1 σ2) (x1 : GExt σ1.next σ1 τ1) (x2 : GExt σ2.next σ2 τ2) :
    Later β1 β2 τ1 τ2 :=
  ⟨h.e1.seq x1, h.e2.seq x2⟩

theorem Alike.ser {β1 β2 σ1 σ2 : GStore} {v1 v2 : GVal} (a : Alike β1 β2 v1 v2) (l : Later β1 β2 σ1 σ2) :
    ser gdepth σ1.heap v1 = ser gdepth σ2.heap v2 := by
  refine ser_of_unfold gdepth _ _ _ _ ?_
  rw [unfold_frame _ _ β1 σ1 v1 l.e1 (a.b1 _), unfold_frame _ _ β2 σ2 v2 l.e2 (a.b2 _)]
  exact a.look _

def Sim (h1 h2 : GHeap) (es1 es2 : Entries) : Prop :=
  ∀ f, es1.map (fun p => (p.1, unfold f h1 p.2)) = es2.map (fun p => (p.1, unfold f h2 p.2))

theorem Sim.keys {h1 h2 : GHeap} {es1 es2 : Entries} (h : Sim h1 h2 es1 es2) : es1.map (·.1) = es2.map (·.1) := by
  simpa only [List.map_map, Function.comp_def] using congrArg (List.map Prod.fst) (h 0)

theorem Sim.cons {h1 h2 : GHeap} {a b : Nat × GVal} {l1 l2 : Entries} (h : Sim h1 h2 (a :: l1) (b :: l2)) :
    a.1 = b.1 ∧ Look h1 a.2 h2 b.2 ∧ Sim h1 h2 l1 l2 := by
  have hh : ∀ f, (a.1 = b.1 ∧ unfold f h1 a.2 = unfold f h2 b.2) ∧
      l1.map (fun p => (p.1, unfold f h1 p.2)) = l2.map (fun p => (p.1, unfold f h2 p.2)) := fun f => by
    simpa only [List.map_cons, List.cons.injEq, Prod.mk.injEq] using h f
  exact ⟨(hh 0).1.1, fun f => (hh f).1.2, fun f => (hh f).2⟩

theorem Sim.filter {h1 h2 : GHeap} {es1 es2 : Entries} (h : Sim h1 h2 es1 es2) (P : Nat × GVal → Bool) (K : Nat → Bool)
    (hP : ∀ p, P p = K p.1) : Sim h1 h2 (es1.filter P) (es2.filter P) := by
  intro f
  have key : ∀ (g : GHeap) (es : Entries), (es.filter P).map (fun p => (p.1, unfold f g p.2)) =
      (es.map (fun p => (p.1, unfold f g p.2))).filter (fun q => K q.1) := fun g es => by
    rw [List.filter_map, funext hP]
    rfl
  rw [key, key, h f]

theorem key_all (P : Nat → Bool) (es : Entries) : es.all (fun p => P p.1) = (es.map (·.1)).all P := List.all_map.symm

theorem key_any (P : Nat → Bool) (es : Entries) : es.any (fun p => P p.1) = (es.map (·.1)).any P := List.any_map.symm

theorem look_nil_cases {h1 h2 : GHeap} {v1 v2 : GVal} (hl : Look h1 v1 h2 v2) :
    (v1 = .nil ∧ v2 = .nil) ∨ (v1 ≠ .nil ∧ v2 ≠ .nil) := by
  have := hl 1
  cases v1 <;> cases v2 <;> simp [unfold] at this ⊢

theorem below_entry {σ : GStore} {l : Loc} (hb : Below σ (.ref l)) : ∀ p ∈ readG σ.heap l, Below σ p.2 :=
  fun p hp f x hx => hb (f + 1) x (mem_reach_ref.2 (.inr ⟨p, hp, hx⟩))

theorem look_cases {h1 h2 : GHeap} {v1 v2 : GVal} (hl : Look h1 v1 h2 v2) :
    (∃ n, v1 = .scalar n ∧ v2 = .scalar n) ∨ (v1 = .nil ∧ v2 = .nil) ∨
    (∃ l1 l2, v1 = .ref l1 ∧ v2 = .ref l2 ∧ Sim h1 h2 (readG h1 l1) (readG h2 l2)) ∨
    (∃ f1 f2, v1 = .agg f1 ∧ v2 = .agg f2) := by
  have h1' := hl 1
  cases v1 <;> cases v2 <;> simp only [unfold, Tree.scalar.injEq, reduceCtorEq] at h1'
  · subst h1'; exact Or.inl ⟨_, rfl, rfl⟩
  · exact Or.inr (Or.inl ⟨rfl, rfl⟩)
  · exact Or.inr (Or.inr (Or.inl ⟨_, _, rfl, rfl, fun f => by simpa only [unfold, Tree.node.injEq] using hl (f + 1)⟩))
  · exact Or.inr (Or.inr (Or.inr ⟨_, _, rfl, rfl⟩))

theorem Sim.later {β1 β2 σ1 σ2 : GStore} {es1 es2 : Entries} (h : Sim β1.heap β2.heap es1 es2)
    (b1 : ∀ p ∈ es1, Below β1 p.2) (b2 : ∀ q ∈ es2, Below β2 q.2) (l : Later β1 β2 σ1 σ2) :
    Sim σ1.heap σ2.heap es1 es2 := by
  intro f
  exact (List.map_congr_left (fun p hp => by rw [unfold_frame f _ β1 σ1 p.2 l.e1 (b1 p hp f)])).trans
    ((h f).trans (List.map_congr_left (fun q hq => by rw [unfold_frame f _ β2 σ2 q.2 l.e2 (b2 q hq f)])))

/-- the schema's side is compared at the observation depth (`ser gdepth`), the inputs at every depth (`Look`): `litFind`
    compares `ser gdepth` of a member with that of the input, and a member nested in objects meets an entry of the input
    that lies as many levels down -/
def Agree (h1 h2 : GHeap) : GSchema → Prop
  | .any => True
  | .str _ => True
  | .lit _ ms => ∀ m ∈ ms, ser gdepth h1 m = ser gdepth h2 m
  | .dflt d t => ser gdepth h1 d = ser gdepth h2 d ∧ Agree h1 h2 t
  | .obj _ _ kids => ∀ k, Agree h1 h2 (kids k)
  | .slice t => Agree h1 h2 t
  | .record t => Agree h1 h2 t
  | .union a b => Agree h1 h2 a ∧ Agree h1 h2 b

theorem agree_of_ext {n : Nat} {σ σ1 σ2 : GStore} (e1 : GExt n σ σ1) (e2 : GExt n σ σ2) :
    ∀ s, OwnedS n σ.heap s → Agree σ1.heap σ2.heap s := by
  have key : ∀ d, (∀ x ∈ reach gdepth σ.heap d, x < n) → ser gdepth σ1.heap d = ser gdepth σ2.heap d :=
    fun d hd => by rw [(g_graph_frame gdepth n σ σ1 d e1 hd).2, (g_graph_frame gdepth n σ σ2 d e2 hd).2]
  intro s
  induction s with
  | lit rm ms => intro o m hm; exact key m (o m hm)
  | dflt d t ih => intro o; exact ⟨key d o.1, ih o.2⟩
  | obj _ _ kids ih => intro o k; exact ih k (o k)
  | union a b iha ihb => intro o; exact ⟨iha o.1, ihb o.2⟩
  | slice t ih | record t ih => exact ih
  | any | str => intro _; trivial

theorem isSome_cases {α β : Type} {o1 : Option α} {o2 : Option β} (h : o1.isSome = o2.isSome) :
    (o1 = none ∧ o2 = none) ∨ ∃ a b, o1 = some a ∧ o2 = some b := by
  cases o1 <;> cases o2 <;> first | exact .inl ⟨rfl, rfl⟩ | exact .inr ⟨_, _, rfl, rfl⟩ | cases h

/-- WHAT comes out of the passes is not compared: an object's result is a filter of its input (`fold_obj_out`) -/
theorem fold_verdict {β1 β2 : GStore} (step1 step2 : GStore → Nat × GVal → StepRes)
    (hs : ∀ σ1 σ2 p q, Later β1 β2 σ1 σ2 → p.1 = q.1 → Alike β1 β2 p.2 q.2 →
      Later β1 β2 (step1 σ1 p).1 (step2 σ2 q).1 ∧ (step1 σ1 p).2.isSome = (step2 σ2 q).2.isSome) :
    ∀ (es1 es2 : Entries), Sim β1.heap β2.heap es1 es2 → (∀ p ∈ es1, Below β1 p.2) → (∀ q ∈ es2, Below β2 q.2) →
    ∀ σ1 σ2, Later β1 β2 σ1 σ2 →
      Later β1 β2 (foldEntries step1 es1 σ1).1 (foldEntries step2 es2 σ2).1 ∧
      (foldEntries step1 es1 σ1).2.isSome = (foldEntries step2 es2 σ2).2.isSome := by
  intro es1
  induction es1 with
  | nil =>
    intro es2 h _ _ σ1 σ2 hi
    cases es2 with
    | nil => exact ⟨hi, rfl⟩
    | cons b l2 => cases h 0
  | cons a l1 ih =>
    intro es2 h c1 c2 σ1 σ2 hi
    cases es2 with
    | nil => cases h 0
    | cons b l2 =>
      obtain ⟨hk, hl, ht⟩ := h.cons
      obtain ⟨hi', hr⟩ := hs σ1 σ2 a b hi hk ⟨hl, c1 a (List.mem_cons_self ..), c2 b (List.mem_cons_self ..)⟩
      obtain ⟨hi'', ho⟩ := ih l2 ht (fun p hp => c1 p (List.mem_cons_of_mem _ hp))
        (fun q hq => c2 q (List.mem_cons_of_mem _ hq)) _ _ hi'
      rw [foldEntries, foldEntries]
      rcases isSome_cases hr with ⟨h1, h2⟩ | ⟨x, y, h1, h2⟩ <;> rw [h1, h2]
      · exact ⟨hi', rfl⟩
      · revert ho
        generalize (foldEntries step1 l1 (step1 σ1 a).1).2 = o1
        generalize (foldEntries step2 l2 (step2 σ2 b).1).2 = o2
        cases o1 <;> cases o2 <;> exact fun h => ⟨hi'', h⟩

def SameAnswer (a1 a2 : GStore × Option GVal) : Prop :=
  a1.2.isSome = a2.2.isSome ∧
  ∀ r1 r2, a1.2 = some r1 → a2.2 = some r2 → ser gdepth a1.1.heap r1 = ser gdepth a2.1.heap r2

theorem SameAnswer.none {a1 a2 : GStore × Option GVal} (h1 : a1.2 = none) (h2 : a2.2 = none) : SameAnswer a1 a2 :=
  ⟨by rw [h1, h2], fun _ _ h => by rw [h1] at h; cases h⟩

theorem SameAnswer.some {a1 a2 : GStore × Option GVal} {r1 r2 : GVal} (h1 : a1.2 = some r1) (h2 : a2.2 = some r2)
    (hs : ser gdepth a1.1.heap r1 = ser gdepth a2.1.heap r2) : SameAnswer a1 a2 :=
  ⟨by rw [h1, h2]; rfl, fun _ _ e1 e2 => by
    rw [h1] at e1
    rw [h2] at e2
    cases e1
    cases e2
    exact hs⟩

/-- the statement of `own_parse_congr`; the induction uses `CongrFrom` -/
def Congr (s : GSchema) : Prop :=
  ∀ (σ1 σ2 : GStore) (v1 v2 : GVal) (n1 n2 : Nat), n1 ≤ σ1.next → n2 ≤ σ2.next →
    OwnedS n1 σ1.heap s → OwnedS n2 σ2.heap s → Agree σ1.heap σ2.heap s →
    Look σ1.heap v1 σ2.heap v2 → Below σ1 v1 → Below σ2 v2 →
    (parseS s σ1 v1).2.isSome = (parseS s σ2 v2).2.isSome ∧
    ∀ r1 r2, (parseS s σ1 v1).2 = some r1 → (parseS s σ2 v2).2 = some r2 →
      ser gdepth (parseS s σ1 v1).1.heap r1 = ser gdepth (parseS s σ2 v2).1.heap r2

structure Held (β1 β2 : GStore) (s : GSchema) : Prop where
  o1 : OwnedS β1.next β1.heap s
  o2 : OwnedS β2.next β2.heap s
  agree : Agree β1.heap β2.heap s

def CongrFrom (s : GSchema) : Prop :=
  ∀ (β1 β2 : GStore), Held β1 β2 s → ∀ (v1 v2 : GVal), Alike β1 β2 v1 v2 →
    ∀ (σ1 σ2 : GStore), Later β1 β2 σ1 σ2 → SameAnswer (parseS s σ1 v1) (parseS s σ2 v2)

theorem held_cell {β1 β2 σ1 σ2 : GStore} (l : Later β1 β2 σ1 σ2) {d : GVal}
    (h1 : ∀ x ∈ reach gdepth β1.heap d, x < β1.next) (h2 : ∀ x ∈ reach gdepth β2.heap d, x < β2.next)
    (hs : ser gdepth β1.heap d = ser gdepth β2.heap d) :
    ser gdepth σ1.heap d = ser gdepth σ2.heap d ∧
    ser gdepth (copy true gdepth σ1 d).1.heap (copy true gdepth σ1 d).2 =
      ser gdepth (copy true gdepth σ2 d).1.heap (copy true gdepth σ2 d).2 := by
  have hd : ser gdepth σ1.heap d = ser gdepth σ2.heap d := by
    rw [(g_graph_frame gdepth _ β1 σ1 d l.e1 h1).2, (g_graph_frame gdepth _ β2 σ2 d l.e2 h2).2, hs]
  exact ⟨hd, by rw [(g_copyOK gdepth σ1 d _ l.e1.1 (bounded_frame l.e1 h1)).2.1,
    (g_copyOK gdepth σ2 d _ l.e2.1 (bounded_frame l.e2 h2)).2.1, hd]⟩

theorem readG_later {β σ : GStore} {l : Loc} (e : GExt β.next β σ) (b : Below β (.ref l)) :
    readG σ.heap l = readG β.heap l :=
  readG_congr l (e.2 l (b 1 l (mem_reach_ref.2 (.inl rfl))))

theorem valPass_congr (ok : Entries → Bool) (P : Nat → Bool) (hok : ∀ es, ok es = es.all (fun p => P p.1))
    (t : GSchema) (ih : CongrFrom t) (β1 β2 : GStore) (H : Held β1 β2 t) (v1 v2 : GVal) (A : Alike β1 β2 v1 v2)
    (σ1 σ2 : GStore) (L : Later β1 β2 σ1 σ2) :
    SameAnswer (valPass ok (parseS t) σ1 v1) (valPass ok (parseS t) σ2 v2) := by
  rcases look_cases A.look with ⟨n, rfl, rfl⟩ | ⟨rfl, rfl⟩ | ⟨l1, l2, rfl, rfl, hes⟩ | ⟨f1, f2, rfl, rfl⟩
  · exact .none rfl rfl
  · exact .none rfl rfl
  · simp only [valPass, readG_later L.e1 A.b1, readG_later L.e2 A.b2, hok, key_all P, hes.keys]
    split
    · obtain ⟨L', hv⟩ := fold_verdict (valStep (parseS t)) (valStep (parseS t))
        (fun τ1 τ2 p q hi _ ha => ⟨hi.seq (parseS_ext t τ1 p.2) (parseS_ext t τ2 q.2), by
          simp only [valStep, Option.isSome_map]
          exact (ih β1 β2 H p.2 q.2 ha τ1 τ2 hi).1⟩)
        _ _ hes (below_entry A.b1) (below_entry A.b2) σ1 σ2 L
      simp only [validated]
      rcases isSome_cases hv with ⟨h1, h2⟩ | ⟨_, _, h1, h2⟩ <;> rw [h1, h2]
      · exact .none rfl rfl
      · exact .some rfl rfl (A.ser L')
    · exact .none rfl rfl
  · exact .none rfl rfl

theorem own_parse_congr_from : ∀ s, CongrFrom s := by
  intro s
  induction s with
  | any =>
    intro β1 β2 _ v1 v2 A σ1 σ2 L
    exact .some rfl rfl (A.ser L)
  | str ss =>
    intro β1 β2 _ v1 v2 A σ1 σ2 L
    rcases look_cases A.look with ⟨n, rfl, rfl⟩ | ⟨rfl, rfl⟩ | ⟨l1, l2, rfl, rfl, _⟩ | ⟨f1, f2, rfl, rfl⟩
    · cases hc : ss.contains n
      · exact SameAnswer.none (by simp only [parseS, hc]; rfl) (by simp only [parseS, hc]; rfl)
      · exact SameAnswer.some (by simp only [parseS, hc]; rfl) (by simp only [parseS, hc]; rfl) rfl
    all_goals exact SameAnswer.none rfl rfl
  | lit rm ms =>
    intro β1 β2 H v1 v2 A σ1 σ2 L
    rcases look_nil_cases A.look with ⟨rfl, rfl⟩ | ⟨hv, hv2⟩
    · exact SameAnswer.none rfl rfl
    · have hs := A.ser L
      have hm : ∀ m ∈ ms, ser gdepth σ1.heap m = ser gdepth σ2.heap m :=
        fun m hm => (held_cell L (H.o1 m hm) (H.o2 m hm) (H.agree m hm)).1
      -- the member that is found is the same: the members and the inputs look the same
      have hfind : litFind σ1.heap ms v1 = litFind σ2.heap ms v2 :=
        find_congr _ _ ms (fun m h => by rw [hm m h, hs])
      rw [lit_parse rm ms σ1 v1 hv, lit_parse rm ms σ2 v2 hv2, hfind]
      cases hf : litFind σ2.heap ms v2 with
      | none => exact SameAnswer.none rfl rfl
      | some m =>
        refine SameAnswer.some rfl rfl ?_
        cases rm
        · exact hs
        · exact hm m (List.mem_of_find?_eq_some hf)
  | dflt d t ih =>
    intro β1 β2 H v1 v2 A σ1 σ2 L
    rcases look_nil_cases A.look with ⟨rfl, rfl⟩ | ⟨hv, hv2⟩
    · exact SameAnswer.some rfl rfl (held_cell L H.o1.1 H.o2.1 H.agree.1).2
    · rw [dflt_parse d t σ1 v1 hv, dflt_parse d t σ2 v2 hv2]
      exact ih β1 β2 ⟨H.o1.2, H.o2.2, H.agree.2⟩ v1 v2 A σ1 σ2 L
  | obj mode fields kids ih =>
    intro β1 β2 H v1 v2 A σ1 σ2 L
    rcases look_cases A.look with ⟨n, rfl, rfl⟩ | ⟨rfl, rfl⟩ | ⟨l1, l2, rfl, rfl, hes⟩ | ⟨f1, f2, rfl, rfl⟩
    · exact SameAnswer.none rfl rfl
    · exact SameAnswer.none rfl rfl
    · have hok : objOk fields (readG β1.heap l1) = objOk fields (readG β2.heap l2) := by
        -- keys ≥ 8 are map key ids, keys < 8 slice indices (Model/Owned.lean: `isMapCell`, `isSliceCell`)
        simp only [objOk, isMapCell, key_all (fun k => decide (8 ≤ k)), fun k => key_any (fun x => x == k), hes.keys]
      rw [parseS_obj_ref, parseS_obj_ref, readG_later L.e1 A.b1, readG_later L.e2 A.b2, hok]
      cases objOk fields (readG β2.heap l2)
      · exact SameAnswer.none rfl rfl
      · show SameAnswer (finish _) (finish _)
        obtain ⟨L', hv⟩ := fold_verdict (objStep mode fields (fun k => parseS (kids k)))
          (objStep mode fields (fun k => parseS (kids k))) (fun τ1 τ2 p q hi hk ha => by
            simp only [objStep, ← hk]
            split
            · exact ⟨hi.seq (parseS_ext _ τ1 p.2) (parseS_ext _ τ2 q.2), by
                simp only [Option.isSome_map]
                exact (ih p.1 β1 β2 ⟨H.o1 p.1, H.o2 p.1, H.agree p.1⟩ p.2 q.2 ha τ1 τ2 hi).1⟩
            · cases mode <;> exact ⟨hi, rfl⟩)
          _ _ hes (below_entry A.b1) (below_entry A.b2) σ1 σ2 L
        rcases isSome_cases hv with ⟨h1, h2⟩ | ⟨out1, out2, h1, h2⟩
        · exact SameAnswer.none (by rw [finish_none h1]) (by rw [finish_none h2])
        · -- the two new maps hold the entries of the callers' maps that the mode keeps: the same keys, and values that
          -- look as they looked in the starting stores
          rw [finish_some h1, finish_some h2]
          obtain rfl := fold_obj_out mode fields _ _ _ _ h1
          obtain rfl := fold_obj_out mode fields _ _ _ _ h2
          refine SameAnswer.some rfl rfl (ser_of_unfold gdepth _ _ _ _ ?_)
          show Tree.node _ = Tree.node _
          rw [readG_galloc_new, readG_galloc_new]
          -- `gdepth - 1`: the depth at which the entries of the new root cell are unfolded
          exact congrArg _ ((hes.filter (objKeeps mode fields) (fun k => objKeeps mode fields (k, .nil)) (fun _ => rfl)).later
            (fun p hp => below_entry A.b1 p (List.mem_filter.1 hp).1) (fun q hq => below_entry A.b2 q (List.mem_filter.1 hq).1)
            (L'.seq (galloc_ext _ _ _ (Nat.le_refl _)) (galloc_ext _ _ _ (Nat.le_refl _))) (gdepth - 1))
    · exact SameAnswer.none rfl rfl
  | slice t ih =>
    intro β1 β2 H v1 v2 A σ1 σ2 L
    rw [parseS_slice, parseS_slice]
    exact valPass_congr _ (fun k => decide (k < 8)) (fun _ => rfl) t ih β1 β2 ⟨H.o1, H.o2, H.agree⟩ v1 v2 A σ1 σ2 L
  | record t ih =>
    intro β1 β2 H v1 v2 A σ1 σ2 L
    rw [parseS_record, parseS_record]
    exact valPass_congr _ (fun k => decide (8 ≤ k)) (fun _ => rfl) t ih β1 β2 ⟨H.o1, H.o2, H.agree⟩ v1 v2 A σ1 σ2 L
  | union a b iha ihb =>
    intro β1 β2 H v1 v2 A σ1 σ2 L
    rcases look_nil_cases A.look with ⟨rfl, rfl⟩ | ⟨hv, hv2⟩
    · exact SameAnswer.none rfl rfl
    · obtain ⟨hva, hra⟩ := iha β1 β2 ⟨H.o1.1, H.o2.1, H.agree.1⟩ v1 v2 A σ1 σ2 L
      rcases isSome_cases hva with ⟨h1, h2⟩ | ⟨_, _, h1, h2⟩
      · -- the second member runs in the stores the first one left: later stores again
        rw [union_parse_none a b hv h1, union_parse_none a b hv2 h2]
        exact ihb β1 β2 ⟨H.o1.2, H.o2.2, H.agree.2⟩ v1 v2 A _ _ (L.seq (parseS_ext a σ1 v1) (parseS_ext a σ2 v2))
      · rw [union_parse_some a b hv h1, union_parse_some a b hv2 h2]
        exact SameAnswer.some rfl rfl (hra _ _ h1 h2)

/-- Parse with the same schema, in two stores in which every cell the schema holds looks the same, of two inputs that look
    the same (whatever cells they are made of): the same verdict, and answers that look the same.  The cells the two calls
    allocate are different cells — `ser` is what remains when their names are forgotten. -/
theorem own_parse_congr : ∀ s, Congr s :=
  fun s σ1 σ2 v1 v2 _ _ hn1 hn2 o1 o2 ha hl b1 b2 =>
    own_parse_congr_from s σ1 σ2 ⟨owned_ext hn1 (GExt.refl _ _) s o1, owned_ext hn2 (GExt.refl _ _) s o2, ha⟩
      v1 v2 ⟨hl, b1, b2⟩ σ1 σ2 ⟨GExt.refl _ _, GExt.refl _ _⟩

def CopyLook (F : Nat) : Prop :=
  ∀ (σ : GStore) (v : GVal), Below σ v →
    GExt σ.next σ (copy true F σ v).1 ∧ Look (copy true F σ v).1.heap (copy true F σ v).2 σ.heap v ∧
    Below (copy true F σ v).1 (copy true F σ v).2

/-- the deep copy (`Graph.copy`: what a caller does when it builds an equal input again) looks like the original at
    EVERY depth, whatever the fuel of the copy, and everything reachable from it is allocated. -/
theorem copy_look (F : Nat) : CopyLook F :=
  fun σ v hb => ⟨copy_ext F σ v, fun D => (copy_spec F D σ v (hb D)).1, fun D x hx => ((copy_spec F D σ v (hb D)).2 x hx).1⟩

theorem runC_append (fam : List GSchema) (ins : List GVal) (st : CState) (a b : List CStep) :
    runC fam ins st (a ++ b) = runC fam ins (runC fam ins st a) b := by
  simp only [runC, List.foldl_append]

/-- the property's third sentence for the `own` language, about ANSWERS: take any history of Parse calls and deep in-place
    mutations of earlier results (`steps1`), let the caller parse a newly built copy of input `i` with schema `j`, let any
    further history follow (`steps2`), and let the caller parse a newly built copy of input `i` with schema `j` again: the
    verdict is the same and the two answers look the same. -/
theorem own_hist_same_answer (fam : List GSchema) (ins : List GVal) (σ0 : GStore)
    (hfam : ∀ s ∈ fam, NoRet s ∧ OwnedS σ0.next σ0.heap s) (hins : ∀ v ∈ ins, Below σ0 v)
    (steps1 steps2 : List CStep) (j i : Nat) (s : GSchema) (v : GVal) (hj : fam[j]? = some s) (hi : ins[i]? = some v) :
    let st1 := runC fam ins { σ := σ0, results := [] } steps1
    let st2 := runC fam ins st1 steps2
    let a1 := parseS s (copy true gdepth st1.σ v).1 (copy true gdepth st1.σ v).2
    let a2 := parseS s (copy true gdepth st2.σ v).1 (copy true gdepth st2.σ v).2
    a1.2.isSome = a2.2.isSome ∧
    ∀ r1 r2, a1.2 = some r1 → a2.2 = some r2 → ser gdepth a1.1.heap r1 = ser gdepth a2.1.heap r2 := by
  intro st1 st2 a1 a2
  have hins' : ∀ v ∈ ins, ∀ x ∈ reach gdepth σ0.heap v, x < σ0.next := fun v hv => hins v hv gdepth
  have e1 : GExt σ0.next σ0 st1.σ := (own_hist fam ins σ0 hfam hins' steps1).1
  have e2 : GExt σ0.next σ0 st2.σ := by
    have := (own_hist fam ins σ0 hfam hins' (steps1 ++ steps2)).1
    rwa [runC_append] at this
  have b0 := hins v (List.mem_of_getElem? hi)
  obtain ⟨c1, l1, bc1⟩ := copy_look gdepth st1.σ v (b0.ext e1)
  obtain ⟨c2, l2, bc2⟩ := copy_look gdepth st2.σ v (b0.ext e2)
  have E1 : GExt σ0.next σ0 (copy true gdepth st1.σ v).1 := e1.trans (c1.mono e1.1)
  have E2 : GExt σ0.next σ0 (copy true gdepth st2.σ v).1 := e2.trans (c2.mono e2.1)
  have ho := (hfam s (List.mem_of_getElem? hj)).2
  -- both copies look like the input as it was at the start; the schema's cells are as they were
  exact own_parse_congr s _ _ _ _ σ0.next σ0.next E1.1 E2.1 (owned_ext (Nat.le_refl _) E1 s ho)
    (owned_ext (Nat.le_refl _) E2 s ho) (agree_of_ext E1 E2 s ho)
    (fun f => by rw [l1 f, l2 f, unfold_frame f _ _ _ v e1 (b0 f), unfold_frame f _ _ _ v e2 (b0 f)]) bc1 bc2

/-- the hypotheses are satisfiable, and the conclusion speaks about an accepted input (the family of `own_hist`'s example) -/
example :
    let fam := [GSchema.lit false [.ref 1], .obj .strip [9] (fun _ => .lit false [.ref 1]), .dflt (.ref 1) (.slice (.lit false [.ref 1]))]
    (∀ v ∈ [GVal.ref 2, .ref 3], Below σw v) ∧ (parseS (GSchema.lit false [.ref 1]) σw (.ref 2)).2.isSome = true ∧ fam.length = 3 := by
  refine ⟨fun v hv f x hx => ?_, by decide, rfl⟩
  -- cells 2 and 3 hold one scalar each: at every depth the only cell reached is the cell itself
  cases f with
  | zero => cases hx
  | succ f =>
    simp only [List.mem_cons, List.not_mem_nil, or_false] at hv
    rcases hv with rfl | rfl <;> simp [reach, readG, σw, gupd, reach_scalar] at hx <;> subst hx <;> decide

end Gozod.C15
