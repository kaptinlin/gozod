/-
  C16 on big operands (`*big.Int`, the BigInt schema): the model of `compareNumeric` / `MultipleOf`
  outside `toNum` (`Model/NumBig.lean`: `xcmp`, `xmul` — what `driver_c16` runs on `xcmp` / `xmul`
  lines) decides the comparison / divisibility of the denoted numbers.

  On operands `toNum` holds, `xcmp` / `xmul` ARE `implCmp` / `NumFloat.multipleOfNum`, the definitions the
  other C16 theorems are about (`xcmp_num`, `xmul_num`).
-/
import Gozod.Proofs.C16
import Gozod.Model.NumBig

namespace Gozod.C16B
open Gozod Gozod.NumBig

/-- A built-in operand fits its holder, a uintptr is a uint64; big integers are unbounded. -/
def Opnd.wf : Opnd → Prop
  | .num n => C16.Num.wf n
  | .uptr v => IntTy.u64.inRange v
  | _ => True

theorem implCmp_verdict (op : CmpOp) (x y : Num) : implCmp op x y = verdict op (cmpNum x y) := by
  unfold implCmp; cases cmpNum x y <;> rfl

theorem value_cases {a : Opnd} {x : F} (h : a.value? = some x) :
    (∃ n, a.toNum? = some n ∧ n.toF = x) ∨ ∃ v, a = .big v ∧ x = .fin v 0 := by
  cases a <;> cases h
  · exact .inl ⟨_, rfl, rfl⟩
  · exact .inl ⟨.u _, rfl, rfl⟩
  · exact .inr ⟨_, rfl, rfl⟩

theorem intValue_cases {a : Opnd} {v : Int} (h : a.intValue? = some v) :
    (∃ n, a.toNum? = some n ∧ C16.isInt n = true ∧ C16.ival n = v) ∨ a = .big v := by
  cases a with
  | num n => cases n <;> cases h <;> exact .inl ⟨_, rfl, rfl, rfl⟩
  | uptr w => cases h; exact .inl ⟨.u _, rfl, rfl, rfl⟩
  | big w => cases h; exact .inr rfl
  | _ => cases h

theorem toNum_wf {a : Opnd} {n : Num} (h : a.toNum? = some n) (w : Opnd.wf a) : C16.Num.wf n := by
  cases a <;> cases h <;> exact w

theorem toBig_eq_intValue (a : Opnd) : a.toBig? = a.intValue? := by
  cases a with
  | num n => cases n <;> rfl
  | _ => rfl

theorem intValue_value (a : Opnd) (x : Int) (h : a.intValue? = some x) : a.value? = some (.fin x 0) := by
  cases a with
  | num n => cases n <;> cases h <;> rfl
  | uptr _ => cases h; rfl
  | big _ => cases h; rfl
  | _ => cases h

theorem isNamed_of_value {a : Opnd} {x : F} (h : a.value? = some x) : isNamed a = false := by
  cases a <;> first | rfl | cases h

theorem isNamed_of_toNum {a : Opnd} {n : Num} (h : a.toNum? = some n) : isNamed a = false := by
  cases a <;> first | rfl | cases h

theorem isNamed_of_intValue {a : Opnd} {v : Int} (h : a.intValue? = some v) : isNamed a = false := by
  cases a <;> first | rfl | cases h

theorem xcmp_num (op : CmpOp) (x y : Num) : xcmp op (.num x) (.num y) = implCmp op x y :=
  (implCmp_verdict op x y).symm

theorem xcmpOrd_toNum {a b : Opnd} {n m : Num} (hn : a.toNum? = some n) (hm : b.toNum? = some m) :
    xcmpOrd a b = cmpNum n m := by
  unfold xcmpOrd
  rw [isNamed_of_toNum hn, isNamed_of_toNum hm, hn, hm]; rfl

theorem bigVsFloat_f (n : Int) (z : F) : bigVsFloat n (.num (.f z)) = some (F.cmp (.fin n 0) z) := by
  cases z <;> simp only [bigVsFloat, F.cmp, Int.pow_zero, Int.mul_one]

/-- `cmpBig` with the big integer on the left: `big.Int.Cmp` against an integer, `big.Float.Cmp`
    against a float64. -/
theorem cmpBigOp_big_left (v : Int) {b : Opnd} {y : F} (hb : b.value? = some y) :
    cmpBigOp (.big v) b = some (F.cmp (.fin v 0) y) := by
  cases b with
  | num m =>
    cases m with
    | f z => cases hb; exact bigVsFloat_f v z
    | _ => cases hb; exact congrArg some (C16.cmp_fin0 _ _).symm
  | uptr _ => cases hb; exact congrArg some (C16.cmp_fin0 _ _).symm
  | big _ => cases hb; exact congrArg some (C16.cmp_fin0 _ _).symm
  | _ => cases hb

/-- …and on the right: the same with the result negated (`return -c, ok, done`). -/
theorem cmpBigOp_big_right {a : Opnd} {x : F} (ha : a.value? = some x) (w : Int) :
    cmpBigOp a (.big w) = some (F.cmp x (.fin w 0)) := by
  cases a with
  | num n =>
    cases n with
    | f z =>
      cases ha
      show (bigVsFloat w (.num (.f z))).map _ = _
      rw [bigVsFloat_f]
      exact congrArg some (C16.F.cmp_flip _ _)
    | _ => cases ha; exact congrArg some (C16.cmp_fin0 _ _).symm
  | uptr _ => cases ha; exact congrArg some (C16.cmp_fin0 _ _).symm
  | big _ => cases ha; exact congrArg some (C16.cmp_fin0 _ _).symm
  | _ => cases ha

theorem xcmpOrd_big {a b : Opnd} {r : Option Ordering} (hna : isNamed a = false) (hnb : isNamed b = false)
    (hnum : a.toNum? = none ∨ b.toNum? = none) (hbig : (isBigOp a || isBigOp b) = true)
    (h : cmpBigOp a b = some r) : xcmpOrd a b = r := by
  unfold xcmpOrd
  rw [hna, hnb, hbig, h]
  rcases hnum with hn | hn
  · rw [hn]; rfl
  · rw [hn]; cases a.toNum? <;> rfl

/-- `compareNumeric` on every pair of operands that denote a number exactly: through `toNum` and the exact switch
    (`C16.cmpNum_exact`) when it holds both, through `cmpBig` when one is a big integer. -/
theorem xcmpOrd_exact (a b : Opnd) (x y : F) (ha : a.value? = some x) (hb : b.value? = some y)
    (wa : Opnd.wf a) (wb : Opnd.wf b) : xcmpOrd a b = F.cmp x y := by
  have hna := isNamed_of_value ha
  have hnb := isNamed_of_value hb
  rcases value_cases ha with ⟨n, hn, rfl⟩ | ⟨v, rfl, rfl⟩
  · rcases value_cases hb with ⟨m, hm, rfl⟩ | ⟨w, rfl, rfl⟩
    · rw [xcmpOrd_toNum hn hm]
      exact C16.cmpNum_exact n m (toNum_wf hn wa) (toNum_wf hm wb)
    · exact xcmpOrd_big hna hnb (.inr rfl) (Bool.or_true _) (cmpBigOp_big_right ha w)
  · exact xcmpOrd_big hna hnb (.inl rfl) rfl (cmpBigOp_big_left v hb)

theorem c16_xcmp_exact (op : CmpOp) (a b : Opnd) (x y : F) (ha : a.value? = some x) (hb : b.value? = some y)
    (wa : Opnd.wf a) (wb : Opnd.wf b) :
    xcmp op a b = verdict op (F.cmp x y) :=
  congrArg (verdict op) (xcmpOrd_exact a b x y ha hb wa wb)

/-- `xcmp` answers what the driver's spec column (`specXcmp`) says. -/
theorem c16_xcmp_spec (op : CmpOp) (a b : Opnd) (s : Bool) (h : specXcmp op a b = some s)
    (wa : Opnd.wf a) (wb : Opnd.wf b) : xcmp op a b = s := by
  unfold specXcmp at h
  cases hx : a.value? with
  | none => simp [hx] at h
  | some x =>
    cases hy : b.value? with
    | none => simp [hx, hy] at h
    | some y =>
      rw [c16_xcmp_exact op a b x y hx hy wa wb]
      simp only [hx, hy] at h
      injection h

/-- C16 on big operands: `xcmp` is the comparison of the denoted integers — for every pair of
    integer operands (big integers of any size, uintptr, built-in integers), in either position. -/
theorem c16_big_cmp (op : CmpOp) (a b : Opnd) (x y : Int) (ha : a.intValue? = some x) (hb : b.intValue? = some y)
    (wa : Opnd.wf a) (wb : Opnd.wf b) : xcmp op a b = op.holdsInt x y := by
  rw [c16_xcmp_exact op a b _ _ (intValue_value a x ha) (intValue_value b y hb) wa wb, C16.cmp_fin0]
  exact C16.ofOrdering_compare op x y

section
set_option exponentiation.threshold 2000
example : xcmp .gt (.big (2 ^ 53 + 1)) (.big (2 ^ 53)) = true ∧ xcmp .gt (.big (2 ^ 1024)) (.num (.i 0)) = true ∧
    xcmp .lt (.num (.u (2 ^ 64 - 1))) (.big (2 ^ 64)) = true ∧ xcmp .gte (.big 5) (.num (.f .nan)) = false := by decide
end

theorem floatMultipleOf_nan {x y : F} (h : (x.isNaN || y.isNaN) = true) : NumFloat.floatMultipleOf x y = false :=
  if_pos h

/-- `coerce.ToFloat64` refuses exactly the NaN among the built-in operands. -/
theorem xval_num (n : Num) :
    xval (.num n) = if (NumFloat.numToF n).isNaN then none else some (NumFloat.numToF n) := by
  cases n <;> rfl

theorem floatBranch_num (a b : Num) :
    floatBranch (.num a) (.num b) = NumFloat.floatMultipleOf (NumFloat.numToF a) (NumFloat.numToF b) := by
  unfold floatBranch
  rw [xval_num, xval_num]
  cases ha : (NumFloat.numToF a).isNaN
  · cases hb : (NumFloat.numToF b).isNaN
    · rfl
    · exact (floatMultipleOf_nan (by rw [hb, Bool.or_true])).symm
  · exact (floatMultipleOf_nan (by rw [ha, Bool.true_or])).symm

theorem xmul_num (x y : Num) : xmul (.num x) (.num y) = NumFloat.multipleOfNum x y := by
  have hp := floatBranch_num x y
  cases x <;> cases y <;>
    simp only [xmul, intsBranch, bigsBranch, isNamed, Opnd.toNum?, isFloatNum, isBigOp, NumFloat.multipleOfNum, Bool.or_self,
      Bool.false_eq_true, ↓reduceIte, Bool.or_true, Bool.or_false, Option.getD_some, Option.getD_none] <;>
    first | rfl | exact hp

theorem bigRemZero_exact (x y : Int) : bigRemZero x y = specMultipleOfInt x y := by
  unfold bigRemZero specMultipleOfInt
  rw [Bool.eq_iff_iff, Bool.and_eq_true, decide_eq_true_eq, bne_iff_ne, C16.tmod_test]

theorem xmul_ints {a b : Opnd} {n m : Num} (hn : a.toNum? = some n) (hm : b.toNum? = some m)
    (hin : C16.isInt n = true) (him : C16.isInt m = true) : xmul a b = multipleOfInts n m := by
  have notFloat {k : Num} (hk : C16.isInt k = true) : isFloatNum k = false := by
    cases k with
    | f _ => cases hk
    | _ => rfl
  have hfn := notFloat hin
  have hfm := notFloat him
  unfold xmul intsBranch
  rw [isNamed_of_toNum hn, isNamed_of_toNum hm, hn, hm]
  show (if (isFloatNum n || isFloatNum m) = true then none else some (multipleOfInts n m)).getD _ = _
  rw [hfn, hfm]; rfl

theorem xmul_big {a b : Opnd} {v d : Int} (hbig : (isBigOp a || isBigOp b) = true)
    (hnum : a.toNum? = none ∨ b.toNum? = none)
    (ha : a.intValue? = some v) (hb : b.intValue? = some d) : xmul a b = bigRemZero v d := by
  have hints : intsBranch a b = none := by
    unfold intsBranch
    rcases hnum with h | h
    · rw [h]
    · rw [h]; cases a.toNum? <;> rfl
  unfold xmul bigsBranch
  rw [isNamed_of_intValue ha, isNamed_of_intValue hb, hints, hbig, toBig_eq_intValue, toBig_eq_intValue, ha, hb]
  rfl

/-- MultipleOf on big operands: exactly integer divisibility, zero divisor accepts nothing. -/
theorem c16_big_multiple (a b : Opnd) (v d : Int) (ha : a.intValue? = some v) (hb : b.intValue? = some d)
    (wa : Opnd.wf a) (wb : Opnd.wf b) : xmul a b = specMultipleOfInt v d := by
  rw [← bigRemZero_exact]
  rcases intValue_cases ha with ⟨n, hn, hin, rfl⟩ | rfl
  · rcases intValue_cases hb with ⟨m, hm, him, rfl⟩ | rfl
    · rw [xmul_ints hn hm hin him, C16.multipleOfInts_exact n m (toNum_wf hn wa) (toNum_wf hm wb) hin him,
        bigRemZero_exact]
    · exact xmul_big (Bool.or_true _) (.inr rfl) ha hb
  · exact xmul_big rfl (.inl rfl) ha hb

example : xmul (.big (2 ^ 53 + 1)) (.big 2) = false ∧ xmul (.big 1) (.big (2 ^ 53)) = false ∧
    xmul (.big (3 * 2 ^ 200)) (.num (.i 3)) = true ∧ xmul (.big 7) (.big 0) = false := by decide

end Gozod.C16B
