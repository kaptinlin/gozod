/-
  C10 — the loop of `executeChecks` (`runFrom` / `runChecks`, Model/Checks.lean): checks run in attachment
  order; overwrites feed later checks; abort stops them, for every value type and every user callback (`Env`).

  The clauses speak of the model's `seenAt` / `failsAt` / `abortAt`. `failsAt k` says that check `k` is false on its threaded
  value, NOT that it reports: a guarded check is skipped once there is an issue. Hence `k ∈ issues` in `c10_abort_stops`,
  the head only in `c10_first_failing`, one direction in `c10_issue_order`.
-/
import Gozod.Proofs.C10Turn

namespace Gozod.C10

variable {P O T V : Type}

theorem seenAt_zero (env : Env P O T V) (cs : List (Check P O)) (v : V) : seenAt env cs 0 v = v := by
  cases cs <;> rfl

theorem seenAt_cons_succ (env : Env P O T V) (c : Check P O) (cs : List (Check P O)) (k : Nat) (v : V) :
    seenAt env (c :: cs) (k + 1) v = seenAt env cs k (stepSeen env c v) := by
  cases c <;> rfl

theorem seenAt_succ (env : Env P O T V) : ∀ (all : List (Check P O)) (k : Nat) (v : V) (c : Check P O),
    all[k]? = some c → seenAt env all (k + 1) v = stepSeen env c (seenAt env all k v)
  | d :: ds, 0, v, c, h => by
    obtain rfl : d = c := by simpa using h
    rw [seenAt_cons_succ, seenAt_zero, seenAt_zero]
  | d :: ds, k + 1, v, c, h => by
    rw [seenAt_cons_succ, seenAt_cons_succ]
    exact seenAt_succ env ds k _ c (by simpa using h)

theorem failsAt_lt {env : Env P O T V} {cs : List (Check P O)} {k : Nat} {v : V}
    (h : failsAt env cs k v = true) : k < cs.length := by
  apply Decidable.byContradiction
  intro hk
  rw [failsAt, List.getElem?_eq_none (Nat.le_of_not_lt hk)] at h
  cases h

theorem forall_failsAt_false_iff (env : Env P O T V) (cs : List (Check P O)) (v : V) :
    (∀ k, k < cs.length → failsAt env cs k v = false) ↔
      ∀ k c, cs[k]? = some c → checkFails env c (seenAt env cs k v) = false := by
  constructor
  · intro h k c hc
    have := h k (List.getElem?_eq_some_iff.mp hc).1
    rwa [failsAt, hc] at this
  · intro h k hk
    rw [failsAt, List.getElem?_eq_getElem hk]
    exact h k _ (List.getElem?_eq_getElem hk)

/-- Overwrites never fail: a failing check hands its value on unchanged. -/
theorem stepSeen_of_fails {env : Env P O T V} {c : Check P O} {x : V} (h : checkFails env c x = true) (y : V) :
    stepSeen env c y = y := by
  cases c with
  | overwrite o => cases h
  | pred p a w => rfl

theorem abortAt_of {all : List (Check P O)} {n : Nat} {c : Check P O} (hc : all[n]? = some c) :
    abortAt all n = aborts c := by
  rw [abortAt, hc]; cases c <;> rfl

/-- Loop invariant of `executeChecks` after `n` checks of `all` have been processed. -/
structure Inv (env : Env P O T V) (all : List (Check P O)) (v0 : V) (n : Nat)
    (val : V) (iss : List Nat) (log : List (Ev V)) : Prop where
  val_eq : val = seenAt env all n v0
  log_ok : ∀ e ∈ log, e.val = seenAt env all e.pos v0 ∧ e.pos < n
  -- the loop is still running, so no issue so far came from an aborting check (that is what makes `Post.abort_last` true)
  iss_ok : ∀ k ∈ iss, k < n ∧ failsAt env all k v0 = true ∧ abortAt all k = false
  sorted : iss.Pairwise (· < ·)
  -- `none_before` gives "no issue ↔ no check fails"; once there is an issue only `head_least` survives
  none_before : iss = [] → ∀ k, k < n → failsAt env all k v0 = false
  head_least : ∀ k, iss.head? = some k → ∀ j, j < k → failsAt env all j v0 = false

structure Post (env : Env P O T V) (all : List (Check P O)) (v0 : V) (r : Run V) : Prop where
  log_ok : ∀ e ∈ r.log, e.val = seenAt env all e.pos v0
  iss_fail : ∀ k ∈ r.issues, failsAt env all k v0 = true
  sorted : r.issues.Pairwise (· < ·)
  ok_none : r.issues = [] → (∀ k, k < all.length → failsAt env all k v0 = false) ∧
              r.val = seenAt env all all.length v0
  head_least : ∀ k, r.issues.head? = some k → ∀ j, j < k → failsAt env all j v0 = false
  abort_last : ∀ k ∈ r.issues, abortAt all k = true →
              (∀ e ∈ r.log, e.pos ≤ k) ∧ (∀ j ∈ r.issues, j ≤ k)

namespace Inv
variable {env : Env P O T V} {all : List (Check P O)} {v0 val : V} {n : Nat} {iss : List Nat} {log log' : List (Ev V)}

theorem init (env : Env P O T V) (cs : List (Check P O)) (v : V) : Inv env cs v 0 v [] [] where
  val_eq := (seenAt_zero env cs v).symm
  log_ok := fun e he => by cases he
  iss_ok := fun k hk => by cases hk
  sorted := List.Pairwise.nil
  none_before := fun _ k hk => by cases hk
  head_least := fun k hk => by cases hk

theorem toPost (h : Inv env all v0 all.length val iss log) : Post env all v0 ⟨val, iss, log⟩ where
  log_ok := fun e he => (h.log_ok e he).1
  iss_fail := fun k hk => (h.iss_ok k hk).2.1
  sorted := h.sorted
  ok_none := fun he => ⟨h.none_before he, h.val_eq⟩
  head_least := h.head_least
  abort_last := fun k hk ha => by rw [(h.iss_ok k hk).2.2] at ha; cases ha

private theorem log_snoc (h : Inv env all v0 n val iss log) (hl : ∀ e ∈ log', e.val = val ∧ e.pos = n) :
    ∀ e ∈ log ++ log', e.val = seenAt env all e.pos v0 ∧ e.pos < n + 1 := by
  intro e he
  rcases List.mem_append.mp he with he | he
  · exact ⟨(h.log_ok e he).1, Nat.lt_succ_of_lt (h.log_ok e he).2⟩
  · rw [(hl e he).1, (hl e he).2]; exact ⟨h.val_eq, Nat.lt_succ_self n⟩

private theorem iss_snoc (h : Inv env all v0 n val iss log) (hf : failsAt env all n v0 = true) :
    (∀ k ∈ iss ++ [n], k < n + 1 ∧ failsAt env all k v0 = true) ∧ (iss ++ [n]).Pairwise (· < ·) ∧
    ∀ k, (iss ++ [n]).head? = some k → ∀ j, j < k → failsAt env all j v0 = false := by
  refine ⟨fun k hk => ?_, ?_, fun k hk j hj => ?_⟩
  · rcases List.mem_append.mp hk with hk | hk
    · exact ⟨Nat.lt_succ_of_lt (h.iss_ok k hk).1, (h.iss_ok k hk).2.1⟩
    · cases List.mem_singleton.mp hk; exact ⟨Nat.lt_succ_self n, hf⟩
  · rw [List.pairwise_append]
    exact ⟨h.sorted, List.pairwise_singleton _ _, fun a ha b hb => by
      cases List.mem_singleton.mp hb; exact (h.iss_ok a ha).1⟩
  · cases hiss : iss with
    | nil => rw [hiss] at hk; cases hk; exact h.none_before hiss j hj
    | cons a as => rw [hiss] at hk; exact h.head_least k (by rw [hiss]; exact hk) j hj

theorem step {c : Check P O} (h : Inv env all v0 n val iss log) (hc : all[n]? = some c)
    (hnf : iss = [] → failsAt env all n v0 = false) (hl : ∀ e ∈ log', e.val = val ∧ e.pos = n) :
    Inv env all v0 (n + 1) (stepSeen env c val) iss (log ++ log') where
  val_eq := by rw [seenAt_succ env all n v0 c hc, ← h.val_eq]
  log_ok := h.log_snoc hl
  iss_ok := fun k hk => ⟨Nat.lt_succ_of_lt (h.iss_ok k hk).1, (h.iss_ok k hk).2⟩
  sorted := h.sorted
  none_before := fun he k hk => by
    rcases Nat.lt_succ_iff_lt_or_eq.mp hk with hk | rfl
    · exact h.none_before he k hk
    · exact hnf he
  head_least := h.head_least

theorem fail {c : Check P O} (h : Inv env all v0 n val iss log) (hc : all[n]? = some c)
    (ha : aborts c = false) (hf : failsAt env all n v0 = true) (hs : stepSeen env c val = val)
    (hl : ∀ e ∈ log', e.val = val ∧ e.pos = n) :
    Inv env all v0 (n + 1) val (iss ++ [n]) (log ++ log') where
  val_eq := by rw [seenAt_succ env all n v0 c hc, ← h.val_eq, hs]
  log_ok := h.log_snoc hl
  iss_ok := fun k hk => by
    refine ⟨((h.iss_snoc hf).1 k hk).1, ((h.iss_snoc hf).1 k hk).2, ?_⟩
    rcases List.mem_append.mp hk with hk | hk
    · exact (h.iss_ok k hk).2.2
    · cases List.mem_singleton.mp hk; rw [abortAt_of hc, ha]
  sorted := (h.iss_snoc hf).2.1
  none_before := fun he => absurd he (List.append_ne_nil_of_right_ne_nil _ (List.cons_ne_nil _ _))
  head_least := (h.iss_snoc hf).2.2

theorem abort (h : Inv env all v0 n val iss log) (hf : failsAt env all n v0 = true)
    (hl : ∀ e ∈ log', e.val = val ∧ e.pos = n) :
    Post env all v0 ⟨val, iss ++ [n], log ++ log'⟩ where
  log_ok := fun e he => (h.log_snoc hl e he).1
  iss_fail := fun k hk => ((h.iss_snoc hf).1 k hk).2
  sorted := (h.iss_snoc hf).2.1
  ok_none := fun he => absurd he (List.append_ne_nil_of_right_ne_nil _ (List.cons_ne_nil _ _))
  head_least := (h.iss_snoc hf).2.2
  abort_last := fun k hk ha => by
    rcases List.mem_append.mp hk with hk | hk
    · rw [(h.iss_ok k hk).2.2] at ha; cases ha
    · cases List.mem_singleton.mp hk
      exact ⟨fun e he => Nat.le_of_lt_succ (h.log_snoc hl e he).2,
        fun j hj => Nat.le_of_lt_succ ((h.iss_snoc hf).1 j hj).1⟩

end Inv

theorem runFrom_post (env : Env P O T V) (v0 : V) (all : List (Check P O)) :
    ∀ (cs : List (Check P O)) (n : Nat) (val : V) (iss : List Nat) (log : List (Ev V)),
      all.drop n = cs → n ≤ all.length → Inv env all v0 n val iss log →
      Post env all v0 (runFrom env n cs val iss log)
  | [], n, val, iss, log, hcs, hn, h => by
    obtain rfl : n = all.length := Nat.le_antisymm hn (List.drop_eq_nil_iff.mp hcs)
    exact h.toPost
  | c :: cs, n, val, iss, log, hcs, _, h => by
    have hc : all[n]? = some c := by rw [← List.head?_drop, hcs]; rfl
    have ih := fun val iss log => runFrom_post env v0 all cs (n + 1) val iss log
      (by rw [← List.tail_drop, hcs]; rfl) (List.getElem?_eq_some_iff.mp hc).1
    have hfa : failsAt env all n v0 = checkFails env c val := by rw [failsAt, hc, ← h.val_eq]
    obtain ⟨evs, hl, e⟩ := runFrom_turn env n c cs val iss log
    rw [e]
    split
    next hr =>
      split
      · exact h.abort (hfa.trans hr.2) hl
      next ha =>
        exact ih _ _ _ (h.fail hc (Bool.eq_false_iff.mpr ha) (hfa.trans hr.2) (stepSeen_of_fails hr.2 val) hl)
    next hr =>
      refine ih _ _ _ (h.step hc (fun he => ?_) hl)
      rw [hfa, ← Bool.not_eq_true]
      exact fun hf => hr ⟨he ▸ skipped_nil c, hf⟩

/-- The postcondition of `executeChecks`; the clauses of C10 below are its fields. -/
theorem runChecks_post (env : Env P O T V) (cs : List (Check P O)) (v : V) :
    Post env cs v (runChecks env cs v) :=
  runFrom_post env v cs cs 0 v [] [] rfl (Nat.zero_le _) (Inv.init env cs v)

/-- Every check sees the value produced by the overwrites attached before it: each logged callback invocation
    (predicate, when-guard, overwrite) received the fold of the earlier overwrites over the input. -/
theorem c10_value_threading (env : Env P O T V) (cs : List (Check P O)) (v : V) :
    ∀ e ∈ (runChecks env cs v).log, e.val = seenAt env cs e.pos v :=
  (runChecks_post env cs v).log_ok

/-- Issues appear in the order their checks were attached (strictly increasing positions),
    and every reported issue belongs to a check that really fails on its threaded value. -/
theorem c10_issue_order (env : Env P O T V) (cs : List (Check P O)) (v : V) :
    (runChecks env cs v).issues.Pairwise (· < ·) ∧
    ∀ k ∈ (runChecks env cs v).issues, failsAt env cs k v = true :=
  ⟨(runChecks_post env cs v).sorted, (runChecks_post env cs v).iss_fail⟩

/-- The first failing check is always among the reported issues — it is their head. -/
theorem c10_first_failing (env : Env P O T V) (cs : List (Check P O)) (v : V) (k : Nat)
    (hk : failsAt env cs k v = true) (hleast : ∀ j, j < k → failsAt env cs j v = false) :
    (runChecks env cs v).issues.head? = some k := by
  have post := runChecks_post env cs v
  cases hiss : (runChecks env cs v).issues with
  | nil => rw [(post.ok_none hiss).1 k (failsAt_lt hk)] at hk; cases hk
  | cons a as =>
    have ha : failsAt env cs a v = true := post.iss_fail a (by rw [hiss]; exact List.mem_cons_self)
    have h1 := post.head_least a (by rw [hiss]; rfl)
    rcases Nat.lt_trichotomy a k with h | h | h
    · rw [hleast a h] at ha; cases ha
    · rw [h]; rfl
    · rw [h1 k h] at hk; cases hk

/-- Nothing attached after a failure marked abort is evaluated or reported. -/
theorem c10_abort_stops (env : Env P O T V) (cs : List (Check P O)) (v : V) (k : Nat)
    (hk : k ∈ (runChecks env cs v).issues) (ha : abortAt cs k = true) :
    (∀ e ∈ (runChecks env cs v).log, e.pos ≤ k) ∧ (∀ j ∈ (runChecks env cs v).issues, j ≤ k) :=
  (runChecks_post env cs v).abort_last k hk ha

/-- Parsing succeeds exactly when no check fails (`c10_ok_value`: it then returns the input threaded
    through all overwrites). -/
theorem c10_ok_iff_no_fail (env : Env P O T V) (cs : List (Check P O)) (v : V) :
    (runChecks env cs v).issues = [] ↔ ∀ k, k < cs.length → failsAt env cs k v = false := by
  have post := runChecks_post env cs v
  refine ⟨fun h => (post.ok_none h).1, fun h => ?_⟩
  cases hiss : (runChecks env cs v).issues with
  | nil => rfl
  | cons a as =>
    have ha : failsAt env cs a v = true := post.iss_fail a (by rw [hiss]; exact List.mem_cons_self)
    rw [h a (failsAt_lt ha)] at ha; cases ha

theorem c10_ok_value (env : Env P O T V) (cs : List (Check P O)) (v : V)
    (h : (runChecks env cs v).issues = []) :
    (runChecks env cs v).val = seenAt env cs cs.length v :=
  ((runChecks_post env cs v).ok_none h).2

end Gozod.C10
