/-
  C15 — the memoised clone (`Gozod.Graph.cloneIso`, internal/engine/modifiers.go deepCloneSeen since /repo e9eb0f2) LOOKS LIKE
  the original (which `cloneIso_ext / _fresh / _parse_mutate` of Proofs/C15Clone.lean do not say: they are also true of
  `fun _ => nil`).

  `Covered`: every reference inside a slot value points into the set of copied cells (aggregates nest < 16 deep).  The
  shifted image of a covered value unfolds, at EVERY depth, to the tree the original unfolds to (`shift_look`); hence the
  clone of a value whose reachable cells were all collected (`Closed`: true of `reach F` once F exceeds the number of
  cells times one more than the nesting of aggregates inside a cell — aggregate levels use fuel too) looks like the original
  at every depth, sharing and cycles included (`cloneIso_iso`).  `cloneIso_parse`, `cloneIso_hist`,
  `cloneIso_parse_mutate_parse` are the clauses of the property for Parse(nil) with this clone; `cloneIso_copy_look` is the
  bridge to `Graph.copy`, which the other C15 modules run (header of C15Agg.lean).
-/
import Gozod.Proofs.C15Clone
import Gozod.Proofs.C15Congr

namespace Gozod.C15
open Gozod.Graph

def Covered (S : List Loc) : Nat → GVal → Prop
  | 0, _ => False
  | _ + 1, .scalar _ => True
  | _ + 1, .nil => True
  | _ + 1, .ref l => l ∈ S
  | A + 1, .agg fs => ∀ p ∈ fs, Covered S A p.2

def Closed (S : List Loc) (h : GHeap) : Prop := ∀ l ∈ S, ∀ q ∈ readG h l, Covered S gdepth q.2

theorem overlay_hit (g : Loc → Entries) (off : Nat) (h : GHeap) (l : Loc) :
    ∀ (S : List Loc), l ∈ S → overlay (S.map (fun x => (x + off, g x))) h (l + off) = some (g l) := by
  intro S
  induction S with
  | nil => intro hl; cases hl
  | cons a S ih =>
    intro hl
    unfold overlay
    rw [List.map_cons, List.find?_cons]
    by_cases ha : a = l
    · subst ha
      simp only [beq_self_eq_true]
    · have hne : (a + off == l + off) = false := by simpa using ha
      rw [hne]
      exact ih (List.mem_of_ne_of_mem (Ne.symm ha) hl)

theorem cloneIso_read_copy (F : Nat) (σ : GStore) (v : GVal) (l : Loc) (hl : l ∈ reach F σ.heap v) :
    readG (cloneIso F σ v).1.heap (l + σ.next) = shiftCell σ.next (readG σ.heap l) := by
  rw [readG, cloneIso_heap, overlay_hit (fun x => shiftCell σ.next (readG σ.heap x)) σ.next σ.heap l _ hl]

theorem shift_look (off : Nat) (S : List Loc) (h h' : GHeap)
    (hread : ∀ l ∈ S, readG h' (l + off) = shiftCell off (readG h l)) (hcl : Closed S h) :
    ∀ (D A : Nat) (w : GVal), Covered S A w → unfold D h' (shift off A w) = unfold D h w := by
  intro D
  induction D with
  | zero => intro A w _; rfl
  | succ D ih =>
    intro A w hc
    cases A with
    | zero => exact False.elim hc
    | succ A =>
      cases w with
      | scalar n => rfl
      | nil => rfl
      | ref l =>
        simp only [shift, unfold, hread l hc, shiftCell, List.map_map]
        exact congrArg _ (List.map_congr_left (fun q hq => congrArg (Prod.mk q.1) (ih gdepth q.2 (hcl l hc q hq))))
      | agg fs =>
        simp only [shift, unfold, List.map_map]
        exact congrArg _ (List.map_congr_left (fun q hq => congrArg (Prod.mk q.1) (ih A q.2 (hc q hq))))

/-- the memoised clone looks like the original at EVERY depth (same shape, same keys, same leaves; a shared or cyclic
    original and its clone unfold to the same tree). -/
theorem cloneIso_iso (F : Nat) (σ : GStore) (v : GVal)
    (hcov : Covered (reach F σ.heap v) gdepth v) (hcl : Closed (reach F σ.heap v) σ.heap) :
    Look (cloneIso F σ v).1.heap (cloneIso F σ v).2 σ.heap v := by
  intro D
  exact shift_look σ.next (reach F σ.heap v) σ.heap (cloneIso F σ v).1.heap
    (fun l hl => cloneIso_read_copy F σ v l hl) hcl D gdepth v hcov

theorem cloneIso_ser (F : Nat) (σ : GStore) (v : GVal)
    (hcov : Covered (reach F σ.heap v) gdepth v) (hcl : Closed (reach F σ.heap v) σ.heap) (D : Nat) :
    ser D (cloneIso F σ v).1.heap (cloneIso F σ v).2 = ser D σ.heap v :=
  ser_of_unfold D _ _ _ _ (cloneIso_iso F σ v hcov hcl D)

theorem cloneIso_wf (F : Nat) (σ : GStore) (v : GVal) (hw : Wf σ) (hb : ∀ x ∈ reach F σ.heap v, x < σ.next) :
    Wf (cloneIso F σ v).1 := by
  intro x hx
  have hx' : σ.next + σ.next ≤ x := hx
  rw [cloneIso_heap, overlay_miss]
  · exact hw x (Nat.le_trans (Nat.le_add_left _ _) hx')
  · -- the copies of allocated cells lie below twice the offset
    intro p hp heq
    obtain ⟨l, hl, rfl⟩ := List.mem_map.1 hp
    exact Nat.lt_irrefl _ (Nat.lt_of_lt_of_le (heq ▸ Nat.add_lt_add_right (hb l hl) _) hx')

theorem reach_closed (S : List Loc) (h : GHeap) (hcl : Closed S h) :
    ∀ (D A : Nat) (w : GVal), Covered S A w → ∀ x ∈ reach D h w, x ∈ S := by
  intro D
  induction D with
  | zero => intro A w _ x hx; exact nomatch hx
  | succ D ih =>
    intro A w hc x hx
    cases A with
    | zero => exact False.elim hc
    | succ A =>
      cases w with
      | scalar n => exact nomatch hx
      | nil => exact nomatch hx
      | ref l =>
        rcases mem_reach_ref.1 hx with rfl | ⟨q, hq, hx⟩
        · exact hc
        · exact ih gdepth q.2 (hcl l hc q hq) x hx
      | agg fs =>
        obtain ⟨q, hq, hx⟩ := mem_reach_agg.1 hx
        exact ih A q.2 (hc q hq) x hx

/-- the default's cells lie in the schema-owned region `[0,n)`, `reach F` collected every one of them (the memo table of
    `deepCloneSeen` holds every cell met), aggregates nest less than 16 deep -/
structure DefaultOK (F n : Nat) (h : GHeap) (d : GVal) : Prop where
  below : ∀ x ∈ reach F h d, x < n
  cov : Covered (reach F h d) gdepth d
  closed : Closed (reach F h d) h

theorem defaultOK_frame (F n : Nat) (σ σ' : GStore) (d : GVal) (he : GExt n σ σ') (ok : DefaultOK F n σ.heap d) :
    DefaultOK F n σ'.heap d ∧ Look σ'.heap d σ.heap d := by
  have hr := (g_graph_frame F n σ σ' d he ok.below).1
  refine ⟨⟨?_, ?_, ?_⟩, ?_⟩
  · rw [hr]; exact ok.below
  · rw [hr]; exact ok.cov
  · rw [hr]
    intro l hl q hq
    rw [readG_congr l (he.2 l (ok.below l hl))] at hq
    exact ok.closed l hl q hq
  · intro D
    exact unfold_frame D n σ σ' d he
      (fun x hx => ok.below x (reach_closed _ σ.heap ok.closed D gdepth d ok.cov x hx))

/-- Parse(nil) with the memoised clone writes nothing that existed, answers with new cells only — to any depth — and the
    answer looks like the default at every depth. -/
theorem cloneIso_parse (F : Nat) (σ : GStore) (d : GVal) (hw : Wf σ) (ok : DefaultOK F σ.next σ.heap d) :
    GExt σ.next σ (cloneIso F σ d).1 ∧
    (∀ G, ∀ x ∈ reach G (cloneIso F σ d).1.heap (cloneIso F σ d).2, σ.next ≤ x) ∧
    Look (cloneIso F σ d).1.heap (cloneIso F σ d).2 σ.heap d ∧ Wf (cloneIso F σ d).1 :=
  ⟨cloneIso_ext F σ d, fun G => cloneIso_result_fresh F σ d hw G, cloneIso_iso F σ d ok.cov ok.closed,
   cloneIso_wf F σ d hw ok.below⟩

inductive IStep where
  | parse
  | assign (l : Loc) (c : Entries)

def runI (F : Nat) (d : GVal) : GStore → List IStep → GStore
  | σ, [] => σ
  | σ, .parse :: rest => runI F d (cloneIso F σ d).1 rest
  | σ, .assign l c :: rest => runI F d (assign σ l c) rest

theorem runI_ext (F n : Nat) (d : GVal) (ops : List IStep) :
    ∀ (σ : GStore), n ≤ σ.next → (∀ o ∈ ops, match o with | .assign l _ => n ≤ l | .parse => True) →
    GExt n σ (runI F d σ ops) := by
  induction ops with
  | nil => intro σ _ _; exact GExt.refl _ _
  | cons o rest ih =>
    intro σ hn hok
    have hrest : ∀ o ∈ rest, match o with | .assign l _ => n ≤ l | .parse => True :=
      fun o ho => hok o (List.mem_cons_of_mem _ ho)
    cases o with
    | parse =>
      have e := (cloneIso_ext F σ d).mono hn
      simp only [runI]
      exact e.trans (ih _ (Nat.le_trans hn e.1) hrest)
    | assign l c =>
      have hl : n ≤ l := hok (.assign l c) (List.mem_cons_self ..)
      simp only [runI]
      exact (assign_ext n σ l c hl).trans (ih _ hn hrest)

/-- whatever the caller does — any interleaving of Parse(nil) calls (the memoised clone) and stores of arbitrary contents
    into cells outside the schema-owned region (by `cloneIso_parse` every cell reachable from an answer, at any depth, is
    such a cell) — the default looks the same at every depth, and the next Parse(nil) answers something that looks like it
    at every depth. No bound on the depth of the default, cycles and sharing included. -/
theorem cloneIso_hist (F n : Nat) (d : GVal) (ops : List IStep) (σ : GStore) (hn : n ≤ σ.next) (ok : DefaultOK F n σ.heap d)
    (hok : ∀ o ∈ ops, match o with | .assign l _ => n ≤ l | .parse => True) :
    Look (runI F d σ ops).heap d σ.heap d ∧
    Look (cloneIso F (runI F d σ ops) d).1.heap (cloneIso F (runI F d σ ops) d).2 σ.heap d := by
  have e := runI_ext F n d ops σ hn hok
  obtain ⟨ok', hl⟩ := defaultOK_frame F n σ _ d e ok
  exact ⟨hl, (cloneIso_iso F _ d ok'.cov ok'.closed).trans hl⟩

/-- Parse(nil); the caller stores ANY contents into ANY cell it can reach, at any depth, from the answer; Parse(nil) again:
    the default and the second answer look, at every depth, like the default did. -/
theorem cloneIso_parse_mutate_parse (F G : Nat) (σ : GStore) (d : GVal) (hw : Wf σ) (ok : DefaultOK F σ.next σ.heap d)
    (l : Loc) (c : Entries) (hl : l ∈ reach G (cloneIso F σ d).1.heap (cloneIso F σ d).2) :
    Look (assign (cloneIso F σ d).1 l c).heap d σ.heap d ∧
    Look (cloneIso F (assign (cloneIso F σ d).1 l c) d).1.heap (cloneIso F (assign (cloneIso F σ d).1 l c) d).2 σ.heap d := by
  have hfresh := cloneIso_result_fresh F σ d hw G l hl
  exact cloneIso_hist F σ.next d [.parse, .assign l c] σ (Nat.le_refl _) ok (by
    intro o ho
    simp only [List.mem_cons, List.mem_nil_iff, or_false] at ho
    rcases ho with rfl | rfl
    · trivial
    · exact hfresh)

/-- the tree-unrolling clone `Graph.copy` (the one `parseS` and the `own_*` theorems run) and the memoised clone answer
    values that look the same at every depth; they differ in the sharing INSIDE the answer only. -/
theorem cloneIso_copy_look (F F' : Nat) (σ : GStore) (v : GVal) (hb : Below σ v)
    (hcov : Covered (reach F σ.heap v) gdepth v) (hcl : Closed (reach F σ.heap v) σ.heap) :
    Look (cloneIso F σ v).1.heap (cloneIso F σ v).2 (copy true F' σ v).1.heap (copy true F' σ v).2 :=
  (cloneIso_iso F σ v hcov hcl).trans (copy_look F' σ v hb).2.1.symm

example : DefaultOK 8 2 σself.heap (.ref 1) := by
  have h1 : (1 : Nat) ∈ reach 8 σself.heap (.ref 1) := by decide
  refine ⟨by decide, h1, fun l hl q hq => ?_⟩
  obtain rfl : l = 1 := (by decide : ∀ x ∈ reach 8 σself.heap (.ref 1), x = 1) l hl
  -- the two entries of the cell: a scalar, and the cell itself
  rcases List.mem_cons.1 (hq : q ∈ [(0, GVal.scalar 7), (1, GVal.ref 1)]) with rfl | hq
  · exact trivial
  · obtain rfl := List.mem_singleton.1 hq
    exact h1

end Gozod.C15
