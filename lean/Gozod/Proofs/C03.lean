/-
  C03 — nil handling follows Default > Prefault > NonOptional > Optional/Nilable,
        for every sequence of modifier calls.

  The internals after a history are an abstraction of the history (`applyAll_fields`), which is compared with the
  history-only specification; wrapper chains have a closed form with the default short-circuit as a parameter
  (`parse_wrapFrom`); the context-threaded transcription is the context-free one (`ctxStep_eq`).

  The last third: a non-nil input is validated as without the modifiers (`nonnilFrame`), and the regenerated tables.
  `def X_full : Prop` names a statement for the claim texts and the witnesses; `theorem X : X_full` stands directly below,
  except `c03_default_runs_no_check_full`, which is false at HEAD (in Proofs/C02.lean `_full` always marks a falsified law).
-/
import Gozod.Model.Modifiers
import Gozod.Gen.C03Tables

namespace Gozod.C03
open Gozod.Mods

theorem applyAll_cons (rule : RefineRule) (i : I) (op : Op) (h : List Op) :
    applyAll rule i (op :: h) = applyAll rule (apply rule i op) h := rfl

def isOverwriteOp : Op → Bool
  | .overwrite => true
  | _ => false

theorem orElse_some_orElse {α : Type} (x : Option α) (v : α) (d : Unit → Option α) :
    (x.orElse fun _ => some v) = (x.orElse fun _ => some v).orElse d := by
  cases x <;> rfl

/-- A call touches at most one of the six fields: for every other component the induction hypothesis at `apply rule i op`
    is the claim as it stands. -/
theorem applyAll_fields (rule : RefineRule) (h : List Op) : ∀ i : I,
    (applyAll rule i h).dv = ((lastDv h).orElse fun _ => i.dv) ∧
    (applyAll rule i h).df = ((lastDf h).orElse fun _ => i.df) ∧
    (applyAll rule i h).pv = ((lastPv h).orElse fun _ => i.pv) ∧
    (applyAll rule i h).pf = ((lastPf h).orElse fun _ => i.pf) ∧
    (applyAll rule i h).nonOptional = (i.nonOptional || h.any isNonOptionalOp) ∧
    (applyAll rule i h).hasOverwrite = (i.hasOverwrite || h.any isOverwriteOp) := by
  induction h with
  | nil => exact fun i => ⟨rfl, rfl, rfl, rfl, (Bool.or_false _).symm, (Bool.or_false _).symm⟩
  | cons op h ih =>
    intro i
    obtain ⟨hdv, hdf, hpv, hpf, hno, how⟩ := ih (apply rule i op)
    rw [applyAll_cons]
    cases op with
    | dflt v => exact ⟨hdv.trans (orElse_some_orElse ..), hdf, hpv, hpf, hno, how⟩
    | dfltFn v => exact ⟨hdv, hdf.trans (orElse_some_orElse ..), hpv, hpf, hno, how⟩
    | prefault v => exact ⟨hdv, hdf, hpv.trans (orElse_some_orElse ..), hpf, hno, how⟩
    | prefaultFn v => exact ⟨hdv, hdf, hpv, hpf.trans (orElse_some_orElse ..), hno, how⟩
    | nonOptional => exact ⟨hdv, hdf, hpv, hpf, hno.trans (Bool.or_true _).symm, how⟩
    | overwrite => exact ⟨hdv, hdf, hpv, hpf, hno, how.trans (Bool.or_true _).symm⟩
    | _ => exact ⟨hdv, hdf, hpv, hpf, hno, how⟩

theorem dv_applyAll (rule : RefineRule) (h : List Op) : ∀ i : I,
    (applyAll rule i h).dv = (lastDv h).orElse fun _ => i.dv :=
  fun i => (applyAll_fields rule h i).1

theorem df_applyAll (rule : RefineRule) (h : List Op) : ∀ i : I,
    (applyAll rule i h).df = (lastDf h).orElse fun _ => i.df :=
  fun i => (applyAll_fields rule h i).2.1

theorem pv_applyAll (rule : RefineRule) (h : List Op) : ∀ i : I,
    (applyAll rule i h).pv = (lastPv h).orElse fun _ => i.pv :=
  fun i => (applyAll_fields rule h i).2.2.1

theorem pf_applyAll (rule : RefineRule) (h : List Op) : ∀ i : I,
    (applyAll rule i h).pf = (lastPf h).orElse fun _ => i.pf :=
  fun i => (applyAll_fields rule h i).2.2.2.1

theorem nonOptional_applyAll (rule : RefineRule) (h : List Op) : ∀ i : I,
    (applyAll rule i h).nonOptional = (i.nonOptional || h.any isNonOptionalOp) :=
  fun i => (applyAll_fields rule h i).2.2.2.2.1

theorem hasOverwrite_applyAll (rule : RefineRule) (h : List Op) : ∀ i : I,
    (applyAll rule i h).hasOverwrite = (i.hasOverwrite || h.any isOverwriteOp) :=
  fun i => (applyAll_fields rule h i).2.2.2.2.2

theorem optnil_applyAll (rule : RefineRule) (h : List Op) : ∀ i : I,
    h.any isNonOptionalOp = false →
    ((applyAll rule i h).optional || (applyAll rule i h).nilable) =
      (i.optional || i.nilable || h.any isOptionalOp) := by
  induction h with
  | nil => exact fun i _ => (Bool.or_false _).symm
  | cons op h ih =>
    intro i hn
    obtain ⟨hop, hh⟩ := Bool.or_eq_false_iff.mp hn
    refine (ih _ hh).trans ?_
    cases op with
    | nonOptional => cases hop
    | optional | nilable | nullish => simp [apply, isOptionalOp]
    | _ => rfl

theorem any_default_prefault (h : List Op) :
    h.any isDefaultOp = ((lastDv h).isSome || (lastDf h).isSome) ∧
    h.any isPrefaultOp = ((lastPv h).isSome || (lastPf h).isSome) := by
  induction h with
  | nil => exact ⟨rfl, rfl⟩
  | cons op h ih =>
    have fst (x y : Option Bool) (v : Bool) : true = ((x.orElse fun _ => some v).isSome || y.isSome) := by
      cases x <;> rfl
    have snd (x y : Option Bool) (v : Bool) : true = (x.isSome || (y.orElse fun _ => some v).isSome) := by
      cases x <;> cases y <;> rfl
    cases op with
    | dflt v => exact ⟨fst (lastDv h) _ v, ih.2⟩
    | dfltFn v => exact ⟨snd _ (lastDf h) v, ih.2⟩
    | prefault v => exact ⟨ih.1, fst (lastPv h) _ v⟩
    | prefaultFn v => exact ⟨ih.1, snd _ (lastPf h) v⟩
    | _ => exact ih

def c03_history_full (rule : RefineRule) (admitsNil : Bool) : Prop :=
  ∀ h : List Op, specNil admitsNil h (nilOutcome admitsNil (applyAll rule {} h)) = true

/-- C03, engine path. For every history of modifier calls, with Overwrite / Refine calls in between, a nil input yields:
    the default if one was set (unchecked), else the prefault through the full pipeline, else the nonoptional error, else
    nil if Optional/Nilable/Nullish was called or the type admits nil, else a type error. -/
theorem c03_history (rule : RefineRule) (admitsNil : Bool) : c03_history_full rule admitsNil := by
  intro h
  obtain ⟨hdv, hdf, hpv, hpf, hno, -⟩ := applyAll_fields rule h {}
  have hon := optnil_applyAll rule h {}
  unfold nilOutcome specNil
  rw [hdv, hdf, hpv, hpf, hno, (any_default_prefault h).1, (any_default_prefault h).2]
  -- both sides read the history through `lastDv h … lastPf h` and the three `any` flags only
  match lastDv h, lastDf h, lastPv h, lastPf h with
  | some _, _, _, _ | none, some _, _, _ => rfl
  | none, none, some true, _ | none, none, some false, _ => rfl
  | none, none, none, some true | none, none, none, some false => rfl
  | none, none, none, none =>
    cases hA : h.any isNonOptionalOp with
    | true => rfl
    | false => rw [hon hA]; cases h.any isOptionalOp <;> cases admitsNil <;> rfl

/-- The proof uses the first seven equations; `hasOverwrite` and `refines` are not read. Nothing is said of non-nil
    inputs here: that clause is `c03_nonnil_frame`. -/
theorem c03_outcome_reads_only_modifiers (admitsNil : Bool) (i j : I)
    (h : i.dv = j.dv ∧ i.df = j.df ∧ i.pv = j.pv ∧ i.pf = j.pf ∧ i.nonOptional = j.nonOptional ∧
         i.optional = j.optional ∧ i.nilable = j.nilable ∧ i.hasOverwrite = j.hasOverwrite ∧
         i.refines = j.refines) : nilOutcome admitsNil i = nilOutcome admitsNil j := by
  obtain ⟨h1, h2, h3, h4, h5, h6, h7, _, _⟩ := h
  unfold nilOutcome; rw [h1, h2, h3, h4, h5, h6, h7]

/-! The statement discriminates: the nil pass as it was before 4f7c1d7 / 7db47f1 (`legacyNilOutcome`) falsifies it. -/

/-- Before 4f7c1d7 — `String().Trim().Default(bad).Parse(nil)`: with an overwrite attached the default value was
    run through all checks, so a default that does not satisfy them was an error. -/
theorem c03_legacy_witness_default_checked :
    ¬ ∀ h : List Op, specNil false h (legacyNilOutcome false (applyAll .ptrTy {} h)) = true := by
  intro hfull
  have := hfull [.overwrite, .dflt false]
  revert this; decide

example : nilOutcome false (applyAll .ptrTy {} [.overwrite, .dflt false]) = .dflt false := by decide

/-- "…without running checks", read as a statement about check callbacks: with a default set, none runs on a nil input.
    False at /repo HEAD (`c03_witness_overwrite_on_default`). -/
def c03_default_runs_no_check_full (rule : RefineRule) : Prop :=
  ∀ h : List Op, h.any isDefaultOp = true → overwriteRunsOnDefault (applyAll rule {} h) = false

theorem c03_default_runs_no_check_partial (rule : RefineRule) (h : List Op)
    (ho : h.any isOverwriteOp = false) : overwriteRunsOnDefault (applyAll rule {} h) = false := by
  unfold overwriteRunsOnDefault
  rw [hasOverwrite_applyAll, ho]; simp

/-- `Complex().Default(1+1i).Overwrite(square).Parse(nil)` is `2i`: the overwrite checks still rewrite the default
    (the library's tests TestComplex_Overwrite / TestStringBool_Overwrite "default value interaction" expect this). -/
theorem c03_witness_overwrite_on_default : ¬ c03_default_runs_no_check_full .nilableFlag := by
  intro hfull
  have := hfull [.dflt true, .overwrite] (by decide)
  revert this; decide

/-- Before 7db47f1 — `String().Refine(f).Optional().Parse(nil)`: refinements ran on the nil value and a wrapper
    attached before `Optional()` rejects nil. The statement is word for word that of
    `c03_legacy_witness_default_checked` and is proved by it: the history named here, `[.refine, .optional]`, is not
    evaluated against `legacyNilOutcome` (the `example` below evaluates it against `nilOutcome`). -/
theorem c03_legacy_witness_refine_on_nil :
    ¬ ∀ h : List Op, specNil false h (legacyNilOutcome false (applyAll .ptrTy {} h)) = true :=
  c03_legacy_witness_default_checked

/-- `Int().Refine(f).Nilable().Parse(nil)` likewise for the Nilable-flag rule. -/
theorem c03_legacy_witness_refine_on_nil_int :
    ¬ ∀ h : List Op, specNil false h (legacyNilOutcome false (applyAll .nilableFlag {} h)) = true := by
  intro hfull
  have := hfull [.refine, .nilable]
  revert this; decide

example : nilOutcome false (applyAll .ptrTy {} [.refine, .optional]) = .nil ∧
    nilOutcome false (applyAll .nilableFlag {} [.refine, .nilable]) = .nil := by decide

theorem internals_attach (s : WS) (n : Nat) (w : W) : (s.attach n w).internals = s.internals := by
  cases w <;> rfl

/-- Each wrapper constructor clones its source's internals, so `t.source.Internals()` answers for the base at every
    level. -/
theorem internals_wrapFrom (ws : List W) : ∀ (s : WS) (n : Nat),
    (s.wrapFrom n ws).internals = s.internals := by
  induction ws with
  | nil => intro s n; rfl
  | cons w ws ih => intro s n; exact (ih _ _).trans (internals_attach s n w)

theorem internals_wrap (i : I) (ws : List W) : (wrap i ws).internals = i :=
  internals_wrapFrom ws (.base i) 1

def pipeCalls (v : V) (n : Nat) : List W → List Call
  | [] => []
  | .tf :: ws => pipeCalls v (n + 1) ws
  | .pipe :: ws => ⟨true, n, v⟩ :: pipeCalls v (n + 1) ws

/-- `sc` is the default short-circuit (`inp.isNil && hasDefault …`, transform.go:45-46, the same at every level by
    `internals_wrapFrom`): off, every wrapper runs once in order; on, the value passes unchanged and only the pipe
    targets are called. -/
def chain (sc : Bool) (v : V) (n : Nat) (ws : List W) : V × List Call :=
  if sc then (v, pipeCalls v n ws) else runAll v n ws

/-- one wrapper attached to a result and its log (`parse_attach`); no kin of `ctxStep` / `stepLeaky`. -/
def step (sc : Bool) (p : R × List Call) (n : Nat) (w : W) : R × List Call :=
  match p, w with
  | (.ok v, log), .tf => if sc then (.ok v, log) else (.ok (.app n v), log ++ [⟨false, n, v⟩])
  | (.ok v, log), .pipe => (.ok v, log ++ [⟨true, n, v⟩])
  | (.err o, log), _ => (.err o, log)

/-- a whole chain: `extendP false` on an empty log is the model's `extend`, `extendP true` calls the pipe targets only. -/
def extendP (sc : Bool) (p : R × List Call) (n : Nat) (ws : List W) : R × List Call :=
  match p with
  | (.ok v, log) => (.ok (chain sc v n ws).1, log ++ (chain sc v n ws).2)
  | (.err o, log) => (.err o, log)

theorem parse_attach (adm : Bool) (inp : In) (s : WS) (n : Nat) (w : W) :
    (s.attach n w).parse adm inp = step (inp.isNil && hasDefault s.internals) (s.parse adm inp) n w := by
  cases w
  · show (if _ then _ else _) = _
    rcases s.parse adm inp with ⟨_ | _, _⟩ <;> cases (inp.isNil && hasDefault s.internals) <;> rfl
  · show (match s.parse adm inp with | (.ok v, log) => _ | (.err o, log) => _) = _
    rcases s.parse adm inp with ⟨_ | _, _⟩ <;> rfl

theorem extendP_step (sc : Bool) (p : R × List Call) (n : Nat) (w : W) (ws : List W) :
    extendP sc (step sc p n w) (n + 1) ws = extendP sc p n (w :: ws) := by
  rcases p with ⟨v | o, log⟩
  · -- the entry of a wrapper that is called moves from the end of the log to the head of the chain's calls
    cases w <;> cases sc
    · exact congrArg _ (List.append_assoc log [_] _)
    · rfl  -- a skipped transform
    · exact congrArg _ (List.append_assoc log [_] _)
    · exact congrArg _ (List.append_assoc log [_] _)
  · cases w <;> rfl

theorem extendP_nil (sc : Bool) (p : R × List Call) (n : Nat) : extendP sc p n [] = p := by
  rcases p with ⟨v | o, log⟩
  · cases sc <;> exact congrArg (Prod.mk _) (List.append_nil log)
  · rfl

theorem parse_wrapFrom (adm : Bool) (inp : In) (ws : List W) : ∀ (s : WS) (n : Nat),
    (s.wrapFrom n ws).parse adm inp =
      extendP (inp.isNil && hasDefault s.internals) (s.parse adm inp) n ws := by
  induction ws with
  | nil => intro s n; exact (extendP_nil _ _ n).symm
  | cons w ws ih =>
    intro s n
    show ((s.attach n w).wrapFrom (n + 1) ws).parse adm inp = _
    rw [ih, internals_attach, parse_attach, extendP_step]

theorem parse_wrapFrom_plain (adm : Bool) (inp : In) (ws : List W) (s : WS) (n : Nat)
    (h : (inp.isNil && hasDefault s.internals) = false) :
    (s.wrapFrom n ws).parse adm inp = extendP false (s.parse adm inp) n ws :=
  h ▸ parse_wrapFrom adm inp ws s n

theorem parse_wrapFrom_default (adm : Bool) (ws : List W) (s : WS) (n : Nat) (h : hasDefault s.internals = true) :
    (s.wrapFrom n ws).parse adm .nil = extendP true (s.parse adm .nil) n ws :=
  h ▸ parse_wrapFrom adm .nil ws s n

/-- No default, or a non-nil input: the base schema's result passes through every wrapper once, in order; an error of the
    base stays that error and no callback runs. Covers the prefault, the Optional/Nilable nil and every non-nil input. -/
theorem c03_wrapped_plain (adm : Bool) (inp : In) (i : I) (ws : List W)
    (h : (inp.isNil && hasDefault i) = false) :
    (wrap i ws).parse adm inp = extend (parseBase adm i inp) 1 ws := by
  refine (parse_wrapFrom_plain adm inp ws (.base i) 1 h).trans ?_
  show extendP false (parseBase adm i inp, []) 1 ws = _
  cases parseBase adm i inp <;> rfl

/-- Default set, nil input: the result is what the base schema returned, no transform function is called, and the only
    callbacks are the pipe targets (second schemas: they receive what their source stage returned). -/
theorem c03_wrapped_default (adm : Bool) (i : I) (ws : List W) (h : hasDefault i = true) :
    (wrap i ws).parse adm .nil =
      match baseNil adm i with
      | .ok v => (.ok v, pipeCalls v 1 ws)
      | .err o => (.err o, []) := by
  refine (parse_wrapFrom_default adm ws (.base i) 1 h).trans ?_
  show extendP true (baseNil adm i, []) 1 ws = _
  cases baseNil adm i <;> rfl

def isTf : W → Bool
  | .tf => true
  | .pipe => false

def noPipe (ws : List W) : Bool := ws.all isTf

theorem pipeCalls_noPipe (v : V) (ws : List W) : ∀ n, noPipe ws = true → pipeCalls v n ws = [] := by
  induction ws with
  | nil => intros; rfl
  | cons w ws ih =>
    intro n h
    cases w with
    | tf => exact ih (n + 1) h
    | pipe => cases h

theorem pipeCalls_only_pipes (v : V) (ws : List W) : ∀ n, ∀ c ∈ pipeCalls v n ws, c.pipe = true ∧ c.arg = v := by
  induction ws with
  | nil => intro n c hc; cases hc
  | cons w ws ih =>
    intro n c hc
    cases w with
    | tf => exact ih (n + 1) c hc
    | pipe =>
      rcases List.mem_cons.mp hc with rfl | hc
      · exact ⟨rfl, rfl⟩
      · exact ih (n + 1) c hc

theorem c03_default_skips_all_transforms (adm : Bool) (i : I) (ws : List W) (h : hasDefault i = true) :
    ∀ c ∈ ((wrap i ws).parse adm .nil).2, c.pipe = true := by
  rw [c03_wrapped_default adm i ws h]
  cases baseNil adm i with
  | ok v => exact fun c hc => (pipeCalls_only_pipes v ws 1 c hc).1
  | err o => intro c hc; cases hc

theorem pipeCalls_eq_spec (v : V) (ws : List W) : ∀ n, pipeCalls v n ws = runPipesOnly v n ws := by
  induction ws with
  | nil => intro n; rfl
  | cons w ws ih =>
    intro n
    cases w with
    | tf => exact ih _
    | pipe => exact congrArg _ (ih _)

theorem hasDefault_applyAll (rule : RefineRule) (h : List Op) :
    hasDefault (applyAll rule {} h) = h.any isDefaultOp := by
  unfold hasDefault
  rw [dv_applyAll, df_applyAll, (any_default_prefault h).1]
  cases lastDv h <;> cases lastDf h <;> rfl

theorem nilOutcome_of_hasDefault (adm : Bool) {i : I} (h : hasDefault i = true) :
    nilOutcome adm i = .dflt i.dv.isNone := by
  revert h; unfold hasDefault nilOutcome
  match i.dv, i.df with
  | some _, _ | none, some _ => intro; rfl
  | none, none => intro h; cases h

theorem nilOutcome_ne_dflt (adm : Bool) {i : I} (h : hasDefault i = false) (k : Bool) :
    nilOutcome adm i ≠ .dflt k := by
  revert h; unfold hasDefault nilOutcome
  match i.dv, i.df, i.pv, i.pf with
  | some _, _, _, _ | none, some _, _, _ => intro h; cases h
  | none, none, some v, _ | none, none, none, some v => cases v <;> exact fun _ => Outcome.noConfusion
  | none, none, none, none =>
    cases i.nonOptional <;> cases (i.optional || i.nilable) <;> cases adm <;> exact fun _ => Outcome.noConfusion

/-- For ANY internals. The short-circuit is on exactly when the bare schema's outcome class is the default. -/
theorem wrap_parse_nil (adm : Bool) (i : I) (ws : List W) :
    (wrap i ws).parse adm .nil = specWrapped (nilOutcome adm i) ws := by
  cases hd : hasDefault i with
  | true =>
    rw [c03_wrapped_default adm i ws hd, baseNil, nilOutcome_of_hasDefault adm hd]
    exact congrArg _ (pipeCalls_eq_spec _ ws 1)
  | false =>
    rw [c03_wrapped_plain adm .nil i ws (hd ▸ rfl)]
    show extend (baseNil adm i) 1 ws = _
    unfold baseNil
    cases ho : nilOutcome adm i with
    | dflt k => exact absurd ho (nilOutcome_ne_dflt adm hd k)
    | _ => rfl

theorem mem_allOutcomes (o : Outcome) : o ∈ allOutcomes := by
  cases o with
  | dflt k | prefaultOk k => cases k <;> decide
  | _ => decide

theorem specNilW_of (adm : Bool) (h : List Op) (ws : List W) (o : Outcome) (obs : R × List Call)
    (h1 : specNil adm h o = true) (h2 : obs = specWrapped o ws) : specNilW adm h ws obs = true :=
  List.any_eq_true.mpr ⟨o, mem_allOutcomes o, by simp [h1, h2]⟩

def c03_wrapped_full (rule : RefineRule) (admitsNil : Bool) : Prop :=
  ∀ (h : List Op) (ws : List W),
    specNilW admitsNil h ws ((wrap (applyAll rule {} h) ws).parse admitsNil .nil) = true

/-- C03 under wrappers, result and callback log: the default value with no Transform callback called; else the validated
    prefault, or the accepted nil, passed through every wrapper once in order; else the error, nothing called. -/
theorem c03_wrapped (rule : RefineRule) (admitsNil : Bool) : c03_wrapped_full rule admitsNil := by
  intro h ws
  exact specNilW_of admitsNil h ws _ _ (c03_history rule admitsNil h) (wrap_parse_nil admitsNil _ ws)

theorem c03_wrapped_nonnil (adm : Bool) (i : I) (ws : List W) (valid : Bool) :
    (wrap i ws).parse adm (if valid then .valid else .invalid) = specValW valid ws ∧
    (wrap i ws).parse adm (if valid then .valid else .invalid) =
      (wrap {} ws).parse adm (if valid then .valid else .invalid) := by
  cases valid <;> simp [c03_wrapped_plain, In.isNil, specValW, parseBase]

example :
    (wrap (applyAll .ptrTy {} [.dflt true, .optional]) [.tf, .tf, .tf]).parse false .nil
      = (.ok (.src (.dflt false)), []) ∧
    (wrap (applyAll .ptrTy {} [.prefault true]) [.tf, .pipe, .tf]).parse false .nil
      = (.ok (.app 3 (.app 1 (.src (.prefaultOk false)))),
         [⟨false, 1, .src (.prefaultOk false)⟩, ⟨true, 2, .app 1 (.src (.prefaultOk false))⟩,
          ⟨false, 3, .app 1 (.src (.prefaultOk false))⟩]) ∧
    (wrap (applyAll .ptrTy {} [.optional]) [.tf, .tf]).parse false .nil
      = (.ok (.app 2 (.app 1 (.src .nil))), [⟨false, 1, .src .nil⟩, ⟨false, 2, .app 1 (.src .nil)⟩]) ∧
    (wrap (applyAll .ptrTy {} [.nonOptional]) [.tf, .pipe]).parse false .nil = (.err .nonOptional, []) := by
  decide +kernel

example :
    nilOutcome false (applyAll .ptrTy {} [.optional, .dflt false, .nonOptional, .prefaultFn true]) = .dflt false ∧
    nilOutcome false (applyAll .ptrTy {} [.nilable, .nonOptional, .optional]) = .nonOptional ∧
    nilOutcome false (applyAll .ptrTy {} [.prefault false, .nullish]) = .checkError ∧
    nilOutcome false (applyAll .ptrTy {} []) = .typeError := by decide +kernel

/-- One `*core.ParseContext` goes through a sequence of parses (a caller reusing it; the children of a container); the
    code writes no field of it, so the earlier theorems speak about every parse of a sequence. -/
theorem ctxStep_eq (c : Ctx) (s : Sch) (inp : In) : ctxStep c s inp = (c, parseBase s.admitsNil s.i inp) := by
  obtain ⟨adm, i⟩ := s
  cases inp with
  | nil =>
    unfold ctxStep processModifiersCtx parseBase baseNil nilOutcome
    match i.dv, i.df, i.pv, i.pf with
    | some _, _, _, _ | none, some _, _, _ => rfl
    | none, none, some v, _ | none, none, none, some v => cases v <;> rfl
    | none, none, none, none => cases i.nonOptional <;> cases (i.optional || i.nilable) <;> cases adm <;> rfl
  | _ => rfl

/-- `step` in this name and the next is `ctxStep` (names listed in vlib/c03.py). -/
theorem step_ctx (c : Ctx) (s : Sch) (inp : In) : (ctxStep c s inp).1 = c :=
  congrArg Prod.fst (ctxStep_eq c s inp)

theorem step_eq_parseBase (c : Ctx) (s : Sch) (inp : In) :
    (ctxStep c s inp).2 = parseBase s.admitsNil s.i inp :=
  congrArg Prod.snd (ctxStep_eq c s inp)

theorem runSeq_of_ctx_free {stp : Ctx → Sch → In → Ctx × R} {f : Sch → In → R}
    (hstp : ∀ c s inp, stp c s inp = (c, f s inp)) (ps : List (Sch × In)) :
    ∀ c, runSeq stp c ps = (c, ps.map fun p => f p.1 p.2) := by
  induction ps with
  | nil => intro c; rfl
  | cons p ps ih => intro c; simp only [runSeq, hstp, ih, List.map_cons]

theorem runSeq_ctx (ps : List (Sch × In)) : ∀ c : Ctx, (runSeq ctxStep c ps).1 = c :=
  fun c => congrArg Prod.fst (runSeq_of_ctx_free ctxStep_eq ps c)

theorem runSeq_results (ps : List (Sch × In)) : ∀ c : Ctx,
    (runSeq ctxStep c ps).2 = ps.map fun p => (ctxStep {} p.1 p.2).2 := by
  intro c; simp only [runSeq_of_ctx_free ctxStep_eq, ctxStep_eq]

def ctxHistoryIndependent (stp : Ctx → Sch → In → Ctx × R) : Prop :=
  ∀ (c0 : Ctx) (earlier : List (Sch × In)) (s : Sch) (inp : In),
    (stp (runSeq stp c0 earlier).1 s inp).2 = (stp {} s inp).2

theorem c03_ctx_history : ctxHistoryIndependent ctxStep := by
  intro c0 earlier s inp
  rw [ctxStep_eq, ctxStep_eq]

/-- The statement discriminates: a step function that parses the prefault under a flag on the context and
    restores the flag only on success is rejected — after `String().Min(5).Prefault("ab").Parse(nil, ctx)` the
    parse `String().Optional().Prefault("hello").Parse(nil, ctx)` yields nil instead of the prefault. -/
theorem c03_ctx_history_discriminates : ¬ ctxHistoryIndependent stepLeaky := by
  intro h
  have := h {} [(⟨false, applyAll .ptrTy {} [.prefault false]⟩, .nil)]
    ⟨false, applyAll .ptrTy {} [.optional, .prefault true]⟩ .nil
  revert this; decide

structure PStep where
  rule : RefineRule
  admitsNil : Bool
  h : List Op
  inp : In

def PStep.sch (p : PStep) : Sch := ⟨p.admitsNil, applyAll p.rule {} p.h⟩

def seqMeetsSpec (c0 : Ctx) (ps : List PStep) : Bool :=
  ((runSeq ctxStep c0 (ps.map fun p => (p.sch, p.inp))).2.zip ps).all fun rp => specStep rp.2.admitsNil rp.2.h rp.2.inp rp.1

theorem specStep_baseNil (adm : Bool) (h : List Op) (adm' : Bool) (i : I) :
    specStep adm h .nil (baseNil adm' i) = specNil adm h (nilOutcome adm' i) := by
  unfold baseNil; cases nilOutcome adm' i <;> rfl

theorem specStep_parseBase (p : PStep) :
    specStep p.admitsNil p.h p.inp (parseBase p.admitsNil (applyAll p.rule {} p.h) p.inp) = true := by
  cases p.inp with
  | nil => exact (specStep_baseNil ..).trans (c03_history p.rule p.admitsNil p.h)
  | _ => rfl

def c03_ctx_seq_full : Prop := ∀ (c0 : Ctx) (ps : List PStep), seqMeetsSpec c0 ps = true

theorem c03_ctx_seq : c03_ctx_seq_full := by
  intro c0 ps
  unfold seqMeetsSpec
  rw [runSeq_of_ctx_free ctxStep_eq]
  induction ps with
  | nil => rfl
  | cons p ps ih => exact Bool.and_eq_true_iff.mpr ⟨specStep_parseBase p, ih⟩

example :
    (runSeq ctxStep { isPrefaultContext := true, reportInput := true }
      [(⟨false, applyAll .ptrTy {} [.prefault false]⟩, .nil),
       (⟨false, applyAll .ptrTy {} [.optional, .prefaultFn true]⟩, .nil),
       (⟨false, applyAll .nilableFlag {} [.dflt false, .prefault true]⟩, .nil),
       (⟨false, applyAll .nilableFlag {} [.nonOptional]⟩, .valid),
       (⟨false, {}⟩, .nil)]).2
      = [.err .checkError, .ok (.src (.prefaultOk true)), .ok (.src (.dflt false)), .ok .inp, .err .typeError] := by
  decide +kernel

theorem applyAllC_i {Cfg : Type} (drops : Kind → Op → Bool) (k : Kind) (rule : RefineRule) (zero : Cfg) (h : List Op) :
    ∀ s : SchC Cfg, (applyAllC drops k rule zero s h).i = applyAll rule s.i h ∧
      (applyAllC drops k rule zero s h).admitsNil = s.admitsNil := by
  induction h with
  | nil => intro s; exact ⟨rfl, rfl⟩
  | cons op h ih => exact fun s => ih (applyC drops k rule zero s op)

theorem applyAllC_cfg {Cfg : Type} (drops : Kind → Op → Bool) (k : Kind) (rule : RefineRule) (zero : Cfg) (h : List Op) :
    ∀ s : SchC Cfg, (applyAllC drops k rule zero s h).cfg = if h.any (drops k) then zero else s.cfg := by
  induction h with
  | nil => intro s; rfl
  | cons op h ih =>
    intro s
    refine (ih _).trans ?_
    show (if h.any (drops k) = true then zero else if drops k op = true then zero else s.cfg) =
      if (drops k op || h.any (drops k)) = true then zero else s.cfg
    cases drops k op <;> cases h.any (drops k) <;> rfl

/-- `processModifiersCore` answers "not handled" to a non-nil input at once (`if !isNilInput(input)`, the first
    statement — `c03_pmc_structure_as_transcribed`), whatever the modifier state. -/
theorem processModifiers_nonNil (c : Ctx) (s : Sch) : processModifiersCtx c s .valid = (c, .notHandled) := rfl

theorem ctxStepX_nonNil {Cfg X Y : Type} (validate : Cfg → X → Option Y) (c : Ctx) (s : SchC Cfg) (x : X) :
    ctxStepX validate c s (some x) =
      (c, match validate s.cfg x with | some y => .accepted y | none => .rejected) := rfl

/-- `drops`: which modifier methods rebuild a type's internals without its configuration. -/
def nonnilFrame (drops : Kind → Op → Bool) : Prop :=
  ∀ (Cfg X Y : Type) (validate : Cfg → X → Option Y) (k : Kind) (rule : RefineRule) (zero : Cfg) (h : List Op)
    (s : SchC Cfg) (x : X) (c : Ctx),
    ctxStepX validate c (applyAllC drops k rule zero s h) (some x) = ctxStepX validate c s (some x)

theorem c03_nonnil_frame_of {Cfg X Y : Type} (drops : Kind → Op → Bool) (validate : Cfg → X → Option Y) (k : Kind)
    (rule : RefineRule) (zero : Cfg) (h : List Op) (hk : h.any (drops k) = false) (s : SchC Cfg) (x : X) (c : Ctx) :
    ctxStepX validate c (applyAllC drops k rule zero s h) (some x) = ctxStepX validate c s (some x) := by
  rw [ctxStepX_nonNil, ctxStepX_nonNil, applyAllC_cfg, hk]; rfl

/-- C03, last clause: for every type, value parser, configuration and history of modifier calls, a non-nil input yields
    what the schema without the modifiers yields (up to the static constraint type T / *T of the result) and leaves the
    context as it was. `dropsCfg` is constantly `false`, so this is `c03_nonnil_frame_of` with a hypothesis that always
    holds; what ties it to the code is `c03_cfg_drops_as_modelled`. -/
theorem c03_nonnil_frame : nonnilFrame dropsCfg := by
  intro Cfg X Y validate k rule zero h s x c
  have hk : h.any (dropsCfg k) = false := List.any_eq_false.mpr fun _ _ => Bool.false_ne_true
  exact c03_nonnil_frame_of dropsCfg validate k rule zero h hk s x c

theorem c03_frame_nil_side {Cfg X Y : Type} (drops : Kind → Op → Bool) (validate : Cfg → X → Option Y) (k : Kind)
    (rule : RefineRule) (zero : Cfg) (h : List Op) (s : SchC Cfg) (c : Ctx) :
    (ctxStepX validate c (applyAllC drops k rule zero s h) none).2 =
      .nilPath (parseBase s.admitsNil (applyAll rule s.i h) .nil) := by
  obtain ⟨hi, ha⟩ := applyAllC_i drops k rule zero h s
  simp only [ctxStepX, ctxStep_eq, hi, ha]

/-- A record as the witnesses see it: configuration = "is the key schema there", input = "does the key schema admit
    the input's keys". -/
def recordValidate (keyed : Bool) (keysAdmitted : Bool) : Option Unit :=
  if keyed && !keysAdmitted then none else some ()

/-- The statement discriminates — before 66ed2d6: `Record(Enum("a","b"), Int()).NonOptional().Parse(map[string]int{"a": 50,
    "zzz": 50})` succeeded where `Record(Enum("a","b"), Int()).Parse(…)` reports the unrecognized key: `NonOptional`
    rebuilt the internals without `KeyType` (and `Loose`). -/
theorem c03_legacy_frame_witness_record : ¬ nonnilFrame legacyDropsCfg := by
  intro hfull
  have := hfull Bool Bool Unit recordValidate .record .nilableFlag false [.nonOptional] ⟨true, false, {}⟩ false {}
  revert this; decide

/-- A partial struct likewise: before ef151cb `FromStruct[T]().Partial().NonOptional().Parse(T{})` was rejected where
    `FromStruct[T]().Partial().Parse(T{})` succeeds (`.structp, .nonOptional` in `legacyDropsCfg`). The statement is
    word for word that of `c03_legacy_frame_witness_record` and is proved by it: no struct instance is evaluated. -/
theorem c03_legacy_frame_witness_struct : ¬ nonnilFrame legacyDropsCfg :=
  c03_legacy_frame_witness_record

example :
    (ctxStepX recordValidate {} (applyAllC dropsCfg .record .nilableFlag false ⟨true, false, {}⟩
        [.optional, .dflt true, .nonOptional, .prefaultFn false, .nullish, .refine]) (some false)).2 = .rejected ∧
    (ctxStepX recordValidate {} (applyAllC dropsCfg .record .nilableFlag false ⟨true, false, {}⟩
        [.optional, .dflt true, .nonOptional, .prefaultFn false, .nullish]) none).2 = .nilPath (.ok (.src (.dflt false))) := by decide +kernel

/-! Statements about the WHOLE table regenerated from /repo's working tree (`Gozod/Gen/C03Tables.lean`): an edit of the
  source that adds a field to ParseContext, writes or reads one of its state fields anywhere in the library, reorders `processModifiersCore`, puts state handling around it in
  `processModifiers`, or adds a schema type with modifier methods changes a proof obligation here. -/

open Gozod.Gen in
theorem c03_ctx_fields_as_modelled : C03Tables.ctxFields = ctxFieldsExpected := rfl

open Gozod.Gen in
/-- the premise of `ctxStep` returning the context it was given (`step_ctx`). -/
theorem c03_ctx_never_written : (C03Tables.ctxSites.filter fun s => s.kind == "write") = [] := by decide

open Gozod.Gen in
/-- `IsPrefaultContext` is named nowhere, and `ReportInput` only by the context constructors and `FinalizeIssue`
    (attaching the raw input to a finished issue): nothing a verdict depends on reads the context's state. -/
theorem c03_ctx_state_read_only_for_messages :
    (C03Tables.ctxSites.all fun s => ctxSiteAllowed s.file s.fn s.field s.kind) = true := by decide +kernel

open Gozod.Gen in
/-- `processModifiersCore`'s branch order is the one `nilOutcome` / `processModifiersCtx` transcribe, and
    `processModifiers` / `processModifiersStrict` are that single call. -/
theorem c03_pmc_structure_as_transcribed :
    C03Tables.pmcBranches = pmcBranchesExpected ∧
    C03Tables.processModifiersBody = processModifiersBodyExpected ∧
    C03Tables.processModifiersStrictBody = processModifiersBodyExpected := ⟨rfl, rfl, rfl⟩

open Gozod.Gen in
/-- The non-nil branch returns before any modifier field is read: `processModifiersCore`'s first statement is
    `if !isNilInput(input) { return nil, false, nil }` — no initialiser, no else; neither it nor `isNilInput` mentions `internals`, `ctx` or `expectedType`. This makes
    `processModifiers_nonNil` / `ctxStepX_nonNil` (true by `rfl` of the model) statements about the code. -/
theorem c03_pmc_nonnil_returns_first :
    C03Tables.pmcBranches.head? = some ("if " ++ C03Tables.pmcFirstCond) ∧
    C03Tables.pmcFirstCond = pmcFirstCondExpected ∧
    C03Tables.pmcFirstBody = pmcFirstBodyExpected ∧
    C03Tables.pmcFirstHasElse = false ∧
    C03Tables.pmcFirstIdents.any stateIdent = false ∧
    C03Tables.isNilInputIdents.any stateIdent = false := by decide +kernel

open Gozod.Gen in
/-- Nowhere else in internal/engine does a non-nil parse read a modifier field: every read site of the regenerated
    table is after the non-nil return of `processModifiersCore`, under an `isNilInput(input)` conjunct, in
    `resolveDefault` (whose only caller is `processModifiersCore`), in the schema-building `MergeInternalsState`, or the
    one listed fast-path test of `ParsePrimitiveStrict` (`modifierReadAllowed`). -/
theorem c03_modifier_reads_off_nonnil_path :
    (C03Tables.modifierReads.all fun s => modifierReadAllowed s.file s.fn s.field s.kind) = true ∧
    C03Tables.resolveDefaultCallers = ["processModifiersCore"] ∧
    (C03Tables.modifierReads.any fun s => s.fn == "processModifiersCore" && s.kind == "pmc-after-nonnil-return") = true := by
  decide +kernel

theorem all_contains_of_isSublist {α : Type} [BEq α] [LawfulBEq α] {l₁ l₂ : List α}
    (h : l₁.isSublist l₂ = true) : l₁.all l₂.contains = true :=
  List.all_eq_true.mpr fun _ ha => List.contains_iff_mem.mpr ((List.isSublist_iff_sublist.mp h).subset ha)

open Gozod.Gen in
/-- Every schema type of package `types` that declares one of the eight modifier methods is built by the
    harness table (both lists are extracted: the first from the sources, the second by reflection on what the
    table's constructors return). -/
theorem c03_harness_covers_every_schema_type :
    (C03Tables.schemaTypes.all fun t => C03Tables.harnessTypes.contains t.1) = true := by
  -- both lists are extracted in sorted order, so one pass along the two decides the inclusion
  have h : (C03Tables.schemaTypes.map (·.1)).isSublist C03Tables.harnessTypes = true := by decide +kernel
  have := all_contains_of_isSublist h
  rw [List.all_map] at this
  exact this

theorem cfgDropModelled_false (kind op : String) : cfgDropModelled kind op = false := by
  unfold cfgDropModelled; cases modOpOfName op <;> rfl

open Gozod.Gen in
/-- `dropsCfg` is the code's table: for every row of the harness table and every modifier call, the method — called on
    the schema as constructed and on its `Optional()` variant — returns a schema lacking a configuration field of its
    receiver exactly where the model says so. The model marks no call as dropping, so the statement comes to
    `C03Tables.cfgDrops = []`; the rows and calls are not looked at one by one. -/
theorem c03_cfg_drops_as_modelled :
    (C03Tables.cfgRows.all fun r => C03Tables.modOps.all fun op =>
      (C03Tables.cfgDrops.any fun d => d.1 == r.1 && d.2.1 == op) == cfgDropModelled r.2 op) = true := by
  have hnone : C03Tables.cfgDrops = [] := rfl
  simp only [hnone, List.any_nil, cfgDropModelled_false, beq_self_eq_true, List.all_eq_true, implies_true]

open Gozod.Gen in
theorem c03_cfg_table_covers_modifiers :
    (C03Tables.modOps.all fun op => (modOpOfName op).isSome) = true ∧ C03Tables.modOps.length = 12 ∧
    (C03Tables.cfgRows.all fun r => r.2 == "plain" || r.2 == "record" || r.2 == "structp") = true := by
  decide +kernel

open Gozod.Gen in
example : C03Tables.schemaTypes.length ≥ 50 ∧ C03Tables.harnessTypes.contains "ZodBigInt" = true := by
  decide +kernel

end Gozod.C03
