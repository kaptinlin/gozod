/-
  C11 — JSON equality and Go's comparison of decoded values.
  * `deepEqual` (reflect.DeepEqual on encoding/json values) is `jsonEq` (Draft 2020-12 §4.2.2);
  * `literalEqual` (types/literal.go after e48d4b1) never panics and is `jsonEq`; the legacy `==` panics on two
    values of the same composite kind;
  * `jsonEq` is reflexive and symmetric on values whose objects have unique keys.
-/
import Gozod.Model.FromJson
import Gozod.Proofs.Basics
namespace Gozod.C11
open Gozod.Jsc

/- the two definitions have the same clauses: unfolding both on the first argument leaves the same `match` on the second. -/
mutual
theorem deepEqual_eq : (a b : Json) → deepEqual a b = jsonEq a b
  | .null, b | .bool _, b | .num _, b | .str _, b => by simp only [deepEqual, jsonEq]
  | .arr xs, b => by simp only [deepEqual, jsonEq, deepEqualL_eq xs]
  | .obj fs, b => by simp only [deepEqual, jsonEq, deepFields_eq fs]
theorem deepEqualL_eq : (xs ys : JsonList) → deepEqualL xs ys = jsonEqL xs ys
  | .nil, ys => by simp only [deepEqualL, jsonEqL]
  | .cons x xs, ys => by simp only [deepEqualL, jsonEqL, deepEqual_eq x, deepEqualL_eq xs]
theorem deepFields_eq : (fs gs : JsonFields) → deepFields fs gs = fieldsIn fs gs
  | .nil, _ => rfl
  | .cons k v fs, gs => by simp only [deepFields, fieldsIn, deepFields_eq fs gs, deepEqual_eq v]
end

theorem ifaceEq_comparable (a b : Json) (h : a.goComparable = true ∨ b.goComparable = true) :
    ifaceEq a b = some (jsonEq a b) := by
  cases a <;> cases b
  case arr.arr | obj.obj => simp [Json.goComparable] at h
  all_goals rfl

theorem literalEqual_eq (a b : Json) : literalEqual a b = some (jsonEq a b) := by
  cases a <;> cases b
  case arr.arr | obj.obj => exact congrArg some (deepEqual_eq _ _)
  all_goals rfl

/-- the comparison before e48d4b1 panics exactly on two values of the same composite kind. -/
theorem ifaceEq_panics (a b : Json) :
    ifaceEq a b = none ↔ ((∃ xs ys, a = .arr xs ∧ b = .arr ys) ∨ (∃ fs gs, a = .obj fs ∧ b = .obj gs)) := by
  constructor
  · intro h
    cases a <;> cases b
    case arr.arr => exact .inl ⟨_, _, rfl, rfl⟩
    case obj.obj => exact .inr ⟨_, _, rfl, rfl⟩
    all_goals cases h
  · rintro (⟨_, _, rfl, rfl⟩ | ⟨_, _, rfl, rfl⟩) <;> rfl

theorem keys_toList : (fs : JsonFields) → fs.keys = fs.toList.map (·.1)
  | .nil => rfl
  | .cons k v fs => by simp [JsonFields.keys, JsonFields.toList, keys_toList fs]

theorem size_keys : (fs : JsonFields) → fs.size = fs.keys.length
  | .nil => rfl
  | .cons k v fs => by simp [JsonFields.keys, JsonFields.size, size_keys fs]

theorem uniqList_nodup : (l : List Str) → uniqList l = true → l.Nodup
  | [], _ => List.nodup_nil
  | a :: t, h => by
    simp only [uniqList, Bool.and_eq_true, Bool.not_eq_true', List.contains_eq_mem, decide_eq_false_iff_not] at h
    exact List.nodup_cons.2 ⟨h.1, uniqList_nodup t h.2⟩

/-- an object is a Go map as an association list (Proofs/Basics.lean `Assoc`): `find` is `find?` on the first key -/
theorem find_toList (k : Str) : (fs : JsonFields) → fs.find k = (fs.toList.find? (fun p => p.1 == k)).map (·.2)
  | .nil => rfl
  | .cons k' v fs => by
    rw [JsonFields.find, JsonFields.toList, List.find?_cons, find_toList k fs]
    by_cases e : k' = k
    · simp [e]
    · simp [e, beq_eq_false_iff_ne.2 e]

theorem mem_of_find (k : Str) (v : Json) (fs : JsonFields) (h : fs.find k = some v) : (k, v) ∈ fs.toList := by
  rw [find_toList, Option.map_eq_some_iff] at h
  obtain ⟨⟨k', v'⟩, hf, rfl⟩ := h
  have := List.find?_some hf
  exact (beq_iff_eq.1 this) ▸ List.mem_of_find?_eq_some hf

theorem find_of_mem (k : Str) (v : Json) (fs : JsonFields) (hu : uniqList fs.keys = true) (h : (k, v) ∈ fs.toList) :
    fs.find k = some v := by
  rw [find_toList, Assoc.find?_key (keys_toList fs ▸ uniqList_nodup _ hu) h]; rfl

theorem find_of_key (k : Str) (fs : JsonFields) (h : k ∈ fs.keys) : ∃ v, fs.find k = some v := by
  rw [keys_toList, List.mem_map] at h
  obtain ⟨p, hp, rfl⟩ := h
  rw [find_toList]
  exact Option.isSome_iff_exists.1 (by rw [Option.isSome_map, List.find?_isSome]; exact ⟨p, hp, beq_self_eq_true _⟩)

theorem fieldsIn_iff (gs : JsonFields) : (fs : JsonFields) →
    (fieldsIn fs gs = true ↔ ∀ k v, (k, v) ∈ fs.toList → ∃ w, gs.find k = some w ∧ jsonEq v w = true)
  | .nil => by simp [fieldsIn, JsonFields.toList]
  | .cons k v fs => by
    simp only [fieldsIn, Bool.and_eq_true, fieldsIn_iff gs fs, JsonFields.toList, List.mem_cons, Prod.mk.injEq]
    constructor
    · rintro ⟨h1, h2⟩ k' v' (⟨rfl, rfl⟩ | h)
      · cases hf : gs.find k' with
        | none => simp [hf] at h1
        | some w => exact ⟨w, rfl, by simpa [hf] using h1⟩
      · exact h2 k' v' h
    · intro h
      refine ⟨?_, fun k' v' h' => h k' v' (Or.inr h')⟩
      obtain ⟨w, hw, he⟩ := h k v (Or.inl ⟨rfl, rfl⟩)
      simp [hw, he]

/-- pigeonhole on key lists: a duplicate-free list contained in a list of the same length contains it — a key of `l2`
    outside `l1` would make `k :: l1` a duplicate-free sublist of `l2` that is longer than `l2`. -/
theorem subset_of_uniq (l1 l2 : List Str) (hu : uniqList l1 = true) (hs : ∀ k, k ∈ l1 → k ∈ l2)
    (hl : l1.length = l2.length) (k : Str) (hk : k ∈ l2) : k ∈ l1 := by
  refine Decidable.byContradiction fun hn => ?_
  have := (List.nodup_cons.2 ⟨hn, uniqList_nodup l1 hu⟩).length_le_of_subset
    (fun x hx => (List.mem_cons.1 hx).elim (· ▸ hk) (hs x))
  rw [List.length_cons, hl] at this
  exact Nat.not_succ_le_self _ this

theorem uniqKeysF_mem (k : Str) (v : Json) : (fs : JsonFields) → uniqKeysF fs = true → (k, v) ∈ fs.toList → uniqKeys v = true
  | .nil, _, h => by simp [JsonFields.toList] at h
  | .cons k' v' fs, hu, h => by
    simp only [uniqKeysF, Bool.and_eq_true] at hu
    simp only [JsonFields.toList, List.mem_cons, Prod.mk.injEq] at h
    rcases h with ⟨rfl, rfl⟩ | h
    · exact hu.1
    · exact uniqKeysF_mem k v fs hu.2 h

theorem fieldsIn_symm (fs gs : JsonFields) (hfu : uniqList fs.keys = true) (hgu : uniqList gs.keys = true)
    (hgk : uniqKeysF gs = true) (hsz : fs.size = gs.size) (h : fieldsIn fs gs = true)
    (ih : ∀ k v, (k, v) ∈ fs.toList → ∀ w, uniqKeys w = true → jsonEq v w = true → jsonEq w v = true) :
    fieldsIn gs fs = true := by
  rw [fieldsIn_iff] at h ⊢
  intro k w hkw
  have hsub : ∀ k, k ∈ fs.keys → k ∈ gs.keys := by
    intro k hk
    obtain ⟨v, hv⟩ := find_of_key k fs hk
    obtain ⟨w, hw, _⟩ := h k v (mem_of_find k v fs hv)
    have := mem_of_find k w gs hw
    rw [keys_toList]; exact List.mem_map.2 ⟨(k, w), this, rfl⟩
  have hk : k ∈ fs.keys :=
    subset_of_uniq fs.keys gs.keys hfu hsub (by rw [← size_keys, ← size_keys]; exact hsz) k
      (by rw [keys_toList]; exact List.mem_map.2 ⟨(k, w), hkw, rfl⟩)
  obtain ⟨v, hv⟩ := find_of_key k fs hk
  have hm := mem_of_find k v fs hv
  obtain ⟨w', hw', he⟩ := h k v hm
  have : w' = w := by
    have := find_of_mem k w gs hgu hkw
    rw [this] at hw'; exact (Option.some.inj hw').symm
  subst this
  exact ⟨v, hv, ih k v hm w' (uniqKeysF_mem k w' gs hgk hkw) he⟩

/-- scalar instances need no hypothesis on the members (array / object members never equal a scalar). -/
theorem jsonEq_symm_scalar (v x : Json) (hx : x.toPrim?.isSome = true) : jsonEq v x = jsonEq x v := by
  cases x <;> simp [Json.toPrim?] at hx <;> cases v <;> simp [jsonEq] <;> exact BEq.comm

/- recursion on the first argument, said explicitly: with two arguments of type `Json` Lean otherwise settles for
   well-founded recursion. -/
mutual
theorem jsonEq_symm_imp : (a b : Json) → uniqKeys a = true → uniqKeys b = true → jsonEq a b = true → jsonEq b a = true
  | .null, b, _, _, h | .bool _, b, _, _, h | .num _, b, _, _, h | .str _, b, _, _, h =>
    (jsonEq_symm_scalar b _ rfl).trans h
  | .arr xs, b, ha, hb, h => by
    cases b with
    | arr ys =>
      simp only [uniqKeys, jsonEq] at ha hb h ⊢
      exact jsonEqL_symm_imp xs ys ha hb h
    | _ => simp [jsonEq] at h
  | .obj fs, b, ha, hb, h => by
    cases b with
    | obj gs =>
      simp only [uniqKeys, jsonEq, Bool.and_eq_true, beq_iff_eq] at ha hb h ⊢
      exact ⟨h.1.symm, fieldsIn_symm fs gs ha.1 hb.1 hb.2 h.1 h.2 (jsonEqF_symm_imp fs ha.2)⟩
    | _ => simp [jsonEq] at h
termination_by structural a => a
theorem jsonEqL_symm_imp : (xs ys : JsonList) → uniqKeysL xs = true → uniqKeysL ys = true → jsonEqL xs ys = true →
    jsonEqL ys xs = true
  | .nil, ys, _, _, h => by
    cases ys with
    | nil => rfl
    | cons _ _ => simp [jsonEqL] at h
  | .cons x xs, ys, ha, hb, h => by
    cases ys with
    | nil => simp [jsonEqL] at h
    | cons y ys =>
      simp only [uniqKeysL, jsonEqL, Bool.and_eq_true] at ha hb h ⊢
      exact ⟨jsonEq_symm_imp x y ha.1 hb.1 h.1, jsonEqL_symm_imp xs ys ha.2 hb.2 h.2⟩
termination_by structural xs => xs
theorem jsonEqF_symm_imp : (fs : JsonFields) → uniqKeysF fs = true → ∀ k v, (k, v) ∈ fs.toList →
    ∀ w, uniqKeys w = true → jsonEq v w = true → jsonEq w v = true
  | .nil, _, _, _, hm, _, _, _ => by simp [JsonFields.toList] at hm
  | .cons k' v' fs, hu, k, v, hm, w, hw, he => by
    simp only [uniqKeysF, Bool.and_eq_true] at hu
    simp only [JsonFields.toList, List.mem_cons, Prod.mk.injEq] at hm
    rcases hm with ⟨_, hv⟩ | hm
    · rw [hv] at he ⊢; exact jsonEq_symm_imp v' w hu.1 hw he
    · exact jsonEqF_symm_imp fs hu.2 k v hm w hw he
termination_by structural fs => fs
end

theorem jsonEq_symm (a b : Json) (ha : uniqKeys a = true) (hb : uniqKeys b = true) : jsonEq a b = jsonEq b a := by
  cases h1 : jsonEq a b with
  | true => exact (jsonEq_symm_imp a b ha hb h1).symm
  | false =>
    cases h2 : jsonEq b a with
    | false => rfl
    | true => rw [jsonEq_symm_imp b a hb ha h2] at h1; exact absurd h1 (by simp)

mutual
theorem jsonEq_refl : (a : Json) → uniqKeys a = true → jsonEq a a = true
  | .null, _ | .bool _, _ | .num _, _ | .str _, _ => by simp [jsonEq]
  | .arr xs, h => by simp only [uniqKeys] at h; simpa [jsonEq] using jsonEqL_refl xs h
  | .obj fs, h => by
    simp only [uniqKeys, Bool.and_eq_true] at h
    simp only [jsonEq, beq_self_eq_true, Bool.true_and]
    rw [fieldsIn_iff]
    intro k v hm
    exact ⟨v, find_of_mem k v fs h.1 hm, jsonEqF_refl fs h.2 k v hm⟩
theorem jsonEqL_refl : (xs : JsonList) → uniqKeysL xs = true → jsonEqL xs xs = true
  | .nil, _ => by simp [jsonEqL]
  | .cons x xs, h => by
    simp only [uniqKeysL, Bool.and_eq_true] at h
    simp [jsonEqL, jsonEq_refl x h.1, jsonEqL_refl xs h.2]
theorem jsonEqF_refl : (fs : JsonFields) → uniqKeysF fs = true → ∀ k v, (k, v) ∈ fs.toList → jsonEq v v = true
  | .nil, _, _, _, hm => by simp [JsonFields.toList] at hm
  | .cons k' v' fs, hu, k, v, hm => by
    simp only [uniqKeysF, Bool.and_eq_true] at hu
    simp only [JsonFields.toList, List.mem_cons, Prod.mk.injEq] at hm
    rcases hm with ⟨_, hv⟩ | hm
    · rw [hv]; exact jsonEq_refl v' hu.1
    · exact jsonEqF_refl fs hu.2 k v hm
end

/-- the unique-keys hypothesis is needed: an association list with a repeated key is not a JSON object, and `jsonEq`
    (which looks keys up) is not symmetric on such terms. -/
example : jsonEq (.obj (.cons [97] (.num 4) (.cons [97] (.num 8) .nil))) (.obj (.cons [97] (.num 4) (.cons [98] .null .nil))) = false
    ∧ jsonEq (.obj (.cons [97] (.num 4) (.cons [97] (.num 4) .nil))) (.obj (.cons [97] (.num 4) (.cons [98] .null .nil))) = true
    ∧ jsonEq (.obj (.cons [97] (.num 4) (.cons [98] .null .nil))) (.obj (.cons [97] (.num 4) (.cons [97] (.num 4) .nil))) = false := by
  decide

end Gozod.C11
