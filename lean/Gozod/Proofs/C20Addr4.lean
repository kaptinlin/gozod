/-
  C20 — the definitions `Fmt.ipv4` and `Fmt.cidrv4` as automata on their explicit state `DotSt`, and what they accept.

  In the states `⟨k, n, v⟩` the IPv4 automaton is the decimal field `Dec 255` in `(n, v)` and a '.' after a complete number
  starts the next field (`field_seq`), hence four octets separated by dots (`ipv4_split`).  `Fmt.cidrv4` is the instance `cidr4`
  of `Cidr` over it.  The pattern side, the simulation of the Go transcription and phase 5 of the IPv6 automaton all use the
  step equations `g4_*`.
-/
import Gozod.Proofs.C20Dec
namespace Gozod.C20
open Gozod Gozod.Fmt

def g4 : Option DotSt → Nat → Option DotSt
  | none, _ => none
  | some q, c => if c = 46 ∨ isDigit c = true then ipv4Step q c else none
def acc4 : Option DotSt → Bool
  | none => false
  | some q => decide (q.k = 3 ∧ q.n ≥ 1)
def run4 (o : Option DotSt) (s : List Nat) : Bool := acc4 (s.foldl g4 o)
theorem foldl_g4_none : ∀ s : List Nat, s.foldl g4 none = none :=
  foldl_none fun _ => rfl

theorem run4_none (s : List Nat) : run4 none s = false := congrArg acc4 (foldl_g4_none s)
theorem run4_cons (o : Option DotSt) (c : Nat) (s : List Nat) : run4 o (c :: s) = run4 (g4 o c) s := rfl

theorem g4_spec (o : Option DotSt) (c : Nat) : Fmt.ipv4.gstep o c = g4 o c := by
  cases o with
  | none => rfl
  | some q => exact Fmt.ipv4.gstep_some_of (by simp only [ipv4, elem_cons_iff, digits_elem]) q

theorem run4_spec (s : List Nat) : Fmt.ipv4.run s = run4 (some ⟨0, 0, 0⟩) s :=
  Fmt.ipv4.runFrom_congr g4_spec (fun o => by cases o <;> rfl) _ s

theorem g4_dot (q : DotSt) : g4 (some q) 46 = if q.n ≥ 1 ∧ q.k < 3 then some ⟨q.k + 1, 0, 0⟩ else none := rfl

theorem g4_digit {c : Nat} (hd : isDigit c = true) (q : DotSt) : g4 (some q) c = q.digit (c - 48) 255 := by
  have h46 : c ≠ 46 := by have := (isDigit_iff c).1 hd; omega
  simp only [g4, hd, or_true, if_true, ipv4Step, h46, if_false]

theorem g4_other {c : Nat} (h46 : c ≠ 46) (hd : ¬ isDigit c = true) (o : Option DotSt) : g4 o c = none := by
  cases o with
  | none => rfl
  | some q => exact if_neg (not_or.2 ⟨h46, hd⟩)

theorem digit_k {q q' : DotSt} {d max : Nat} (h : q.digit d max = some q') : q'.k = q.k := by
  refine (?_ : AllSome (fun q' : DotSt => q'.k = q.k) (q.digit d max)) q' h
  unfold DotSt.digit
  exact .ite (fun _ => .some rfl) (.ite (fun _ => .none) (.ite (fun _ => .some rfl) .none))

/-- from the fold `g4`, whose step equations the other files use; the CIDR automaton `cidrA` needs none and is `Spec.aut` directly -/
def ipv4A : Aut DotSt := Aut.ofO g4 acc4
theorem ipv4A_step (q : DotSt) (c : Nat) : ipv4A.step q c = g4 (some q) c := rfl
theorem run4_aut (q : DotSt) (s : List Nat) : run4 (some q) s = ipv4A.run q s := Aut.run_ofO (fun _ => rfl) rfl s q

theorem field_seq (k : Nat) : Aut.Seq ipv4A (Dec 255) (fun p => ⟨k, p.1, p.2⟩) (fun _ => True)
    (fun c => if c = 46 ∧ k < 3 then some ⟨k + 1, 0, 0⟩ else none) (decide (k = 3)) where
  inv_step _ _ _ _ _ := trivial
  step := fun (n, v) c _ => by
    rw [ipv4A_step]
    by_cases h46 : c = 46
    · subst h46
      rw [g4_dot]
      show _ = if decide (n ≥ 1) = true then _ else none
      by_cases hn : n ≥ 1 <;> by_cases hk : k < 3 <;> simp [hn, hk]
    · by_cases hd : isDigit c = true
      · rw [g4_digit hd]
        simp only [Dec.step_eq, DotSt.digit, hd, if_true]
        by_cases hn : n = 0
        · simp [hn]
        · by_cases hv : v = 0
          · simp [hn, hv, h46]
          · by_cases hle : v * 10 + (c - 48) ≤ 255 <;> simp [hn, hv, hle, h46]
      · rw [g4_other h46 hd]
        simp [Dec.step_eq, hd, h46]
  acc := fun (n, v) _ => by
    show decide (k = 3 ∧ n ≥ 1) = (decide (n ≥ 1) && decide (k = 3))
    by_cases hk : k = 3 <;> by_cases hn : n ≥ 1 <;> simp [hk, hn]
  cut := fun (n, v) c _ _ hc => by
    have : c = 46 := by
      by_cases h : c = 46 ∧ k < 3
      · exact h.1
      · rw [if_neg h] at hc; cases hc
    subst this; rfl

theorem run4_field (k : Nat) (s : List Nat) : run4 (some ⟨k, 0, 0⟩) s = true ↔
    (k = 3 ∧ Netip.prefixBits 255 s = true) ∨
    (k < 3 ∧ ∃ o r, s = o ++ 46 :: r ∧ Netip.prefixBits 255 o = true ∧ run4 (some ⟨k + 1, 0, 0⟩) r = true) := by
  simp only [run4_aut]
  refine ((field_seq k).run s (0, 0) trivial).trans ?_
  simp only [Dec.run_eq (by decide : 9 ≤ 255)]
  constructor
  · rintro ⟨o, b, rfl, ho, hb⟩
    cases b with
    | nil => exact Or.inl ⟨of_decide_eq_true hb, by rwa [List.append_nil]⟩
    | cons c r =>
      simp only [Aut.rest] at hb
      by_cases h : c = 46 ∧ k < 3
      · rw [if_pos h] at hb; obtain ⟨rfl, hk⟩ := h
        exact Or.inr ⟨hk, o, r, rfl, ho, hb⟩
      · rw [if_neg h] at hb; cases hb
  · rintro (⟨rfl, hp⟩ | ⟨hk, o, r, rfl, hp, hr⟩)
    · exact ⟨s, [], (List.append_nil s).symm, hp, rfl⟩
    · exact ⟨o, 46 :: r, rfl, hp, by simp only [Aut.rest, hk, and_self, if_true]; exact hr⟩

/-- `Netip.prefixBits 255 o` reads "`o` is an octet": Proofs/C20Dec.lean -/
theorem ipv4_split (s : List Nat) : Fmt.ipv4.run s = true ↔ ∃ a b c d, s = a ++ 46 :: (b ++ 46 :: (c ++ 46 :: d)) ∧
    Netip.prefixBits 255 a = true ∧ Netip.prefixBits 255 b = true ∧ Netip.prefixBits 255 c = true ∧ Netip.prefixBits 255 d = true := by
  rw [run4_spec]
  constructor
  · intro h
    obtain ⟨_, a, r1, rfl, ha, h⟩ := ((run4_field 0 s).1 h).resolve_left (fun h => nomatch h.1)
    obtain ⟨_, b, r2, rfl, hb, h⟩ := ((run4_field 1 r1).1 h).resolve_left (fun h => nomatch h.1)
    obtain ⟨_, c, d, rfl, hc, h⟩ := ((run4_field 2 r2).1 h).resolve_left (fun h => nomatch h.1)
    obtain ⟨_, hd⟩ := ((run4_field 3 d).1 h).resolve_right (fun h => Nat.lt_irrefl 3 h.1)
    exact ⟨a, b, c, d, rfl, ha, hb, hc, hd⟩
  · rintro ⟨a, b, c, d, rfl, ha, hb, hc, hd⟩
    exact (run4_field 0 _).2 (Or.inr ⟨by decide, a, _, rfl, ha, (run4_field 1 _).2 (Or.inr ⟨by decide, b, _, rfl, hb,
      (run4_field 2 _).2 (Or.inr ⟨by decide, c, d, rfl, hc, (run4_field 3 d).2 (Or.inl ⟨rfl, hd⟩)⟩)⟩)⟩)

theorem step4_k {q q' : DotSt} {c : Nat} (hk : q.k ≤ 3) (h : g4 (some q) c = some q') : q'.k ≤ 3 := by
  by_cases h46 : c = 46
  · subst h46
    rw [g4_dot] at h
    split at h
    · cases h; show q.k + 1 ≤ 3; omega
    · cases h
  · by_cases hd : isDigit c = true
    · rw [g4_digit hd] at h; rw [digit_k h]; exact hk
    · rw [g4_other h46 hd] at h; cases h

def cidrA : Aut DotSt := Fmt.cidrv4.aut

theorem cidrA_step (q : DotSt) (c : Nat) :
    cidrA.step q c = if c = 46 ∨ c = 47 ∨ isDigit c = true then cidrv4Step q c else none :=
  Fmt.cidrv4.gstep_some_of (by simp only [cidrv4, elem_cons_iff, digits_elem]) q

theorem cidrA_k4 (n v c : Nat) : cidrA.step ⟨4, n, v⟩ c = ((Dec 32).step (n, v) c).map fun p => ⟨4, p.1, p.2⟩ := by
  rw [cidrA_step, Dec.step_eq]
  by_cases hd : isDigit c = true
  · have hr := (isDigit_iff c).1 hd
    have h46 : c ≠ 46 := by omega
    have h47 : c ≠ 47 := by omega
    simp only [hd, or_true, if_true, cidrv4Step, h46, h47, if_false, DotSt.digit, apply_ite (Option.map _), Option.map_some, Option.map_none]
  · rw [if_neg hd]
    by_cases h46 : c = 46
    · subst h46; simp [cidrv4Step]
    · by_cases h47 : c = 47
      · subst h47; simp [cidrv4Step]
      · exact if_neg (not_or.2 ⟨h46, not_or.2 ⟨h47, hd⟩⟩)

theorem cidr4 : Cidr cidrA ipv4A (fun q => q.k ≤ 3) (fun n v => ⟨4, n, v⟩) 32 where
  A_slash _ := rfl
  X_addr q c hk h47 := by
    have hk4 : ¬ q.k = 4 := by omega
    rw [cidrA_step, ipv4A_step]
    simp only [g4, h47, false_or, cidrv4Step, ipv4Step, if_false, hk4]
  addr_step _ _ _ := step4_k
  X_slash q _ := by
    rw [cidrA_step]
    show (if q.n ≥ 1 ∧ q.k = 3 then _ else _) = if decide (q.k = 3 ∧ q.n ≥ 1) = true then _ else _
    simp only [decide_eq_true_eq, and_comm]
  acc_addr q hk := decide_eq_false (by omega)
  pfx_step := cidrA_k4
  pfx_acc n v := by show decide ((4 : Nat) = 4 ∧ n ≥ 1) = _; simp

/-- no proof uses this, nor `prefixBits128_run`: `Cidr.split` has the fact inside -/
theorem prefixBits_run (b : List Nat) : Netip.prefixBits 32 b = cidrA.run ⟨4, 0, 0⟩ b :=
  cidr4.prefixBits_run (by decide) b

theorem cidr_split : ∀ (s : List Nat) (q : DotSt), q.k ≤ 3 →
    cidrA.run q s = match Netip.cutLastSlash s with
      | some (a, b) => ipv4A.run q a && Netip.prefixBits 32 b
      | none => false :=
  cidr4.split (by decide)


/-- `cidr_split` from the start state, between the two definitions -/
theorem cidrv4_split (s : List Nat) : cidrv4.run s = match Netip.cutLastSlash s with
    | some (a, b) => ipv4.run a && Netip.prefixBits 32 b
    | none => false := by
  rw [Fmt.cidrv4.run_aut, show Fmt.cidrv4.aut.run cidrv4.init s = cidrA.run ⟨0, 0, 0⟩ s from rfl, cidr_split s _ (by decide)]
  simp only [run4_spec, run4_aut]

end Gozod.C20
