/-
  C02 — composite schemas decide exactly by composing their members' verdicts.

  Members are abstract: every law holds for every environment `env : Mid → V → MRes` (members that accept nil,
  composites of any depth, …) and every `Cfg`. /repo HEAD is every switch `true` but `lazyWrap := false`
  (`Drv.ContParse.cfgBits`); `{}` differs from it in `lazyWrap` only, so a witness at `{}` on a node other than `lazy`
  speaks of HEAD; any other switch at `false` is the code before a repair (commits: `Drv.ContParse.cfgBits`).

  Where the code falsifies the full law, the full statement is a `def …_full : Prop`; the `_partial` theorem states the
  excluded region, a witness shows the full statement false there. One that a repair has made true is proved without
  suffix (`c02_object_catchall`).
-/
import Gozod.Proofs.C02Loops

namespace Gozod.C02
open Gozod.Cont

theorem engine_nil {α : Type} (m : Mods) (ex : V → Option α) (va : α → Res) (v : V)
    (h : v.isNilLike = true) : (engine m ex va v).isOk = nilOK m := by
  simp [engine, h, nilPath_isOk]

theorem engine_nonNil {α : Type} (m : Mods) (ex : V → Option α) (va : α → Res) (v : V)
    (h : v.isNilLike = false) :
    (engine m ex va v).isOk = true ↔ ∃ a, ex v = some a ∧ (va a).isOk = true := by
  simp only [engine, h, Bool.false_eq_true, ↓reduceIte]
  cases ex v <;> simp [Res.isOk]

def posOK (env : Env) : List Mid → Option Mid → List V → Bool
  | _, _, [] => true
  | m :: ms, r, x :: xs => acc env m x && posOK env ms r xs
  | [], some r, x :: xs => acc env r x && posOK env [] (some r) xs
  | [], none, _ :: _ => true

theorem posAsked_ok (env : Env) (ms : List Mid) (r : Option Mid) (i : Nat) (xs : List V) :
    askedOK env (posAsked ms r i xs) = posOK env ms r xs := by
  fun_induction posAsked ms r i xs <;> simp_all [askedOK, posOK]

theorem posOK_iff (env : Env) (ms : List Mid) (r : Option Mid) (xs : List V) :
    posOK env ms r xs = true ↔
      (∀ p ∈ ms.zip xs, acc env p.1 p.2 = true) ∧
      (∀ rm, r = some rm → ∀ x ∈ xs.drop ms.length, acc env rm x = true) := by
  fun_induction posOK env ms r xs <;> simp_all [and_assoc]

theorem sliceElems_nil (cfg : Cfg) (env : Env) (e : Mid) (i : Nat) (xs : List V) :
    sliceElems cfg env e i xs = [] ↔ ∀ x ∈ xs, acc env e x = true := by
  rw [sliceElems_eq, flatMap_block_nil, posAsked_ok, posOK_iff]; simp

theorem c02_slice (cfg : Cfg) (env : Env) (m : Mods) (t : Ty) (e : Mid) (cs : List SizeCk) (v : V)
    (hv : v.isNilLike = false) :
    (run cfg env (.slice m t e cs) v).isOk = true ↔
      ∃ xs, extractSlice t v = some xs ∧ sizeOK cs xs.length = true ∧ ∀ x ∈ xs, acc env e x = true := by
  simp only [run, engine_nonNil _ _ _ _ hv, validateSlice, ofIssues_isOk, List.append_eq_nil_iff,
    sizeIssues_nil, sliceElems_nil]

-- members that accept nil are covered: `Slice[any](m).Min(1)` on `[]any{nil}`
example : (run {} (fun _ _ => .ok .nil) (.slice {} .any 0 [.min 1]) (.slice .any (some [.nil]))).isOk = true := by
  decide

def arrayLenOK (items : List Mid) (rest : Option Mid) (n : Nat) : Bool :=
  if rest.isSome then items.length ≤ n else n == items.length

theorem c02_array (cfg : Cfg) (env : Env) (m : Mods) (items : List Mid) (rest : Option Mid)
    (cs : List SizeCk) (v : V) (hv : v.isNilLike = false) :
    (run cfg env (.array m items rest cs) v).isOk = true ↔
      ∃ xs, extractArray v = some xs ∧ sizeOK cs xs.length = true ∧
        arrayLenOK items rest xs.length = true ∧ posOK env items rest xs = true := by
  have len : ∀ n, lenIssues items.length (if rest.isSome then none else some items.length) n = [] ↔
      arrayLenOK items rest n = true := by
    intro n; cases rest <;> simp [lenIssues_nil, arrayLenOK] <;> omega
  simp only [run, engine_nonNil _ _ _ _ hv, validateArray_eq, ofIssues_isOk, stage_eq_nil, sizeIssues_nil, len,
    arrayElems_eq, flatMap_elemBlock_nil, posAsked_ok]

def tupleLenOK (items : List Mid) (req : Nat) (rest : Option Mid) (n : Nat) : Bool :=
  req ≤ n && (rest.isSome || n ≤ items.length)

theorem c02_tuple (cfg : Cfg) (env : Env) (m : Mods) (items : List Mid) (req : Nat)
    (rest : Option Mid) (cs : List SizeCk) (v : V) (hv : v.isNilLike = false) :
    (run cfg env (.tuple m items req rest cs) v).isOk = true ↔
      ∃ xs, extractTuple v = some xs ∧ tupleLenOK items req rest xs.length = true ∧
        posOK env items rest xs = true ∧ sizeOK cs xs.length = true := by
  have len : ∀ n, lenIssues req (if rest.isNone then some items.length else none) n = [] ↔
      tupleLenOK items req rest n = true := by
    intro n; cases rest <;> simp [lenIssues_nil, tupleLenOK]
  simp only [run, engine_nonNil _ _ _ _ hv, validateTuple_eq, ofIssues_isOk, stage_eq_nil, sizeIssues_nil, len,
    tupleElems_eq, flatMap_block_nil, posAsked_ok]

def optAcc (env : Env) (m : Option Mid) (x : V) : Bool :=
  match m with
  | none => true
  | some m => acc env m x

theorem mapAsked_ok (env : Env) (km vm : Option Mid) (es : List (V × V)) :
    askedOK env (mapAsked km vm es) = true ↔ ∀ e ∈ es, optAcc env km e.1 = true ∧ optAcc env vm e.2 = true := by
  cases km <;> cases vm <;> simp [askedOK, mapAsked, optAcc, List.all_flatMap]

theorem c02_map (cfg : Cfg) (env : Env) (m : Mods) (km vm : Option Mid) (cs : List SizeCk) (v : V)
    (hv : v.isNilLike = false) :
    (run cfg env (.map m km vm cs) v).isOk = true ↔
      ∃ es, extractMap v = some es ∧ sizeOK cs es.length = true ∧
        ∀ e ∈ es, optAcc env km e.1 = true ∧ optAcc env vm e.2 = true := by
  simp only [run, engine_nonNil _ _ _ _ hv, validateMap_eq, ofIssues_isOk, stage_eq_nil, sizeIssues_nil,
    mapEntries_eq, flatMap_block_nil, mapAsked_ok]

theorem c02_set (cfg : Cfg) (env : Env) (m : Mods) (t : Ty) (e : Mid) (cs : List SizeCk) (v : V)
    (hv : v.isNilLike = false) :
    (run cfg env (.set m t e cs) v).isOk = true ↔
      ∃ xs, extractSet t v = some xs ∧ sizeOK cs xs.length = true ∧ ∀ x ∈ xs, acc env e x = true := by
  simp only [run, engine_nonNil _ _ _ _ hv, validateSet_eq, ofIssues_isOk, stage_eq_nil, sizeIssues_nil,
    setElems_eq, flatMap_block_nil, askedOK, List.all_map, List.all_eq_true, Function.comp_def]

theorem c02_union (cfg : Cfg) (env : Env) (m : Mods) (opts : List Mid) (v : V)
    (hv : v.isNilLike = false) :
    (run cfg env (.union m opts) v).isOk = true ↔ ∃ o ∈ opts, acc env o v = true := by
  simp only [run, engine_nonNil _ _ _ _ hv, Option.some.injEq, exists_eq_left', validateUnion, ← List.any_eq_true]
  split <;> cases opts <;> simp_all [Res.isOk]

def c02_union_full : Prop :=
  ∀ (cfg : Cfg) (env : Env) (m : Mods) (opts : List Mid) (v : V),
    (run cfg env (.union m opts) v).isOk = true ↔ (v.isNilLike = true ∧ nilOK m = true) ∨ ∃ o ∈ opts, acc env o v = true

/-- False at /repo HEAD: `Union([Nil(), String()]).Parse(nil)` is rejected although `Nil()` accepts,
    because the engine's nil path answers before the members are asked. -/
theorem c02_union_full_false : ¬ c02_union_full := by
  intro h
  have := h {} (fun _ _ => .ok .nil) {} [0] .nil
  revert this; decide

/-- `hn`: neither a discriminated union nor a lazy schema, whose `Parse` has a nil path of its own. -/
theorem c02_nil_path (cfg : Cfg) (env : Env) (n : Node) (v : V) (hv : v.isNilLike = true)
    (hn : match n with | .du .. => False | .lazy .. => False | _ => True) :
    (run cfg env n v).isOk = true ↔
      nilOK (match n with
             | .slice m .. | .array m .. | .tuple m .. | .map m .. | .record m .. | .set m ..
             | .object m .. | .union m .. | .xor m .. | .inter m .. | .du m .. | .lazy m .. => m
             | .struct m p .. => structMods m p) = true := by
  cases n <;> simp only [run, engine_nil _ _ _ _ hv] at hn ⊢ <;> exact hn.elim

/-- (used by nothing.) -/
theorem countAcc_eq (env : Env) (opts : List Mid) (v : V) :
    countAcc env opts v = (opts.filter (fun o => acc env o v)).length := rfl

theorem c02_xor (cfg : Cfg) (env : Env) (m : Mods) (opts : List Mid) (v : V)
    (hv : v.isNilLike = false) :
    (run cfg env (.xor m opts) v).isOk = true ↔ countAcc env opts v = 1 := by
  simp only [run, engine_nonNil _ _ _ _ hv, Option.some.injEq, exists_eq_left', validateXor]
  split <;> cases opts <;> simp_all [Res.isOk]

example : (run {} (fun m _ => if m = 0 then .ok .nil else .err (mk .invalidType []) [])
    (.xor {} [0, 1]) (.atom .str 1)).isOk = true := by decide

theorem mergeUnrec_nil_of_noUnrec (cfg : Cfg) (l r : List Issue)
    (hl : ∀ i ∈ l, isUnrec i = false) (hr : ∀ i ∈ r, isUnrec i = false) :
    mergeUnrec cfg l r = [] ↔ l = [] ∧ r = [] := by
  have fl : l.filter isUnrec = [] := List.filter_eq_nil_iff.2 fun a ha => by simp [hl a ha]
  have gl : l.filter (fun i => !isUnrec i) = l := List.filter_eq_self.2 fun a ha => by simp [hl a ha]
  have gr : r.filter (fun i => !isUnrec i) = r := List.filter_eq_self.2 fun a ha => by simp [hr a ha]
  simp [mergeUnrec, fl, gl, gr]

/-- `hl`, `hr`: neither side reports top-level unrecognized keys (otherwise `c02_inter_full_false`). -/
theorem c02_inter_partial (cfg : Cfg) (env : Env) (m : Mods) (l r : Mid) (v : V)
    (hv : v.isNilLike = false)
    (hl : ∀ i ∈ errs env l v, isUnrec i = false) (hr : ∀ i ∈ errs env r v, isUnrec i = false) :
    (run cfg env (.inter m l r) v).isOk = true ↔
      acc env l v = true ∧ acc env r v = true ∧ mergeable (mresVal (env l v)) (mresVal (env r v)) = true := by
  simp only [run, engine_nonNil _ _ _ _ hv, Option.some.injEq, exists_eq_left', validateInter, mresIssues_eq]
  have hm := mergeUnrec_nil_of_noUnrec cfg _ _ hl hr
  rw [errs_nil, errs_nil] at hm
  rw [← and_assoc, ← hm]
  split
  · next h => simp [Res.isOk, h]
  · split <;> simp_all [Res.isOk]

def c02_inter_full : Prop :=
  ∀ (cfg : Cfg) (env : Env) (m : Mods) (l r : Mid) (v : V), v.isNilLike = false →
    ((run cfg env (.inter m l r) v).isOk = true ↔
      acc env l v = true ∧ acc env r v = true ∧ mergeable (mresVal (env l v)) (mresVal (env r v)) = true)

/-- Two strict objects that each reject the other's key: both sides REJECT, the intersection
    ACCEPTS (`mergeUnrecognizedKeysIssues` keeps only keys both sides reported). -/
theorem c02_inter_full_false : ¬ c02_inter_full := by
  intro h
  have := h {} (fun m _ => if m = 0 then .err { code := .unrecognizedKeys, path := [], keys := [2] } []
                           else .err { code := .unrecognizedKeys, path := [], keys := [1] } [])
    {} 0 1 (.map .str .any (some [])) rfl
  revert this; decide

/-- "iff both sides do" needs, beside `hl` / `hr`, that the two results merge (`mergeValues`; they do not when neither is
    nil and they are neither deeply equal nor key-wise compatible maps / structs:
    `Intersection(String().Transform(upper), String()).Parse("a")`). No witness theorem for that exclusion: the derived
    `BEq V` inside `mergeable` does not reduce in proofs; the harness run shows it. -/
theorem c02_inter_both_partial (cfg : Cfg) (env : Env) (m : Mods) (l r : Mid) (v : V) (hv : v.isNilLike = false)
    (hl : ∀ i ∈ errs env l v, isUnrec i = false) (hr : ∀ i ∈ errs env r v, isUnrec i = false)
    (hmerge : mergeable (mresVal (env l v)) (mresVal (env r v)) = true) :
    (run cfg env (.inter m l r) v).isOk = true ↔ acc env l v = true ∧ acc env r v = true := by
  rw [c02_inter_partial cfg env m l r v hv hl hr]; simp [hmerge]

/-- `derefMergeOperand`: a nil pointer answer is a nil result and merges with anything. (That a non-nil pointer answer
    merges with the value it points to — `Intersection(Int().Nilable(), Int()).Parse(3)` — rests on the derived `BEq V`:
    decided by the run.) -/
theorem c02_inter_pointer_sides (t : Ty) (b : V) : mergeable (.ptr t none) b = true := by
  simp [mergeable, derefMerge, derefMergeN, mergeable0]

/-- a discriminator value no member is registered for falls back to "some member accepts". -/
theorem c02_du (cfg : Cfg) (env : Env) (m : Mods) (disc : Nat) (dmap : List (Nat × Mid))
    (opts : List Mid) (es : Option (List (V × V))) (dv : V)
    (hd : lookupKey disc (es.getD []) = some dv) :
    (run cfg env (.du m disc dmap opts) (.map .str .any es)).isOk = true ↔
      match lookupDisc dv dmap with
      | some t => acc env t (.map .str .any es) = true
      | none => ∃ o ∈ opts, acc env o (.map .str .any es) = true := by
  rw [run, parseDU_isOk]
  simp only [duNil, Bool.false_and, Bool.false_or, hd]
  cases lookupDisc dv dmap <;> simp [firstAcc]

theorem c02_du_missing (cfg : Cfg) (env : Env) (m : Mods) (disc : Nat) (dmap : List (Nat × Mid))
    (opts : List Mid) (es : Option (List (V × V))) (hd : lookupKey disc (es.getD []) = none) :
    (run cfg env (.du m disc dmap opts) (.map .str .any es)).isOk = false := by
  rw [run, parseDU_isOk]; simp only [duNil, Bool.false_and, Bool.false_or, hd]

/-- `hask`: the target is asked at all; `hph`: it does not answer with the placeholder error (which lazy swallows). -/
theorem c02_lazy_partial (cfg : Cfg) (env : Env) (m : Mods) (direct : Bool) (t : Mid) (v : V)
    (hv : lazyNil v = false) (hask : (cfg.lazyWrap || direct) = true)
    (hph : ∀ i ∈ errs env t v, (i.code == .invalidType && i.expLazy) = false) :
    (run cfg env (.lazy m direct t) v).isOk = true ↔ acc env t v = true := by
  simp only [run, parseLazy, hv, Bool.false_eq_true, ↓reduceIte, lazyAsk, hask]
  unfold acc errs at *
  cases h : env t v with
  | ok r => simp [Res.isOk]
  | err i is =>
    have : (i :: is).any (fun x => x.code == .invalidType && x.expLazy) = false :=
      List.any_eq_false.2 fun x hx => by simpa using hph x (h ▸ hx)
    simp [this, Res.isOk]

def c02_lazy_full : Prop :=
  ∀ (cfg : Cfg) (env : Env) (m : Mods) (direct : Bool) (t : Mid) (v : V),
    (run cfg env (.lazy m direct t) v).isOk = true ↔ (lazyNil v = true ∧ nilOK m = true) ∨ acc env t v = true

/-- At /repo HEAD (`lazyWrap = false`) `Lazy(func() … { return Object{…} }).Parse(true)` is ACCEPTED: a target whose `Parse`
    result type is not one of eight listed types is never asked (`schemaWrapper.Parse`), and the
    placeholder error that stands in for its answer is swallowed. -/
theorem c02_lazy_full_false : ¬ c02_lazy_full := by
  intro h
  have := h { lazyWrap := false } (fun _ _ => .err (mk .invalidType []) []) {} false 0 (.atom .bool 1)
  revert this; decide

/-- `Lazy(Nil()).Parse(nil)` is rejected although the target accepts nil (`direct = true`: `lazyWrap` does not matter). -/
theorem c02_lazy_nil_false : ¬ c02_lazy_full := by
  intro h
  have := h {} (fun _ _ => .ok .nil) {} true 0 .nil
  revert this; decide

def structFieldOK (env : Env) (fs : List (Nat × V)) (f : Field) : Bool :=
  match lookupField f.name fs with
  | none => f.optional
  | some x => acc env f.m x

theorem sfieldBlock_nil {env : Env} {fs : List (Nat × V)} {f : Field} :
    sfieldBlock env fs f = [] ↔ structFieldOK env fs f = true := by
  unfold sfieldBlock structFieldOK
  cases lookupField f.name fs <;> simp [block_nil]

theorem c02_struct (cfg : Cfg) (env : Env) (m : Mods) (ptrC : Bool) (sid : Nat) (shape : List Field)
    (v : V) (hv : v.isNilLike = false) :
    (run cfg env (.struct m ptrC sid shape) v).isOk = true ↔
      ∃ fs, extractStruct sid v = some fs ∧ ∀ f ∈ shape, structFieldOK env fs f = true := by
  simp only [run, engine_nonNil _ _ _ _ hv, validateStruct, ofIssues_isOk, structFields_eq,
    List.flatMap_eq_nil_iff, sfieldBlock_nil]

def objFieldOK (env : Env) (p : Partial) (es : List (V × V)) (f : Field) : Bool :=
  match lookupKey f.name es with
  | none => fieldOptional p f
  | some x => !(x.isNil && f.exactOptional) && acc env f.m x

theorem fieldBlock_nil {env : Env} {p : Partial} {es : List (V × V)} {f : Field} :
    fieldBlock env p es f = [] ↔ objFieldOK env p es f = true := by
  unfold fieldBlock objFieldOK
  cases lookupKey f.name es with
  | none => simp
  | some x => dsimp only; split <;> simp [*, block_nil]

theorem objectFields_nil (env : Env) (p : Partial) (es : List (V × V)) (shape : List Field) :
    (objectFields env p es shape).1 = [] ↔ ∀ f ∈ shape, objFieldOK env p es f = true := by
  simp only [objectFields_eq, List.flatMap_eq_nil_iff, fieldBlock_nil]

theorem objectFields_count (env : Env) (p : Partial) (es : List (V × V)) (shape : List Field)
    (h : ∀ f ∈ shape, objFieldOK env p es f = true) :
    (objectFields env p es shape).2 = (shape.filter (fun f => (lookupKey f.name es).isSome)).length := by
  rw [objectFields_eq, List.countP_eq_length_filter]
  refine congrArg _ (List.filter_congr fun f hf => ?_)
  have := h f hf
  unfold objFieldOK at this; unfold fieldKept
  cases hk : lookupKey f.name es <;> simp_all

def unkOK (env : Env) (mode : Mode) (catchall : Option Mid) (x : V) : Bool :=
  match mode with
  | .strict => false
  | .strip => optAcc env catchall x
  | .passthrough => optAcc env catchall x

theorem objectUnknown_nil (env : Env) (shape : List Field) (mode : Mode) (c : Option Mid)
    (es : List (V × V)) :
    ((objectUnknown env shape mode c es).1 = [] ∧ (objectUnknown env shape mode c es).2.1 = []) ↔
      ∀ e ∈ es, isKnown shape e.1 = false → unkOK env mode c e.2 = true := by
  rw [objectUnknown_eq, flatMap_block_nil]
  cases mode <;> cases c <;> simp [unkAsked, unknownOf, unkOK, optAcc, askedOK, Decidable.or_iff_not_imp_left]

theorem objectUnknown_count (env : Env) (shape : List Field) (mode : Mode) (c : Option Mid)
    (es : List (V × V)) (h : ∀ e ∈ es, isKnown shape e.1 = false → unkOK env mode c e.2 = true) :
    (objectUnknown env shape mode c es).2.2 =
      if mode = .passthrough then (es.filter (fun e => !isKnown shape e.1)).length else 0 := by
  rw [objectUnknown_eq]
  -- left: passthrough with a catch-all, where every unknown key counts because the catch-all accepts its value (`h`)
  cases mode <;> cases c <;> simp_all [unknownOf, unkOK, optAcc, List.countP_eq_length]
  exact h

def keptCount (shape : List Field) (mode : Mode) (es : List (V × V)) : Nat :=
  (shape.filter (fun f => (lookupKey f.name es).isSome)).length
    + (if mode = .passthrough then (es.filter (fun e => !isKnown shape e.1)).length else 0)

/-- the size checks look at the keys KEPT in the result (`keptCount`): present fields, and in passthrough mode the
    unknown keys. -/
theorem c02_object (cfg : Cfg) (env : Env) (m : Mods) (shape : List Field) (mode : Mode)
    (c : Option Mid) (p : Partial) (cs : List SizeCk) (v : V) (hv : v.isNilLike = false) :
    (run cfg env (.object m shape mode c p cs) v).isOk = true ↔
      ∃ es, extractObject v = some es ∧
        (∀ f ∈ shape, objFieldOK env p es f = true) ∧
        (∀ e ∈ es, isKnown shape e.1 = false → unkOK env mode c e.2 = true) ∧
        sizeOK cs (keptCount shape mode es) = true := by
  simp only [run, engine_nonNil _ _ _ _ hv, validateObject_eq, ofIssues_isOk, List.append_eq_nil_iff, sizeIssues_nil,
    objectFields_nil, ite_eq_left_iff, List.isEmpty_iff, List.cons_ne_nil, imp_false, Decidable.not_not]
  refine exists_congr fun es => and_congr_right fun _ => ⟨?_, ?_⟩
  · rintro ⟨⟨⟨hf, hu⟩, hs⟩, hsz⟩
    have hu := (objectUnknown_nil env shape mode c es).1 ⟨hu, hs⟩
    rw [objectFields_count env p es shape hf, objectUnknown_count env shape mode c es hu] at hsz
    exact ⟨hf, hu, hsz⟩
  · rintro ⟨hf, hu, hsz⟩
    rw [keptCount, ← objectFields_count env p es shape hf, ← objectUnknown_count env shape mode c es hu] at hsz
    exact ⟨⟨⟨hf, ((objectUnknown_nil env shape mode c es).2 hu).1⟩, ((objectUnknown_nil env shape mode c es).2 hu).2⟩, hsz⟩

def c02_object_catchall_full : Prop :=
  ∀ (cfg : Cfg) (env : Env) (m : Mods) (shape : List Field) (c : Mid) (p : Partial) (es : List (V × V)),
    (run cfg env (.object m shape .strip (some c) p []) (.map .str .any (some es))).isOk = true →
      ∀ e ∈ es, isKnown shape e.1 = false → acc env c e.2 = true

/-- `Object{…}.WithCatchall(S)` in the default strip mode validates every unknown key against the catch-all, as passthrough
    mode does (/repo 507cd5d; `Object{}.WithCatchall(Int()).Parse({b:'x'})` is rejected). -/
theorem c02_object_catchall : c02_object_catchall_full := by
  intro cfg env m shape c p es h
  obtain ⟨es', hx, _, hu, _⟩ := (c02_object cfg env m shape .strip (some c) p [] _ rfl).mp h
  cases hx
  exact hu

def recKeysOK (env : Env) (ks : KeySpec) (loose isPartial : Bool) (es : List (V × V)) : Prop :=
  match ks with
  | .none => True
  | .enum allowed _ =>
    (∀ e ∈ es, allowed.contains (keyId e.1) = true) ∧
      (isPartial = true ∨ ∀ k ∈ allowed, (es.map (fun e => keyId e.1)).contains k = true)
  | .schema m => loose = true ∨ ∀ e ∈ es, acc env m e.1 = true

theorem forall_keyId_eq {P : Nat → Prop} (es : List (V × V)) :
    (∀ (a : Nat) (x y : V), (x, y) ∈ es → keyId x = a → P a) ↔ ∀ x y, (x, y) ∈ es → P (keyId x) :=
  ⟨fun h x y hm => h _ x y hm rfl, fun h _ x y hm e => e ▸ h x y hm⟩

theorem recordEnumKeys_nil (allowed : List Nat) (isPartial : Bool) (es : List (V × V)) :
    recordEnumKeys allowed isPartial es = [] ↔
      (∀ e ∈ es, allowed.contains (keyId e.1) = true) ∧
        (isPartial = true ∨ ∀ k ∈ allowed, (es.map (fun e => keyId e.1)).contains k = true) := by
  cases isPartial <;> simp [recordEnumKeys, List.filter_eq_nil_iff, forall_keyId_eq]

theorem recordKeyIssues_nil (cfg : Cfg) (env : Env) (ks : KeySpec) (loose part : Bool) (es : List (V × V)) :
    recordKeyIssues cfg env ks loose part es = [] ↔ recKeysOK env ks loose part es := by
  cases ks with
  | none => simp [recordKeyIssues, recKeysOK]
  | enum allowed _ => exact recordEnumKeys_nil allowed part es
  | schema m =>
    simp only [recordKeyIssues, recKeysOK, recordSchemaKeys_eq, flatMap_block_nil]
    cases loose <;> simp [askedOK]

/-- `recKeysOK`: a key schema with `Options()` is exhaustive (no other key and, unless partial, every listed key present);
    in loose mode a rejected key is let through and its value not validated (`recSkip`). -/
theorem c02_record (cfg : Cfg) (env : Env) (m : Mods) (ks : KeySpec) (vm : Mid) (loose part : Bool)
    (cs : List SizeCk) (v : V) (hv : v.isNilLike = false) :
    (run cfg env (.record m ks vm loose part cs) v).isOk = true ↔
      ∃ es, extractRecord v = some es ∧ sizeOK cs es.length = true ∧ recKeysOK env ks loose part es ∧
        ∀ e ∈ es, recSkip env ks loose e.1 = true ∨ acc env vm e.2 = true := by
  have vals : ∀ es, askedOK env (recAsked env ks vm loose es) = true ↔
      ∀ e ∈ es, recSkip env ks loose e.1 = true ∨ acc env vm e.2 = true := by
    intro es; simp [askedOK, recAsked, Decidable.or_iff_not_imp_left]
  simp only [run, engine_nonNil _ _ _ _ hv, validateRecord_eq, ofIssues_isOk, stage_eq_nil, sizeIssues_nil,
    headBlock_blocks_nil, vals, recordKeyIssues_nil, and_comm (b := recKeysOK env ks loose part _)]

def c02_nilslice_full : Prop :=
  ∀ (cfg : Cfg) (env : Env) (t : Ty) (e : Mid),
    (run cfg env (.slice {} t e []) (.slice t none)).isOk = true

/-- `Slice[int](Int()).Parse([]int(nil))` is rejected ("expected slice, received slice"): a typed nil
    slice is classified as a nil input, although it is the empty slice. -/
theorem c02_nilslice_false : ¬ c02_nilslice_full := by
  intro h
  have := h {} (fun _ _ => .ok .nil) .int 0
  revert this; decide

/-! The laws hold for every environment, hence also for `seen skip env`: what a container sees of members it has no
  entry point on (a type offering only `Parse` as Slice / Array element, a type implementing exactly `core.ZodSchema` as
  Map / Set / Record / Struct member). Read over the members' OWN verdicts `env`, a law only holds for callable members. -/

theorem seen_nil (env : Env) : seen [] env = env := by
  funext m v; simp [seen]

theorem acc_seen (skip : List Mid) (env : Env) (m : Mid) (v : V) :
    acc (seen skip env) m v = (skip.contains m || acc env m v) := by
  by_cases h : m ∈ skip <;> simp [acc, seen, h]

theorem c02_slice_seen (cfg : Cfg) (env : Env) (skip : List Mid) (m : Mods) (t : Ty) (e : Mid)
    (cs : List SizeCk) (v : V) (hv : v.isNilLike = false) :
    (run cfg (seen skip env) (.slice m t e cs) v).isOk = true ↔
      ∃ xs, extractSlice t v = some xs ∧ sizeOK cs xs.length = true ∧
        ∀ x ∈ xs, (skip.contains e = true ∨ acc env e x = true) := by
  rw [c02_slice cfg (seen skip env) m t e cs v hv]
  simp only [acc_seen, Bool.or_eq_true]

def c02_callable_full : Prop :=
  ∀ (cfg : Cfg) (env : Env) (skip : List Mid) (t : Ty) (e : Mid) (v : V), v.isNilLike = false →
    ((run cfg (seen skip env) (.slice {} t e []) v).isOk = true ↔
      ∃ xs, extractSlice t v = some xs ∧ ∀ x ∈ xs, acc env e x = true)

theorem c02_callable_partial (cfg : Cfg) (env : Env) (skip : List Mid) (t : Ty) (e : Mid) (v : V)
    (hv : v.isNilLike = false) (hc : skip.contains e = false) :
    (run cfg (seen skip env) (.slice {} t e []) v).isOk = true ↔
      ∃ xs, extractSlice t v = some xs ∧ ∀ x ∈ xs, acc env e x = true := by
  rw [c02_slice_seen cfg env skip {} t e [] v hv]
  have hc' : e ∉ skip := by simpa using hc
  simp [hc', sizeOK]

/-- `Slice[any](m).Parse([]any{x})` with `m` offering only `Parse` accepts an `x` that `m` rejects (`m` is not a
    `core.ZodSchema`: the element loop of `types/slice.go` never asks it). -/
theorem c02_unasked_member_false : ¬ c02_callable_full := by
  intro h
  have := (h {} (fun _ _ => .err (mk .invalidValue []) []) [0] .any 0
    (.slice .any (some [.atom .str 1])) rfl).1 (by decide)
  obtain ⟨xs, hx, hall⟩ := this
  cases hx
  exact absurd (hall _ (List.mem_singleton.2 rfl)) (by decide)

/-- `Array([], rest = a schema offering only Parse)`: the constructor drops a rest that is not a `core.ZodSchema`;
    the array built rejects (too_big) the one-element input its rest schema accepts. -/
theorem c02_array_rest_dropped :
    (run {} (seen [0] (fun _ v => .ok v)) (built [0] (.array {} [] (some 0) []))
        (.slice .any (some [.atom .str 1]))).isOk = false
      ∧ (run {} (fun _ v => .ok v) (.array {} [] (some 0) []) (.slice .any (some [.atom .str 1]))).isOk = true := by
  decide

end Gozod.C02
