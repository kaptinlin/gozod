/-
  C05 — every issue's path addresses the offending location inside the input.

  `Child v s x`: `x` sits in `v` at segment `s` (slice index, map key / set element, struct field;
  one pointer is looked through).  `Reach`/`RoP`: a path reaches a value, or reaches the parent
  container of a missing key.

  `Asked n v s m x`   : container `n`, given `v`, asks member `m` about the part `x` of `v` at segment `s`
  `AskedKey n v k m`  : … asks the key / element schema `m` about the key `k` (its issues are filed under `k.seg`)
  `AskedSame n v m`   : … asks `m` about `v` itself (intersection sides, the selected option, a lazy target)
  `OwnFault n v s`    : the container itself finds fault at its own key `s` without asking a member
                        (a required key is missing; an exact-optional field is explicitly nil)
  `FromA`             : where an issue of `run` comes from, in these terms; `From` forgets which member was asked.

  `run_issues_ind` is the one case analysis of the validators: a property that holds of every way a validator raises an
  issue holds of every issue of `run` (`c05_from_asked_cfg` at `FromA`, `C04.c04_error_wf` at well-formedness);
  `parseF_induction` lifts a one-level statement to every nesting depth.
-/
import Gozod.Proofs.C02Loops

namespace Gozod.C05
open Gozod.Cont

/-- `Child` without the pointer looked through. -/
def ChildD (v : V) (s : Seg) (x : V) : Prop :=
  match v, s with
  | .slice _ (some xs), .idx i => getIdx xs i = some x
  | .map _ _ (some es), .key k => ∃ e ∈ es, keyId e.1 = k ∧ e.2 = x
  | .strct _ fs, .key k => (k, x) ∈ fs
  | _, _ => False

def Child (v : V) (s : Seg) (x : V) : Prop :=
  ChildD v s x ∨ (match v with
                  | .ptr _ (some w) => ChildD w s x
                  | _ => False)

/-- The theorems speak of `Reach`; the driver runs the computable `Cont.resolve` / `resolvesOrParent`. `Cont.step v s =
    some x` gives `Child v s x`; on a map `step` takes the FIRST entry with the key, `ChildD` any, so the converse needs
    distinct keys. No lemma relates the two; `NoKey` / `RoPk` (C05Nest) and the witness `c05_set_on_slice_false` are
    stated with `step` / `resolve`. -/
inductive Reach : V → List Seg → V → Prop
  | here (v : V) : Reach v [] v
  | step {v x w : V} {s : Seg} {p : List Seg} : Child v s x → Reach x p w → Reach v (s :: p) w

def RoP (v : V) (p : List Seg) : Prop :=
  (∃ w, Reach v p w) ∨ ∃ q s, p = q ++ [s] ∧ ∃ w, Reach v q w

theorem rop_nil (v : V) : RoP v [] := Or.inl ⟨v, .here v⟩

theorem rop_single (v : V) (s : Seg) : RoP v [s] := Or.inr ⟨[], s, rfl, v, .here v⟩

theorem rop_cons {v x : V} {s : Seg} {p : List Seg} (hc : Child v s x) (h : RoP x p) : RoP v (s :: p) := by
  rcases h with ⟨w, hw⟩ | ⟨q, t, rfl, w, hw⟩
  · exact Or.inl ⟨w, .step hc hw⟩
  · exact Or.inr ⟨s :: q, t, rfl, w, .step hc hw⟩

/-! The extractors accept the container itself, or one pointer to it: each is a `match` on the input (with a test
  on the element type in some arms); the arms that return `some` are the container and a pointer to it. -/

def IsOrPointsTo (v w : V) : Prop := v = w ∨ ∃ t, v = .ptr t (some w)

theorem IsOrPointsTo.child {v w x : V} {s : Seg} (h : IsOrPointsTo v w) (hc : ChildD w s x) : Child v s x := by
  rcases h with rfl | ⟨t, rfl⟩
  · exact .inl hc
  · exact .inr hc

def IsSeq (v : V) (xs : List V) : Prop := ∃ e o, IsOrPointsTo v (.slice e o) ∧ xs = o.getD []

def IsMap (v : V) (es : List (V × V)) : Prop := ∃ k e o, IsOrPointsTo v (.map k e o) ∧ es = o.getD []

theorem extractSlice_seq {t : Ty} {v : V} {xs : List V} (h : extractSlice t v = some xs) : IsSeq v xs := by
  unfold extractSlice at h
  split at h <;> (try split at h) <;> (try split at h) <;> cases h
  all_goals first | exact ⟨_, _, .inl rfl, rfl⟩ | exact ⟨_, _, .inr ⟨_, rfl⟩, rfl⟩

theorem extractArray_seq {v : V} {xs : List V} (h : extractArray v = some xs) : IsSeq v xs := by
  unfold extractArray at h
  split at h <;> cases h
  all_goals first | exact ⟨_, _, .inl rfl, rfl⟩ | exact ⟨_, _, .inr ⟨_, rfl⟩, rfl⟩

theorem extractTuple_seq {v : V} {xs : List V} (h : extractTuple v = some xs) : IsSeq v xs := by
  unfold extractTuple at h
  split at h <;> cases h
  exact ⟨_, _, .inl rfl, rfl⟩

theorem extractMap_map {v : V} {es : List (V × V)} (h : extractMap v = some es) : IsMap v es := by
  unfold extractMap at h
  split at h <;> cases h
  all_goals first | exact ⟨_, _, _, .inl rfl, rfl⟩ | exact ⟨_, _, _, .inr ⟨_, rfl⟩, rfl⟩

theorem extractRecord_map {v : V} {es : List (V × V)} (h : extractRecord v = some es) : IsMap v es := by
  unfold extractRecord at h
  split at h <;> (try split at h) <;> cases h
  all_goals first | exact ⟨_, _, _, .inl rfl, rfl⟩ | exact ⟨_, _, _, .inr ⟨_, rfl⟩, rfl⟩

theorem extractObject_map {v : V} {es : List (V × V)} (h : extractObject v = some es) : IsMap v es := by
  unfold extractObject at h
  split at h <;> cases h
  all_goals first | exact ⟨_, _, _, .inl rfl, rfl⟩ | exact ⟨_, _, _, .inr ⟨_, rfl⟩, rfl⟩

theorem extractSet_cases {t : Ty} {v : V} {xs : List V} (h : extractSet t v = some xs) :
    (∃ e ys, v = .slice e ys) ∨ ∃ es, IsMap v es ∧ xs = es.map (·.1) := by
  unfold extractSet at h
  split at h <;> (try split at h) <;> (try split at h) <;> cases h
  all_goals first
    | exact .inl ⟨_, _, rfl⟩
    | exact .inr ⟨_, ⟨_, _, _, .inl rfl, rfl⟩, rfl⟩
    | exact .inr ⟨_, ⟨_, _, _, .inr ⟨_, rfl⟩, rfl⟩, rfl⟩

theorem extractStruct_holds {sid : Nat} {v : V} {fs : List (Nat × V)} (h : extractStruct sid v = some fs) :
    ∃ s, IsOrPointsTo v (.strct s fs) := by
  unfold extractStruct at h
  split at h <;> (try split at h) <;> cases h
  all_goals first | exact ⟨_, .inl rfl⟩ | exact ⟨_, .inr ⟨_, rfl⟩⟩

theorem IsSeq.child {v x : V} {xs : List V} {j : Nat} (h : IsSeq v xs) (hj : getIdx xs j = some x) :
    Child v (.idx j) x := by
  obtain ⟨e, o, hv, rfl⟩ := h
  cases o with
  | none => cases hj
  | some xs => exact hv.child hj

theorem seg_eq_keyId (k : V) : k.seg = .key (keyId k) := by
  cases k <;> rfl

theorem lookupKey_mem {id : Nat} {es : List (V × V)} {x : V} (h : lookupKey id es = some x) :
    ∃ e ∈ es, keyId e.1 = id ∧ e.2 = x := by
  induction es with
  | nil => cases h
  | cons e es ih =>
    simp only [lookupKey] at h
    split at h
    · next hk => cases h; exact ⟨e, List.mem_cons_self .., hk, rfl⟩
    · obtain ⟨e', he, h'⟩ := ih h
      exact ⟨e', List.mem_cons_of_mem _ he, h'⟩

theorem lookupField_mem {id : Nat} {fs : List (Nat × V)} {x : V} (h : lookupField id fs = some x) :
    (id, x) ∈ fs := by
  induction fs with
  | nil => cases h
  | cons e fs ih =>
    simp only [lookupField] at h
    split at h
    · next hn => cases h; subst hn; exact List.mem_cons_self ..
    · exact List.mem_cons_of_mem _ (ih h)

theorem IsMap.child {v k x : V} {es : List (V × V)} (h : IsMap v es) (hm : (k, x) ∈ es) : Child v k.seg x := by
  obtain ⟨kt, e, o, hv, rfl⟩ := h
  cases o with
  | none => cases hm
  | some es => rw [seg_eq_keyId]; exact hv.child ⟨_, hm, rfl, rfl⟩

theorem IsMap.child_lookup {v x : V} {id : Nat} {es : List (V × V)} (h : IsMap v es)
    (hl : lookupKey id es = some x) : Child v (.key id) x := by
  obtain ⟨e, he, rfl, rfl⟩ := lookupKey_mem hl
  exact seg_eq_keyId e.1 ▸ h.child he

def memAt : List Mid → Option Mid → Nat → Option Mid
  | m :: _, _, 0 => some m
  | _ :: ms, r, j + 1 => memAt ms r j
  | [], r, _ => r

theorem exists_nat {P : Nat → Prop} : (∃ j, P j) ↔ P 0 ∨ ∃ j, P (j + 1) :=
  ⟨fun ⟨j, h⟩ => match j with | 0 => .inl h | j + 1 => .inr ⟨j, h⟩, fun h => h.elim (⟨0, ·⟩) fun ⟨_, h⟩ => ⟨_, h⟩⟩

theorem mem_posAsked {ms : List Mid} {r : Option Mid} {i : Nat} {xs : List V} {a : Seg × Mid × V} :
    a ∈ posAsked ms r i xs ↔
      ∃ j x m, getIdx xs j = some x ∧ memAt ms r j = some m ∧ a = (.idx (i + j), m, x) := by
  fun_induction posAsked ms r i xs <;> rw [exists_nat] <;>
    simp_all [getIdx, memAt, Nat.add_assoc, Nat.add_comm 1, eq_comm]

def Asked (n : Node) (v : V) (s : Seg) (m : Mid) (x : V) : Prop :=
  match n with
  | .slice _ t e _ => ∃ xs j, extractSlice t v = some xs ∧ getIdx xs j = some x ∧ s = .idx j ∧ m = e
  | .array _ items rest _ =>
    ∃ xs j, extractArray v = some xs ∧ getIdx xs j = some x ∧ s = .idx j ∧ memAt items rest j = some m
  | .tuple _ items _ rest _ =>
    ∃ xs j, extractTuple v = some xs ∧ getIdx xs j = some x ∧ s = .idx j ∧ memAt items rest j = some m
  | .map _ _ vm _ => ∃ es k, extractMap v = some es ∧ (k, x) ∈ es ∧ s = k.seg ∧ vm = some m
  | .record _ _ vm _ _ _ => ∃ es k, extractRecord v = some es ∧ (k, x) ∈ es ∧ s = k.seg ∧ m = vm
  | .object _ shape mode c _ _ =>
    ∃ es, extractObject v = some es ∧
      ((∃ f ∈ shape, lookupKey f.name es = some x ∧ s = .key f.name ∧ m = f.m) ∨
       (∃ k, (k, x) ∈ es ∧ isKnown shape k = false ∧ mode ≠ .strict ∧ c = some m ∧ s = k.seg))
  | .struct _ _ sid shape =>
    ∃ fs, extractStruct sid v = some fs ∧ ∃ f ∈ shape, lookupField f.name fs = some x ∧ s = .key f.name ∧ m = f.m
  | _ => False

def AskedKey (n : Node) (v : V) (k : V) (m : Mid) : Prop :=
  match n with
  | .map _ km _ _ => ∃ es x, extractMap v = some es ∧ (k, x) ∈ es ∧ km = some m
  | .record _ ks _ loose _ _ => ∃ es x, extractRecord v = some es ∧ (k, x) ∈ es ∧ ks = .schema m ∧ loose = false
  | .set _ t e _ => ∃ xs, extractSet t v = some xs ∧ k ∈ xs ∧ m = e
  | _ => False

def AskedSame (n : Node) (_v : V) (m : Mid) : Prop :=
  match n with
  | .inter _ l r => m = l ∨ m = r
  | .du _ _ dmap _ => ∃ e ∈ dmap, e.2 = m
  | .lazy _ _ t => m = t
  | _ => False

def OwnFault (n : Node) (v : V) (s : Seg) : Prop :=
  match n with
  | .object _ shape _ _ p _ =>
    ∃ es, extractObject v = some es ∧ ∃ f ∈ shape, s = .key f.name ∧
      ((lookupKey f.name es = none ∧ fieldOptional p f = false) ∨
       (∃ x, lookupKey f.name es = some x ∧ x.isNil = true ∧ f.exactOptional = true))
  | .struct _ _ sid shape =>
    ∃ fs, extractStruct sid v = some fs ∧ ∃ f ∈ shape, s = .key f.name ∧ lookupField f.name fs = none ∧ f.optional = false
  | .record _ (.enum allowed _) _ _ isPartial _ =>
    ∃ es, extractRecord v = some es ∧ ∃ k ∈ allowed, s = .key k ∧ isPartial = false ∧
      (es.map (fun e => keyId e.1)).contains k = false
  | _ => False

/-- `elem`: an issue AT the segment of a member that rejects, nothing of the member's own issue kept — Array's
    `invalid_element` wrapper and (no code recorded, so that it fits) the slice with `slicePrepend = false`. `From`
    files it with `own`: a path `[s]`. -/
inductive FromA (env : Env) (n : Node) (v : V) : Issue → Prop
  | root {i : Issue} : i.path = [] → FromA env n v i
  | elem {i : Issue} (s : Seg) (m : Mid) (x : V) :
      Asked n v s m x → errs env m x ≠ [] → i.path = [s] → FromA env n v i
  | own {i : Issue} (s : Seg) : OwnFault n v s → i.path = [s] → i.code = .invalidType → FromA env n v i
  | child {i : Issue} (s : Seg) (m : Mid) (x : V) (c : Issue) :
      Asked n v s m x → c ∈ errs env m x → i.path = s :: c.path → i.code = c.code → FromA env n v i
  | keyed {i : Issue} (k : V) (m : Mid) (c : Issue) :
      AskedKey n v k m → c ∈ errs env m k → i.path = k.seg :: c.path → i.code = c.code → FromA env n v i
  | same {i : Issue} (m : Mid) (c : Issue) :
      AskedSame n v m → c ∈ errs env m v → i.path = c.path → i.code = c.code → FromA env n v i

theorem posAsked_zero {ms : List Mid} {r : Option Mid} {xs : List V} {a : Seg × Mid × V}
    (h : a ∈ posAsked ms r 0 xs) : ∃ j, getIdx xs j = some a.2.2 ∧ a.1 = .idx j ∧ memAt ms r j = some a.2.1 := by
  obtain ⟨j, x, m, hj, hm, rfl⟩ := mem_posAsked.1 h
  exact ⟨j, hj, by rw [Nat.zero_add], hm⟩

def IsRecord : Node → Prop
  | .record .. => True
  | _ => False

section ind
variable {cfg : Cfg} {env : Env} {n : Node} {v : V} {P : Issue → Prop}
  (root : ∀ i, i.path = [] → i.code.known = true → i.hasMsg = true → (cfg.interPath = true → i.hasPath = true) → P i)
  (child : ∀ s m x c, Asked n v s m x → c ∈ errs env m x → P (prepend s c))
  (keyed : ∀ k m c, AskedKey n v k m → c ∈ errs env m k → P (prepend k.seg c))

include root in
theorem ind_own {i : Issue} (h : Own i) : P i := root i h.1 h.2.1 h.2.2.1 fun _ => h.2.2.2

include root in
theorem ind_engine {α : Type} {m : Mods} {ex : V → Option α} {va : α → Res}
    (h : ∀ a, ex v = some a → ∀ i ∈ (va a).issues, P i) : ∀ i ∈ (engine m ex va v).issues, P i :=
  fun i hi => (engine_issues hi).elim (ind_own root) fun ⟨a, ha, hia⟩ => h a ha i hia

include root in
theorem ind_ends {r : Res} {is : List Issue} (he : OwnOrExactly r is) (h : ∀ i ∈ is, P i) : ∀ i ∈ r.issues, P i :=
  fun i hi => (he.issues hi).elim (ind_own root) (h i)

include child keyed in
/-- `h` is the bridge from an asked triple of C02Loops to `Asked` / `AskedKey`: a member asked about a part, or a key
    schema asked about the key itself; every container case below discharges exactly this. -/
theorem ind_block {a : Seg × Mid × V}
    (h : Asked n v a.1 a.2.1 a.2.2 ∨ ∃ k, AskedKey n v k a.2.1 ∧ a.1 = k.seg ∧ a.2.2 = k) :
    ∀ i ∈ block env prepend a, P i := by
  intro i hi
  obtain ⟨c, hc, rfl⟩ := mem_block.1 hi
  rcases h with hA | ⟨k, hK, hs, hk⟩
  · exact child _ _ _ c hA hc
  · rw [hs]; exact keyed k _ c hK (hk ▸ hc)

end ind

/-- One premise per way the validators of `Model/Containers.lean` raise an issue. `root` … `same` are the ways of /repo
    HEAD; `root`'s last premise is the intersection's merged issue, built without a path when `interPath = false`;
    `oldSlice` / `oldRecord` are the ways with `slicePrepend` / `recordKeyPath` off (a record value's issues handed on
    unchanged, a key's with the path dropped; which member, is not recorded: `m x` are free). -/
theorem run_issues_ind {cfg : Cfg} {env : Env} {n : Node} {v : V} {P : Issue → Prop}
    (root : ∀ i, i.path = [] → i.code.known = true → i.hasMsg = true → (cfg.interPath = true → i.hasPath = true) → P i)
    (own : ∀ s, OwnFault n v s → P (mk .invalidType [s]))
    (elem : ∀ s m x, Asked n v s m x → errs env m x ≠ [] → P (mk .invalidElement [s]))
    (child : ∀ s m x c, Asked n v s m x → c ∈ errs env m x → P (prepend s c))
    (keyed : ∀ k m c, AskedKey n v k m → c ∈ errs env m k → P (prepend k.seg c))
    (same : ∀ m c, AskedSame n v m → c ∈ errs env m v → P c)
    (oldSlice : cfg.slicePrepend = false → ∀ s m x c, Asked n v s m x → c ∈ errs env m x → P (replacePath s c))
    (oldRecord : cfg.recordKeyPath = false → IsRecord n → ∀ m x c, c ∈ errs env m x → P c ∧ P (dropPath c)) :
    ∀ i ∈ (run cfg env n v).issues, P i := by
  have pOwn : ∀ {is : List Issue}, (∀ i ∈ is, Own i) → ∀ i ∈ is, P i := fun h i hi => ind_own root (h i hi)
  have pBlock := @ind_block env n v P child keyed
  have pBlocks : ∀ {as : List (Seg × Mid × V)}, (∀ a ∈ as, _) → ∀ i ∈ as.flatMap (block env prepend), P i :=
    fun h i hi => let ⟨a, ha, hia⟩ := List.mem_flatMap.1 hi; pBlock (h a ha) i hia
  cases n with
  | slice m t e cs =>
    refine ind_engine root fun xs hx i hi => ?_
    rw [validateSlice, ofIssues_issues, sliceElems_eq, List.mem_append] at hi
    refine hi.elim (pOwn sizeIssues_own i) fun hi => ?_
    have asked : ∀ a ∈ posAsked [] (some e) 0 xs, Asked (.slice m t e cs) v a.1 a.2.1 a.2.2 := fun a ha => by
      obtain ⟨j, hj, hs, hm⟩ := posAsked_zero ha
      exact ⟨xs, j, hx, hj, hs, (Option.some.inj hm).symm⟩
    cases hp : cfg.slicePrepend
    · obtain ⟨a, ha, hia⟩ := List.mem_flatMap.1 hi
      obtain ⟨c, hc, rfl⟩ := mem_block.1 hia
      rw [sliceWrap, hp]
      exact oldSlice hp a.1 a.2.1 a.2.2 c (asked a ha) hc
    · rw [sliceWrap, hp] at hi
      exact pBlocks (fun a ha => .inl (asked a ha)) i hi
  | array m items rest cs =>
    refine ind_engine root fun xs hx => ?_
    rw [validateArray_eq, ofIssues_issues, arrayElems_eq]
    refine forall_mem_stage (pOwn sizeIssues_own) (forall_mem_stage (pOwn lenIssues_own) fun i hi => ?_)
    obtain ⟨a, ha, hia⟩ := List.mem_flatMap.1 hi
    obtain ⟨j, hj, hs, hm⟩ := posAsked_zero ha
    unfold elemBlock at hia
    split at hia
    · cases hia
    · next hacc =>
      cases List.mem_singleton.1 hia
      exact elem a.1 a.2.1 a.2.2 ⟨xs, j, hx, hj, hs, hm⟩ (fun h => hacc (errs_nil.1 h))
  | tuple m items req rest cs =>
    refine ind_engine root fun xs hx => ?_
    rw [validateTuple_eq, ofIssues_issues, tupleElems_eq]
    refine forall_mem_stage (pOwn lenIssues_own) (forall_mem_stage (pBlocks fun a ha => ?_) (pOwn sizeIssues_own))
    obtain ⟨j, hj, hs, hm⟩ := posAsked_zero ha
    exact .inl ⟨xs, j, hx, hj, hs, hm⟩
  | map m km vm cs =>
    refine ind_engine root fun es hx => ?_
    rw [validateMap_eq, ofIssues_issues, mapEntries_eq]
    refine forall_mem_stage (pOwn sizeIssues_own) (pBlocks fun a ha => ?_)
    obtain ⟨e, he, ha⟩ := List.mem_flatMap.1 ha
    rcases List.mem_append.1 ha with ha | ha <;> obtain ⟨mm, hmm, rfl⟩ := Option.mem_toList.1 ha |> Option.map_eq_some_iff.1
    · exact .inr ⟨e.1, ⟨es, e.2, hx, he, hmm⟩, rfl, rfl⟩
    · exact .inl ⟨es, e.1, hx, he, rfl, hmm⟩
  | record m ks vm loose part cs =>
    refine ind_engine root fun es hx => ?_
    rw [validateRecord_eq, ofIssues_issues]
    refine forall_mem_stage (pOwn sizeIssues_own) (forall_mem_stage (fun i hi => ?_) ?_)
    · obtain ⟨b, hb, hib⟩ := mem_headBlock hi
      obtain ⟨a, ha, rfl⟩ := List.mem_map.1 hb
      obtain ⟨e, he, rfl⟩ := List.mem_map.1 ha
      obtain ⟨c, hc, rfl⟩ := mem_block.1 hib
      cases hr : cfg.recordKeyPath
      · rw [valWrap, hr]; exact (oldRecord hr trivial _ _ c hc).1
      · rw [valWrap, hr]; exact child _ _ _ c ⟨es, e.1, hx, (List.mem_filter.1 he).1, rfl, rfl⟩ hc
    · cases ks with
      | none => intro i hi; cases hi
      | enum al km =>
        intro i hi
        unfold recordKeyIssues recordEnumKeys at hi
        rcases List.mem_append.1 hi with hi | hi
        · cases eq_of_mem_ite hi; exact root _ rfl rfl rfl fun _ => rfl
        · split at hi
          · cases hi
          · next hpart =>
            obtain ⟨k, hk, rfl⟩ := List.mem_map.1 hi
            obtain ⟨hk, hc⟩ := List.mem_filter.1 hk
            exact own (.key k) ⟨es, hx, k, hk, rfl, by simpa using hpart, by simpa using hc⟩
      | schema km =>
        rw [recordKeyIssues, recordSchemaKeys_eq]
        cases hr : cfg.recordKeyPath
        · intro i hi
          obtain ⟨a, _, hia⟩ := List.mem_flatMap.1 hi
          obtain ⟨c, hc, rfl⟩ := mem_block.1 hia
          rw [keyWrap, hr]; exact (oldRecord hr trivial _ _ c hc).2
        · rw [keyWrap, hr]
          refine pBlocks fun a ha => ?_
          cases loose
          · obtain ⟨e, he, rfl⟩ := List.mem_map.1 ha
            exact .inr ⟨e.1, ⟨es, e.2, hx, he, rfl, rfl⟩, rfl, rfl⟩
          · cases ha
  | set m t e cs =>
    refine ind_engine root fun xs hx => ?_
    rw [validateSet_eq, ofIssues_issues, setElems_eq]
    refine forall_mem_stage (pOwn sizeIssues_own) (pBlocks fun a ha => ?_)
    obtain ⟨x, hm, rfl⟩ := List.mem_map.1 ha
    exact .inr ⟨x, ⟨xs, hx, hm, rfl⟩, rfl, rfl⟩
  | object m shape mode c p cs =>
    refine ind_engine root fun es hx i hi => ?_
    rw [validateObject_eq, ofIssues_issues, objectFields_eq, objectUnknown_eq] at hi
    simp only [List.mem_append] at hi
    rcases hi with ((hi | hi) | hi) | hi
    · obtain ⟨f, hf, hif⟩ := List.mem_flatMap.1 hi
      unfold fieldBlock at hif
      split at hif
      · next hk =>
        split at hif
        · cases hif
        · next ho =>
          cases List.mem_singleton.1 hif
          exact own (.key f.name) ⟨es, hx, f, hf, rfl, .inl ⟨hk, by simpa using ho⟩⟩
      · next x hk =>
        split at hif
        · next hn =>
          cases List.mem_singleton.1 hif
          rw [Bool.and_eq_true] at hn
          exact own (.key f.name) ⟨es, hx, f, hf, rfl, .inr ⟨x, hk, hn.1, hn.2⟩⟩
        · exact pBlock (.inl ⟨es, hx, .inl ⟨f, hf, hk, rfl, rfl⟩⟩) i hif
    · refine pBlocks (fun a ha => ?_) i hi
      cases mode <;> cases c <;> simp only [unkAsked, List.not_mem_nil, List.mem_map] at ha
      all_goals
        obtain ⟨e, he, rfl⟩ := ha
        obtain ⟨he, hk⟩ := List.mem_filter.1 he
        exact .inl ⟨es, hx, .inr ⟨e.1, he, by simpa using hk, by simp, rfl, rfl⟩⟩
    · cases eq_of_mem_ite hi; exact root _ rfl rfl rfl fun _ => rfl
    · exact pOwn sizeIssues_own i hi
  | struct m ptrC sid shape =>
    refine ind_engine root fun fs hx i hi => ?_
    rw [validateStruct, ofIssues_issues, structFields_eq] at hi
    obtain ⟨f, hf, hif⟩ := List.mem_flatMap.1 hi
    unfold sfieldBlock at hif
    split at hif
    · next hk =>
      split at hif
      · cases hif
      · next ho =>
        cases List.mem_singleton.1 hif
        exact own (.key f.name) ⟨fs, hx, f, hf, rfl, hk, by simpa using ho⟩
    · next x hk =>
      exact pBlock (.inl ⟨fs, hx, f, hf, hk, rfl, rfl⟩) i hif
  | union m opts =>
    exact ind_engine root (ex := some) fun a _ => ind_ends root (validateUnion_ends env opts a) (fun _ h => nomatch h)
  | xor m opts =>
    exact ind_engine root (ex := some) fun a _ => ind_ends root (validateXor_ends env opts a) (fun _ h => nomatch h)
  | inter m l r =>
    refine ind_engine root (ex := some) fun a ha => ?_
    cases ha
    refine ind_ends root (validateInter_ends cfg env l r v) fun i hi => ?_
    rcases mem_mergeUnrec hi with h1 | h1 | ⟨ks, rfl⟩
    · exact same l i (.inl rfl) h1
    · exact same r i (.inr rfl) h1
    · exact root _ rfl rfl rfl id
  | du m disc dmap opts =>
    obtain ⟨is, he, rfl | ⟨e, hd, rfl⟩⟩ := parseDU_ends env m disc dmap opts v
    · exact ind_ends root he (fun _ h => nomatch h)
    · exact ind_ends root he fun i hi => same e.2 i ⟨e, hd, rfl⟩ hi
  | lazy m direct t =>
    exact ind_ends root (parseLazy_ends cfg env m direct t v) fun i hi => same t i rfl hi


/-- For every `Cfg` but a record without its key prefix (`hr`); the slice with `slicePrepend = false` falls under
    `FromA.elem`. -/
theorem c05_from_asked_cfg (cfg : Cfg) (env : Env) (n : Node) (v : V)
    (hr : match n with | .record .. => cfg.recordKeyPath = true | _ => True) :
    ∀ i ∈ (run cfg env n v).issues, FromA env n v i :=
  run_issues_ind (root := fun _ h _ _ _ => .root h) (own := fun s h => .own s h rfl rfl)
    (elem := fun s m x h hne => .elem s m x h hne rfl) (child := fun s m x c h hc => .child s m x c h hc rfl rfl)
    (keyed := fun k m c h hc => .keyed k m c h hc rfl rfl) (same := fun m c h hc => .same m c h hc rfl rfl)
    (oldSlice := fun _ s m x c h hc => .elem s m x h (List.ne_nil_of_mem hc) rfl)
    (oldRecord := fun h hn => by
      cases n with
      | record => exact absurd hr (by simp [h])
      | _ => exact hn.elim)

theorem asked_child {n : Node} {v : V} {s : Seg} {m : Mid} {x : V} (h : Asked n v s m x) : Child v s x := by
  cases n <;> simp only [Asked] at h
  case slice => obtain ⟨xs, j, hx, hj, rfl, _⟩ := h; exact (extractSlice_seq hx).child hj
  case array => obtain ⟨xs, j, hx, hj, rfl, _⟩ := h; exact (extractArray_seq hx).child hj
  case tuple => obtain ⟨xs, j, hx, hj, rfl, _⟩ := h; exact (extractTuple_seq hx).child hj
  case map => obtain ⟨es, k, hx, hm, rfl, _⟩ := h; exact (extractMap_map hx).child hm
  case record => obtain ⟨es, k, hx, hm, rfl, _⟩ := h; exact (extractRecord_map hx).child hm
  case object =>
    obtain ⟨es, hx, ⟨f, _, hk, rfl, _⟩ | ⟨k, hm, _, _, _, rfl⟩⟩ := h
    · exact (extractObject_map hx).child_lookup hk
    · exact (extractObject_map hx).child hm
  case struct =>
    obtain ⟨fs, hx, f, _, hk, rfl, _⟩ := h
    obtain ⟨s, hs⟩ := extractStruct_holds hx
    exact hs.child (lookupField_mem hk)

/-- a Set schema is given a map (`map[T]struct{}`), not a slice, whose elements are filed under their VALUE, no location of a
    slice (`c05_set_on_slice_false`). The theorems of this file spell it inline as `hset`; C05Nest uses the name. -/
def SetOnMap (n : Node) (v : V) : Prop :=
  match n with
  | .set .. => ∀ e ys, v ≠ .slice e ys
  | _ => True

theorem askedKey_child {n : Node} {v : V} {k : V} {m : Mid} (hset : SetOnMap n v) (h : AskedKey n v k m) :
    ∃ u, Child v k.seg u := by
  cases n <;> simp only [AskedKey] at h
  case map => obtain ⟨es, x, hx, hm, _⟩ := h; exact ⟨x, (extractMap_map hx).child hm⟩
  case record => obtain ⟨es, x, hx, hm, _⟩ := h; exact ⟨x, (extractRecord_map hx).child hm⟩
  case set =>
    obtain ⟨xs, hx, hm, _⟩ := h
    rcases extractSet_cases hx with ⟨e, ys, rfl⟩ | ⟨es, hes, rfl⟩
    · exact absurd rfl (hset e ys)
    · obtain ⟨e, he, rfl⟩ := List.mem_map.1 hm
      exact ⟨e.2, hes.child he⟩

inductive From (env : Env) (v : V) : Issue → Prop
  | root {i : Issue} : i.path = [] → From env v i
  | own {i : Issue} (s : Seg) : i.path = [s] → From env v i
  | child {i : Issue} (s : Seg) (x : V) (m : Mid) (c : Issue) :
      Child v s x → c ∈ errs env m x → i.path = s :: c.path → From env v i
  | same {i : Issue} (m : Mid) (c : Issue) : c ∈ errs env m v → i.path = c.path → From env v i
  | keyed {i : Issue} (k x : V) (m : Mid) (c : Issue) :
      Child v k.seg x → c ∈ errs env m k → i.path = k.seg :: c.path → From env v i

/-- C05, per container: every issue a composite reports comes from the container itself (at its root or at one of its
    own keys) or is a member's issue with the member's location in front. `hrec`: the record files issues under the key;
    `hset`: a Set is given a map, not a slice (`c05_set_on_slice_false`). -/
theorem c05_paths_from_members (cfg : Cfg) (env : Env) (n : Node) (v : V)
    (hrec : match n with | .record .. => cfg.recordKeyPath = true | _ => True)
    (hset : match n with | .set .. => ∀ e ys, v ≠ .slice e ys | _ => True) :
    ∀ i ∈ (run cfg env n v).issues, From env v i := by
  intro i hi
  cases c05_from_asked_cfg cfg env n v hrec i hi with
  | root h => exact .root h
  | elem s _ _ _ _ hp => exact .own s hp
  | own s _ hp _ => exact .own s hp
  | child s m x c ha hc hp _ => exact .child s x m c (asked_child ha) hc hp
  | keyed k m c ha hc hp _ =>
    obtain ⟨u, hu⟩ := askedKey_child (by cases n <;> exact hset) ha
    exact .keyed k u m c hu hc hp
  | same m c _ hc hp _ => exact .same m c hc hp

/-- C05, resolution, one nesting level. A weak form: `RoP` accepts every path whose parent resolves, whatever the issue,
    and `hm` / `hk` quantify over every member id. `c05_resolves_level` / `c05_resolves_nested` (C05Nest) have the issue
    kind in the statement and speak of the member asked. -/
theorem c05_path_resolves (cfg : Cfg) (env : Env) (n : Node) (v : V)
    (hrec : match n with | .record .. => cfg.recordKeyPath = true | _ => True)
    (hset : match n with | .set .. => ∀ e ys, v ≠ .slice e ys | _ => True)
    (hm : ∀ m x c, c ∈ errs env m x → RoP x c.path)
    (hk : ∀ m k x c, Child v k.seg x → c ∈ errs env m k → c.path = []) :
    ∀ i ∈ (run cfg env n v).issues, RoP v i.path := by
  intro i hi
  cases c05_paths_from_members cfg env n v hrec hset i hi with
  | root h => rw [h]; exact rop_nil v
  | own s h => rw [h]; exact rop_single v s
  | child s x m c hc hmem h => rw [h]; exact rop_cons hc (hm m x c hmem)
  | same m c hmem h => rw [h]; exact hm m v c hmem
  | keyed k x m c hc hmem h => rw [h, hk m k x c hc hmem]; exact rop_single v _

/-- several faults, at the segments `S`, any number of issues each (weak in the way `c05_single_fault` is). -/
theorem c05_multi_fault (cfg : Cfg) (env : Env) (n : Node) (v : V) (S : List Seg)
    (hrec : match n with | .record .. => cfg.recordKeyPath = true | _ => True)
    (hset : match n with | .set .. => ∀ e ys, v ≠ .slice e ys | _ => True)
    (hother : ∀ s x m, Child v s x → s ∉ S → errs env m x = [])
    (hkeys : ∀ (k x : V) m, Child v k.seg x → k.seg ∉ S → errs env m k = [])
    (hself : ∀ m, errs env m v = []) :
    ∀ i ∈ (run cfg env n v).issues, i.path = [] ∨ (∃ s, i.path = [s]) ∨ ∃ s ∈ S, ∃ p, i.path = s :: p := by
  intro i hi
  cases c05_paths_from_members cfg env n v hrec hset i hi with
  | root h => exact Or.inl h
  | own s h => exact Or.inr (Or.inl ⟨s, h⟩)
  | child s x m c hc hmem h =>
    by_cases hs : s ∈ S
    · exact Or.inr (Or.inr ⟨s, hs, c.path, h⟩)
    · rw [hother s x m hc hs] at hmem; cases hmem
  | same m c hmem h => rw [hself m] at hmem; cases hmem
  | keyed k x m c hc hmem h =>
    by_cases hs : k.seg ∈ S
    · exact Or.inr (Or.inr ⟨k.seg, hs, c.path, h⟩)
    · rw [hkeys k x m hc hs] at hmem; cases hmem

/-- C05, single fault planted at `s₀`. A weak form: the hypotheses quantify over EVERY member id `m`, not the member asked
    at the position, so no heterogeneous container meets them; `c05_single_fault_nested` (C05Nest) speaks of the member
    asked. -/
theorem c05_single_fault (cfg : Cfg) (env : Env) (n : Node) (v : V) (s₀ : Seg)
    (hrec : match n with | .record .. => cfg.recordKeyPath = true | _ => True)
    (hset : match n with | .set .. => ∀ e ys, v ≠ .slice e ys | _ => True)
    (hother : ∀ s x m, Child v s x → s ≠ s₀ → errs env m x = [])
    (hkeys : ∀ (k x : V) m, Child v k.seg x → k.seg ≠ s₀ → errs env m k = [])
    (hself : ∀ m, errs env m v = []) :
    ∀ i ∈ (run cfg env n v).issues, i.path = [] ∨ (∃ s, i.path = [s]) ∨ ∃ p, i.path = s₀ :: p := by
  simpa using c05_multi_fault cfg env n v [s₀] hrec hset (by simpa using hother) (by simpa using hkeys) hself

/-- completeness for a slice: every issue of an element keeps its own path behind the element's index. -/
theorem c05_complete_patched (env : Env) (m : Mods) (t : Ty) (e : Mid) (cs : List SizeCk) (v : V)
    (cfg : Cfg) (hp : cfg.slicePrepend = true) (xs : List V) (hx : extractSlice t v = some xs)
    (hv : v.isNilLike = false) (j : Nat) (x : V) (hj : getIdx xs j = some x) (c : Issue)
    (hc : c ∈ errs env e x) :
    ∃ i ∈ (run cfg env (.slice m t e cs) v).issues, i.path = .idx j :: c.path := by
  refine ⟨prepend (.idx j) c, ?_, rfl⟩
  rw [run, engine_of_extract hv hx, validateSlice, ofIssues_issues, sliceElems_eq, sliceWrap, if_pos hp]
  refine List.mem_append_right _ (List.mem_flatMap.2 ⟨(.idx j, e, x), mem_posAsked.2 ⟨j, x, e, hj, rfl, ?_⟩, ?_⟩)
  · rw [Nat.zero_add]
  · exact List.mem_map_of_mem hc

/-- The code before /repo 489851f (`slicePrepend = false`): `Slice(Object{a: String()})` reported `[0]`, not `[0, "a"]`. -/
theorem c05_slice_drops_child_path :
    (run { slicePrepend := false } (fun _ _ => .err (mk .invalidType [.key 7]) []) (.slice {} .any 0 [])
      (.slice .any (some [.map .str .any (some [(.atom .str 7, .atom .int 1)])]))).issues.map (·.path)
      = [[.idx 0]] := by decide

/-- The code before /repo 12b24c0 (`recordKeyPath = false`): a record value issue carried no key — `["a"]`, not `["k", "a"]`. -/
theorem c05_record_drops_key :
    (run { recordKeyPath := false } (fun m _ => if m = 0 then .ok .nil else .err (mk .invalidType [.key 7]) [])
      (.record {} (.schema 0) 1 false false [])
      (.map .str .any (some [(.atom .str 9, .map .str .any (some [(.atom .str 7, .atom .int 1)]))]))).issues.map (·.path)
      = [[.key 7]] := by decide

/-- array wraps a failing element in ONE `invalid_element` issue at `[i]`; the inner path is dropped. -/
theorem c05_array_drops_child_path (cfg : Cfg) :
    (run cfg (fun _ _ => .err (mk .invalidType [.key 7]) [mk .tooSmall [.key 8]]) (.array {} [0] none [])
      (.slice .any (some [.map .str .any (some [(.atom .str 7, .atom .int 1)])]))).issues.map (·.path)
      = [[.idx 0]] := rfl

/-- a member asked with `prepend` keeps ALL its issues, in order, each behind its segment. -/
theorem block_paths_sublist {env : Env} {s : Seg} {m : Mid} {x : V} {l : List Issue}
    (hl : (block env prepend (s, m, x)).Sublist l) :
    ((errs env m x).map fun c => s :: c.path).Sublist (l.map (·.path)) := by
  have : (errs env m x).map (fun c => s :: c.path) = (block env prepend (s, m, x)).map (·.path) := by
    simp [block, prepend, List.map_map, Function.comp_def]
  exact this ▸ hl.map _

/-- `hreq`, `hmax`: the tuple has an admissible length (else only the length issue is reported). -/
theorem c05_tuple_all_issues (cfg : Cfg) (env : Env) (m : Mods) (items : List Mid) (req : Nat)
    (rest : Option Mid) (cs : List SizeCk) (v : V) (xs : List V)
    (hv : v.isNilLike = false) (hx : extractTuple v = some xs)
    (hreq : req ≤ xs.length) (hmax : rest.isSome = true ∨ xs.length ≤ items.length)
    (j : Nat) (x : V) (mem : Mid) (hj : getIdx xs j = some x) (hm : memAt items rest j = some mem) :
    ((errs env mem x).map (fun c => Seg.idx j :: c.path)).Sublist
      ((run cfg env (.tuple m items req rest cs) v).issues.map (·.path)) := by
  have hlen : lenIssues req (if rest.isNone then some items.length else none) xs.length = [] :=
    lenIssues_nil.2 ⟨hreq, by cases rest <;> simp_all⟩
  rw [run, engine_of_extract hv hx, validateTuple_eq, ofIssues_issues, hlen, tupleElems_eq]
  exact block_paths_sublist (sublist_stage_left (a := List.flatMap _ _)
    (sublist_flatMap (mem_posAsked.2 ⟨j, x, mem, hj, hm, by rw [Nat.zero_add]⟩)))

theorem c05_struct_all_issues (cfg : Cfg) (env : Env) (m : Mods) (ptrC : Bool) (sid : Nat)
    (shape : List Field) (v : V) (fs : List (Nat × V)) (hv : v.isNilLike = false)
    (hx : extractStruct sid v = some fs) (f : Field) (x : V) (hf : f ∈ shape)
    (hl : lookupField f.name fs = some x) :
    ((errs env f.m x).map (fun c => Seg.key f.name :: c.path)).Sublist
      ((run cfg env (.struct m ptrC sid shape) v).issues.map (·.path)) := by
  rw [run, engine_of_extract hv hx, validateStruct, ofIssues_issues, structFields_eq]
  exact block_paths_sublist (by simpa only [sfieldBlock, hl] using sublist_flatMap (f := sfieldBlock env fs) hf)

/-- `hnil`: the field is not an explicit nil of an exact-optional field (that is one own issue). -/
theorem c05_object_all_issues (cfg : Cfg) (env : Env) (m : Mods) (shape : List Field) (mode : Mode)
    (catchall : Option Mid) (p : Partial) (cs : List SizeCk) (v : V) (es : List (V × V))
    (hv : v.isNilLike = false) (hx : extractObject v = some es) (f : Field) (x : V) (hf : f ∈ shape)
    (hl : lookupKey f.name es = some x) (hnil : (x.isNil && f.exactOptional) = false) :
    ((errs env f.m x).map (fun c => Seg.key f.name :: c.path)).Sublist
      ((run cfg env (.object m shape mode catchall p cs) v).issues.map (·.path)) := by
  rw [run, engine_of_extract hv hx, validateObject_eq, ofIssues_issues, objectFields_eq, List.append_assoc,
    List.append_assoc]
  have := sublist_flatMap (f := fieldBlock env p es) hf
  rw [fieldBlock, hl] at this
  exact block_paths_sublist (by
    simpa only [hnil, Bool.false_eq_true, ↓reduceIte] using this.trans (List.sublist_append_left _ _))

/-- `hsz`: the size checks hold (else the entries are not looked at). -/
theorem c05_map_all_issues (cfg : Cfg) (env : Env) (md : Mods) (km : Option Mid) (m : Mid) (cs : List SizeCk)
    (v : V) (es : List (V × V)) (hv : v.isNilLike = false) (hx : extractMap v = some es)
    (hsz : sizeIssues cs es.length = []) (k x : V) (hm : (k, x) ∈ es) :
    ((errs env m x).map (fun c => k.seg :: c.path)).Sublist
      ((run cfg env (.map md km (some m) cs) v).issues.map (·.path)) := by
  rw [run, engine_of_extract hv hx, validateMap_eq, ofIssues_issues, hsz, mapEntries_eq]
  exact block_paths_sublist (sublist_flatMap (List.mem_flatMap.2 ⟨(k, x), hm, by simp⟩))

theorem c05_set_all_issues (cfg : Cfg) (env : Env) (md : Mods) (t : Ty) (m : Mid) (cs : List SizeCk)
    (v : V) (xs : List V) (hv : v.isNilLike = false) (hx : extractSet t v = some xs)
    (hsz : sizeIssues cs xs.length = []) (x : V) (hm : x ∈ xs) :
    ((errs env m x).map (fun c => x.seg :: c.path)).Sublist
      ((run cfg env (.set md t m cs) v).issues.map (·.path)) := by
  rw [run, engine_of_extract hv hx, validateSet_eq, ofIssues_issues, hsz, setElems_eq]
  exact block_paths_sublist (sublist_flatMap (List.mem_map_of_mem (f := fun x => (x.seg, m, x)) hm))

section nested
variable (cfg : Cfg) (defs : Mid → Def) (env : Env) (resv : Mid → V → V)

theorem errs_parseF_leaf (k : Nat) (id : Mid) (v : V) (h : defs id = .leaf) :
    errs (parseF cfg defs env resv (k + 1)) id v = errs env id v := by
  simp only [errs, parseF, h]

theorem errs_parseF_node (k : Nat) (id : Mid) (v : V) (nd : Node) (h : defs id = .node nd) :
    errs (parseF cfg defs env resv (k + 1)) id v = (run cfg (parseF cfg defs env resv k) nd v).issues := by
  simp only [errs, parseF, h]
  cases run cfg (parseF cfg defs env resv k) nd v with
  | ok => rfl
  | err is => cases is <;> rfl

/-- Induction over the fuel of the nested parse: a schema answers as a leaf (from `env`), or as a composite over the
    parses of its members one level down. -/
theorem parseF_induction {P : Nat → Mid → V → Prop}
    (leaf : ∀ k id v, errs (parseF cfg defs env resv k) id v = errs env id v → P k id v)
    (node : ∀ k id v nd, defs id = .node nd →
      errs (parseF cfg defs env resv (k + 1)) id v = (run cfg (parseF cfg defs env resv k) nd v).issues →
      (∀ m x, P k m x) → P (k + 1) id v) :
    ∀ k id v, P k id v := by
  intro k
  induction k with
  | zero => exact fun id v => leaf 0 id v rfl
  | succ k ih =>
    intro id v
    cases hd : defs id with
    | leaf => exact leaf _ id v (errs_parseF_leaf cfg defs env resv k id v hd)
    | node nd => exact node k id v nd hd (errs_parseF_node cfg defs env resv k id v nd hd) ih

end nested

/-- two issues of ONE tuple element under an object field keep two DIFFERENT paths:
    `Object{pair: Tuple([Object{code, x}])}` with both inner fields bad reports `[pair 0 code]` and `[pair 0 x]`. -/
theorem c05_nested_two_issues :
    let defs : Mid → Def := fun id =>
      if id = 0 then .node (.object {} [{ name := 1, m := 1 }] .strip none {} [])
      else if id = 1 then .node (.tuple {} [2] 1 none [])
      else if id = 2 then .node (.object {} [{ name := 5, m := 3 }, { name := 6, m := 4 }] .strip none {} [])
      else .leaf
    let env : Env := fun _ _ => .err (mk .tooSmall []) []
    let inner := V.map .str .any (some [(.atom .str 5, .atom .str 50), (.atom .str 6, .atom .str 60)])
    let input := V.map .str .any (some [(.atom .str 1, .slice .any (some [inner]))])
    (mresIssues (parseF {} defs env (fun _ v => v) 3 0 input)).map (·.path)
      = [[.key 1, .idx 0, .key 5], [.key 1, .idx 0, .key 6]] := by
  decide

end Gozod.C05
