/-
  C06 — witnesses.  The known-finding region of the rule matrix (`knownSingle`, `knownPair`, `knownOrder`) is EMPTY (all seven
  repairs of the rule-application code are in the tree, `Tags.landed`), so the three matrix witnesses hold vacuously and the
  full statements are theorems of Proofs/C06T.lean; the full statement about type graphs is false.  These theorems stand
  apart because they say that a finding reproduces: after a repair of the library they stop checking, which the evidence
  reports as such and which is not a violation.
-/
import Gozod.Proofs.C06T
import Gozod.Proofs.C06G
namespace Gozod.C06W
open Gozod.Tags Gozod.Gen Gozod.C06

/-- every excluded single-rule cell misbehaves on some probe (vacuous: no cell is excluded, `knownSingle_none`) -/
theorem c06_no_silent_noop_witnesses :
    ∀ b ∈ tagTable, ∀ s ∈ b.singles, knownSingle s.1 b.fty = true → s.2 ≠ expected [s.1] b.probes :=
  fun b _ s _ hk => absurd ((knownSingle_none s.1 b.fty).symm.trans hk) Bool.false_ne_true

/-- every excluded pair whose two single-rule cells are fine misbehaves in some order (vacuous: `knownPair_none`) -/
theorem c06_pairs_witnesses :
    ∀ b ∈ tagTable, ∀ p ∈ b.pairs, knownPair p.1 p.2.1 b.fty = true → knownSingle p.1 b.fty = false →
      knownSingle p.2.1 b.fty = false →
      ¬ (p.2.2.1 = expected [p.1, p.2.1] b.probes ∧ p.2.2.2 = expected [p.2.1, p.1] b.probes) :=
  fun b _ p _ hk _ _ => absurd ((knownPair_none p.1 p.2.1 b.fty).symm.trans hk) Bool.false_ne_true

/-- every excluded pair is order dependent (vacuous: `knownOrder_none`) -/
theorem c06_order_witnesses :
    ∀ b ∈ tagTable, ∀ p ∈ b.pairs, knownOrder p.1 p.2.1 b.fty = true → p.2.2.1 ≠ p.2.2.2 :=
  fun b _ p _ hk => absurd ((knownOrder_none p.1 p.2.1 b.fty).symm.trans hk) Bool.false_ne_true

open Gozod.Tags.Graph in
/-- the table of type graphs holds a probe under a recursive edge that is accepted although invalid, and a nil
    slice that is rejected although not `required` -/
theorem c06_graph_table_witnesses :
    (graphTable.any fun r => !rankedB r.env && r.probes.any fun p => p.2 == .acc && !Spec.vStruct r.env 0 p.1) = true ∧
    (graphTable.any fun r => rankedB r.env && r.probes.any fun p => p.2 == .rej && Spec.vStruct r.env 0 p.1) = true := by
  decide +kernel

open Gozod.Tags.Graph in
theorem c06_graph_table_full_false : ¬ c06_graph_table_full := by
  intro h
  obtain ⟨r, hr, hw⟩ := List.any_eq_true.mp c06_graph_table_witnesses.1
  simp only [Bool.and_eq_true, List.any_eq_true, beq_iff_eq, Bool.not_eq_true'] at hw
  obtain ⟨_, p, hp, hacc, hbad⟩ := hw
  have := (h r hr).2 p hp
  rw [hacc, hbad] at this
  cases this

end Gozod.C06W
