/-
  C06 — the static table of type switches (`Gen.tagFacts`, go/ast over types/struct.go) against the rule
  matrix: every documented (rule, field type) cell is REACHED by some `case` of some switch the rule name
  leads to.  Deleting a `case` from a switch (or a branch from the constructor switch) changes `Gen.tagFacts`, and the
  failing obligation names the cell and the switch.
-/
import Gozod.Model.TagSwitch
import Gozod.Gen.TagSwitches
import Gozod.Gen.TagTableX
import Gozod.Proofs.C06T
namespace Gozod.C06
open Gozod.Tags Gozod.Tags.Sw Gozod.Gen

def switched (t : FTy) : Bool :=
  match t.base.cls with | .str | .num | .slice => true | _ => false

/-- the rule instances documented for the class and applied by a switch (everything but `required`) -/
def swCells (t : FTy) : List (TRule × RName) :=
  (singleInstances t.base).filterMap fun r =>
    if documented r t.base.cls then (RName.of r).map (fun n => (r, n)) else none

def c06_switches_reach_full : Prop :=
  ∀ t ∈ allFtys, switched t = true → ∀ c ∈ swCells t, reaches tagFacts c.2 t = true

/-- the cells where a missing case is expected: the known findings, and the rules no value of the field's
    type can violate (`max=127` on int8, `nonnegative` on uint) — unreached like the others, but unobservable -/
def unreachedKnown (r : TRule) (t : FTy) : Bool := knownSingle r t || vacuous r t.base

def switchOK (t : FTy) : Bool :=
  !switched t || ((lookupTy tagFacts t).isSome && (swCells t).all fun c => reaches tagFacts c.2 t)

theorem switches_ok {t : FTy} (ht : t ∈ allFtys) (hs : switched t = true) :
    (lookupTy tagFacts t).isSome = true ∧ ∀ c ∈ swCells t, reaches tagFacts c.2 t = true := by
  have h : allFtys.all switchOK = true := by decide +kernel
  have := List.all_eq_true.mp h t ht
  simpa only [switchOK, hs, Bool.not_true, Bool.false_or, Bool.and_eq_true, List.all_eq_true] using this

theorem c06_switches_reach : c06_switches_reach_full :=
  fun _ ht hs => (switches_ok ht hs).2

/-- Every cell is reached by some case: the schema type the field starts with (constructor switch of
    createSchemaFromTypeWithInfo / createSliceSchema) is listed by a case of a switch reachable from the rule's name.
    The exclusion `unreachedKnown … = false` is not needed: `c06_switches_reach`. -/
theorem c06_switches_reach_partial :
    ∀ t ∈ allFtys, switched t = true → ∀ c ∈ swCells t, unreachedKnown c.1 t = false → reaches tagFacts c.2 t = true :=
  fun t ht hs c hc _ => c06_switches_reach t ht hs c hc

theorem c06_switches_cover : ∀ t ∈ allFtys, switched t = true → (lookupTy tagFacts t).isSome = true :=
  fun _ ht hs => (switches_ok ht hs).1

/-- Static ⇒ behavioural: a documented cell that no case reaches is observed as a dropped rule in the
    regenerated behavioural table (unless no value of the type can violate the rule).  Every cell of the present
    table is reached (`c06_switches_reach`), so no cell meets the hypotheses. -/
theorem c06_unreached_is_dropped :
    ∀ b ∈ tagTable, switched b.fty = true → ∀ s ∈ b.singles, ∀ n, RName.of s.1 = some n →
      documented s.1 b.fty.base.cls = true → reaches tagFacts n b.fty = false → vacuous s.1 b.fty.base = false →
      s.2 ≠ expected [s.1] b.probes := by
  intro b hb hsw s hs n hn hd hr _
  have hcov := c06_table_covers_matrix
  have ht : b.fty ∈ allFtys := hcov.1 ▸ List.mem_map_of_mem hb
  have hc := hcov.2 b hb
  simp only [coversBlock, Bool.and_eq_true, decide_eq_true_eq] at hc
  have hi : s.1 ∈ singleInstances b.fty.base := hc.1.1.1.1 ▸ List.mem_map_of_mem hs
  have hcell : (s.1, n) ∈ swCells b.fty :=
    List.mem_filterMap.mpr ⟨s.1, hi, by simp only [hd, if_true, hn, Option.map_some]⟩
  exact absurd (hr.symm.trans (c06_switches_reach b.fty ht hsw _ hcell)) Bool.false_ne_true

/-- the NON-PROPERTY table of undocumented rule names (`Gen.tagTableX`) is well formed: one verdict per
    probe, for field types of the matrix.  No statement about the verdicts themselves. -/
theorem c06_tableX_shape :
    (tagTableX.all fun b => allFtys.contains b.1 && b.2.2.all fun c => c.2.length == b.2.1.length) = true := by
  decide +kernel

example : reaches tagFacts .min ⟨false, .int64⟩ = true := by decide +kernel
example : ∃ t ∈ allFtys, switched t = true ∧ ∃ c ∈ swCells t, unreachedKnown c.1 t = false ∧ c.2 = .length := by decide +kernel

end Gozod.C06
