/-
  C19 — which Go types the library itself puts into issue paths, decided over the table regenerated
  from the working tree on every run (lean/Gozod/Gen/C19PathTypes.lean, written by
  `harness/cmd/c19 -genpaths` with go/types): every site where an element enters a path, with the
  static type of the element.

  The model's path element `El` (Model/IssuesGo.lean) is `str | int | other`: every site's static type
  is one of string / int / an interface or type parameter (a value of ANY dynamic type, which the
  formatters read through `%v`: all three constructors) — a site with, say, a static `int64` or
  `float64` element would be a new case the transcriptions of the type switches have to be re-read
  against.  Arbitrary dynamic types come from Map keys and Set elements, so `El.other` and negative
  ints are not hypothetical: `Map(Float64(), String()).Parse(map[any]any{1.5: 5})` has the path `[1.5]`.
-/
import Gozod.Gen.C19PathTypes
import Gozod.Model.IssuesGo

namespace Gozod.C19
open Gozod.Issues Gozod.Gen.C19PathTypes

/-- what a static Go type can hold, as constructors of `El` -/
inductive Static where
  | string | int | any
  deriving DecidableEq, Repr

def Static.ofName : String → Option Static
  | "string" => some .string
  | "int" => some .int
  | "any" => some .any
  | "interface" => some .any
  | "typeparam" => some .any
  | _ => none

def Static.admits : Static → El → Bool
  | .string, .str _ => true
  | .int, .int _ => true
  | .any, _ => true
  | _, _ => false

/-- the sites where a FRESH element of arbitrary dynamic type enters a path (a literal, not the
    spreading of an existing path) -/
def anyLiteralSites : List (String × String) :=
  (pathElementSites.filter (fun s => s.2.1 == "literal" && s.2.2.2 != "string" && s.2.2.2 != "int")).map
    (fun s => (s.1, s.2.2.1))

def knownShapes : List String :=
  ["nil", "literal", "append", "make", "reslice", "convert", "clone", "concat", "copy", "forward", "call"]

/-- One kernel evaluation for all statements about the two tables: normalising a string literal is
    the slow step, and within one evaluation each literal is normalised once. -/
theorem path_tables_decided :
    (pathElementSites.all (fun s => (Static.ofName s.2.2.2).isSome) = true) ∧
    (pathElementSites.any (fun s => Static.ofName s.2.2.2 == some .any) = true) ∧
    anyLiteralSites = [("types/map.go:collectErrors", "pathKey"), ("types/set.go:collectErrors", "pathKey")] ∧
    (pathElementSites.any (fun s => s.2.2.2 == "string") = true ∧ pathElementSites.any (fun s => s.2.2.2 == "int") = true) ∧
    (pathSinks.all (fun s => s.2.1 != "unrecognised" && knownShapes.contains s.2.1) = true) ∧
    (pathSinks.all (fun s =>
      !(s.2.1 == "literal" || s.2.1 == "append" || s.2.1 == "concat") || s.2.2 == "[]any{}" ||
        pathElementSites.any (fun e => e.1 == s.1)) = true) ∧
    (40 ≤ pathSinks.length ∧
    pathSinks.any (fun s => s.1 == "core/context.go:PushPath" && s.2.1 == "append") = true ∧
    pathSinks.any (fun s => s.2.1 == "literal") = true ∧
    pathSinks.any (fun s => s.1 == "internal/issues/finalize.go:FinalizeIssue") = true) := by decide +kernel

theorem c19_path_types_covered :
    pathElementSites.all (fun s => (Static.ofName s.2.2.2).isSome) = true := path_tables_decided.1

/-- `El` is not wider than the library.  The proof picks one `any` site, which admits everything, so
    the statement would hold of any element type; string and int sites: `c19_path_types_typed_present`. -/
theorem c19_el_needed (e : El) :
    pathElementSites.any (fun s => match Static.ofName s.2.2.2 with | some t => t.admits e | none => false) = true := by
  obtain ⟨s, hs, ht⟩ := List.any_eq_true.mp path_tables_decided.2.1
  refine List.any_eq_true.mpr ⟨s, hs, ?_⟩
  rw [eq_of_beq ht]
  cases e <;> rfl

theorem c19_path_types_any_sources :
    anyLiteralSites = [("types/map.go:collectErrors", "pathKey"), ("types/set.go:collectErrors", "pathKey")] :=
  path_tables_decided.2.2.1

/-- string sites (field names, record keys, check properties) and int sites (indices) exist -/
theorem c19_path_types_typed_present :
    pathElementSites.any (fun s => s.2.2.2 == "string") = true ∧ pathElementSites.any (fun s => s.2.2.2 == "int") = true :=
  path_tables_decided.2.2.2.1

/-! ## every way a path is built is one the translator understands

`pathSinks` is type-driven (harness/cmd/c19/pathsinks.go): every expression written to a `Path []any`
field, or to a variable / parameter / field / function result that flows into one, with its SHAPE.
A path built in a way the translator does not understand is a row `unrecognised` — the theorem
stops checking — instead of being silently absent from `pathElementSites`.
(Matching append / literal / index shapes under path-like names only would miss, for instance,
`slices.Concat(p.path, issue.Path)` in core/context.go.) -/

theorem c19_path_sinks_recognised :
    pathSinks.all (fun s => s.2.1 != "unrecognised" && knownShapes.contains s.2.1) = true :=
  path_tables_decided.2.2.2.2.1

/-- the shapes that ADD elements have them in `pathElementSites` (same file:function), unless the
    literal is the empty path -/
theorem c19_path_sinks_elements_recorded :
    pathSinks.all (fun s =>
      !(s.2.1 == "literal" || s.2.1 == "append" || s.2.1 == "concat") || s.2.2 == "[]any{}" ||
        pathElementSites.any (fun e => e.1 == s.1)) = true :=
  path_tables_decided.2.2.2.2.2.1

/-- the table is not vacuous: the payload's own path (`PushPath`), issue creation and the containers are there
    (`40`: a floor under the number of rows) -/
theorem c19_path_sinks_nonvacuous :
    40 ≤ pathSinks.length ∧
    pathSinks.any (fun s => s.1 == "core/context.go:PushPath" && s.2.1 == "append") = true ∧
    pathSinks.any (fun s => s.2.1 == "literal") = true ∧
    pathSinks.any (fun s => s.1 == "internal/issues/finalize.go:FinalizeIssue") = true :=
  path_tables_decided.2.2.2.2.2.2

end Gozod.C19
