/-
  C20 — validator side of ISO date-time: `validate.ISODateTime` = `regex.DefaultDatetime.MatchString(s)` ∧ `time.Parse(time.RFC3339, s)`.

  The guard pattern is RFC 3339 with optional seconds (`c20_isodatetime_pattern_optsec_full`, Proofs/C20DateTimeOpt.lean), the
  transcription of `time.Parse(RFC3339)` is lenient in three other ways (one-digit hour, ',' before the fraction,
  offsets up to 24:60) but insists on the seconds; together they are exactly RFC 3339.

  Both the definition and the Go parser split into the date (ten bytes) and a tail.  The tail automaton is characterised as a
  recursive-descent recogniser (`specTail optSec`), and `specTail true t && goTail t = specTail false t` is a case analysis
  on the first bytes of `t`.
-/
import Gozod.Proofs.C20Parsers
import Gozod.Proofs.C20DateTimeOpt
import Gozod.Gen.Regexes
namespace Gozod.C20
open Gozod Gozod.Re Gozod.Fmt Gozod.Parsers

/-- `timeStep b` on `Option` (in the model's `timeStepO` the O is the option record) -/
def tstepO (b : Bool) (o : Option DateSt) (c : Nat) : Option DateSt := o.bind (fun q => timeStep b q c)

def runT (b : Bool) (q : DateSt) (t : List Nat) : Bool := accD (fun q => q.pos = 27) (t.foldl (tstepO b) (some q))

theorem timeStep_none_outside (b : Bool) (q : DateSt) (c : Nat) (h : dtSupport.elem c = false) : timeStep b q c = none := by
  obtain ⟨h43, h45, h46, h58, h84, h90, hd⟩ := dtSupport_outside h
  simp [timeStep, hd, h43, h45, h46, h58, h84, h90]

theorem tail_fold (b : Bool) : ∀ (t : List Nat) (o : Option DateSt), (∀ q, o = some q → 10 ≤ q.pos) →
    t.foldl (dtTailRfc b).gstep o = t.foldl (tstepO b) o
  | [], _, _ => rfl
  | c :: t, o, ho => by
    have e : (dtTailRfc b).gstep o c = tstepO b o c := by
      cases o with
      | none => rfl
      | some q =>
        have hq : ¬ q.pos < 10 := by have := ho q rfl; omega
        show (if dtSupport.elem c then (if q.pos < 10 then dateStep 10000 q c else timeStep b q c) else none) = timeStep b q c
        rw [if_neg hq]
        by_cases hc : dtSupport.elem c = true
        · rw [if_pos hc]
        · rw [if_neg hc, timeStep_none_outside b q c (by simpa using hc)]
    refine (congrArg (fun x => t.foldl (dtTailRfc b).gstep x) e).trans (tail_fold b t _ ?_)
    intro q' hq'
    cases o with
    | none => cases hq'
    | some q => exact timeStep_pos (ho q rfl) hq'

theorem tail_run (b : Bool) (t : List Nat) : (dtTailRfc b).run t = runT b afterDate t := by
  refine (congrArg (dtTailRfc b).accO (tail_fold b t (some afterDate) (fun q h => by cases h; decide))).trans ?_
  unfold runT
  cases t.foldl (tstepO b) (some afterDate) <;> rfl

theorem foldl_tstepO_none (b : Bool) (t : List Nat) : t.foldl (tstepO b) none = none := foldl_none (fun _ => rfl) t

theorem runT_nil (b : Bool) (q : DateSt) : runT b q [] = decide (q.pos = 27) := rfl

theorem runT_cons (b : Bool) (q : DateSt) (c : Nat) (r : List Nat) :
    runT b q (c :: r) = match timeStep b q c with | some q' => runT b q' r | none => false := by
  unfold runT
  simp only [List.foldl_cons, tstepO, Option.bind]
  cases timeStep b q c with
  | none => simp only []; rw [show (List.foldl (tstepO b) none r) = none from foldl_tstepO_none b r]; rfl
  | some q' => rfl

/-! the stages of the tail: 'T' or ':' at a fixed position, the first digit of a two-digit field, its second digit with the bound -/

theorem R10 (b : Bool) (c : Nat) (r : List Nat) : runT b ⟨10, 0, 0, 0, 0⟩ (c :: r) = (decide (c = 84) && runT b ⟨11, 0, 0, 0, 0⟩ r) := by
  rw [runT_cons]; by_cases h : c = 84 <;> simp [timeStep, h]

theorem Rcolon (b : Bool) {p : Nat} (hp : p = 13 ∨ p = 24) (y c : Nat) (r : List Nat) :
    runT b ⟨p, y, 0, 0, 0⟩ (c :: r) = (decide (c = 58) && runT b ⟨p + 1, y, 0, 0, 0⟩ r) := by
  rw [runT_cons]; rcases hp with rfl | rfl <;> by_cases h : c = 58 <;> simp [timeStep, h]

theorem Rone (b : Bool) {p : Nat} (hp : p = 11 ∨ p = 14 ∨ p = 17 ∨ p = 22 ∨ p = 25) (y c : Nat) (r : List Nat) :
    runT b ⟨p, y, 0, 0, 0⟩ (c :: r) = (isDigit c && runT b ⟨p + 1, y, 0, 0, c - 48⟩ r) := by
  rw [runT_cons]; rcases hp with rfl | rfl | rfl | rfl | rfl <;> by_cases h : isDigit c = true <;> simp [timeStep, h]

/-- hours (positions 12, 23) up to 23, minutes and seconds (15, 18, 26) up to 59 -/
theorem Rtwo (b : Bool) {p max : Nat} (hp : (p = 12 ∨ p = 23) ∧ max = 23 ∨ (p = 15 ∨ p = 18 ∨ p = 26) ∧ max = 59) (y t c : Nat) (r : List Nat) :
    runT b ⟨p, y, 0, 0, t⟩ (c :: r) = ((isDigit c && decide (t * 10 + (c - 48) ≤ max)) && runT b ⟨p + 1, y, 0, 0, 0⟩ r) := by
  rw [runT_cons]
  by_cases h : isDigit c = true <;> by_cases h2 : t * 10 + (c - 48) ≤ max <;>
    rcases hp with ⟨rfl | rfl, rfl⟩ | ⟨rfl | rfl | rfl, rfl⟩ <;> simp [timeStep, h, h2]

theorem R20 (b : Bool) (y c : Nat) (r : List Nat) : runT b ⟨20, y, 0, 0, 0⟩ (c :: r) = (isDigit c && runT b ⟨21, y, 0, 0, 0⟩ r) := by
  rw [runT_cons]; by_cases h : isDigit c = true <;> simp [timeStep, h]
theorem R27 (b : Bool) (y : Nat) (r : List Nat) : runT b ⟨27, y, 0, 0, 0⟩ r = r.isEmpty := by
  cases r with
  | nil => rfl
  | cons c r => rw [runT_cons]; simp [timeStep]

/-- `zoneOptS true false` of C20DateTimeOpt (an offset is allowed, a local time is not), written out -/
def zoneS : List Nat → Bool
  | [] => false
  | c :: r => if c = 90 then r.isEmpty else if c = 43 ∨ c = 45 then offS r else false

theorem run22 (b : Bool) (y : Nat) (r : List Nat) : runT b ⟨22, y, 0, 0, 0⟩ r = offS r := by
  rcases r with _ | ⟨h1, _ | ⟨h2, _ | ⟨c, _ | ⟨m1, _ | ⟨m2, rest⟩⟩⟩⟩⟩
  all_goals simp [offS, Rone, Rtwo, Rcolon, R27, runT_nil]

/-- the step `zone` of `timeStep` in a state ⟨p, y, 0, 0, 0⟩: `zoneEnter true c` of C20DateTimeOpt with the year flag `y` kept -/
def zoneEnterY (y c : Nat) : Option DateSt :=
  if c = 90 then some ⟨27, y, 0, 0, 0⟩ else if c = 43 ∨ c = 45 then some ⟨22, y, 0, 0, 0⟩ else none

theorem zone_run (b : Bool) (y c : Nat) (r : List Nat) :
    (match zoneEnterY y c with | some q' => runT b q' r | none => false) = zoneS (c :: r) := by
  unfold zoneEnterY zoneS
  by_cases h90 : c = 90
  · simp [h90, R27]
  · by_cases hs : c = 43 ∨ c = 45
    · simp [h90, hs, run22]
    · simp [h90, hs]

theorem run21 (b : Bool) (y : Nat) : ∀ r : List Nat, runT b ⟨21, y, 0, 0, 0⟩ r = zoneS (dropDigits r)
  | [] => rfl
  | c :: r => by
    rw [runT_cons]
    by_cases hd : isDigit c = true
    · have e : timeStep b ⟨21, y, 0, 0, 0⟩ c = some ⟨21, y, 0, 0, 0⟩ := by simp [timeStep, hd]
      rw [e]; simp only [dropDigits, hd, if_true]
      exact run21 b y r
    · have e : timeStep b ⟨21, y, 0, 0, 0⟩ c = zoneEnterY y c := by
        simp only [Bool.not_eq_true] at hd
        simp [timeStep, hd, zoneEnterY]
      rw [e, zone_run]; simp [dropDigits, hd]

def fracS : List Nat → Bool
  | [] => false
  | c :: r => if c = 46 then (match r with | d :: r' => isDigit d && zoneS (dropDigits r') | [] => false) else zoneS (c :: r)

theorem run19 (b : Bool) (y : Nat) (r : List Nat) : runT b ⟨19, y, 0, 0, 0⟩ r = fracS r := by
  cases r with
  | nil => rfl
  | cons c r =>
    rw [runT_cons]
    by_cases h : c = 46
    · have e : timeStep b ⟨19, y, 0, 0, 0⟩ c = some ⟨20, y, 0, 0, 0⟩ := by simp [timeStep, h]
      rw [e]; simp only [fracS, h, if_true]
      cases r with
      | nil => rfl
      | cons d r' => rw [R20, run21]
    · have e : timeStep b ⟨19, y, 0, 0, 0⟩ c = zoneEnterY y c := by simp [timeStep, h, zoneEnterY]
      rw [e, zone_run]; simp [fracS, h]

def secS : List Nat → Bool
  | s1 :: s2 :: r => isDigit s1 && ((isDigit s2 && decide ((s1 - 48) * 10 + (s2 - 48) ≤ 59)) && fracS r)
  | _ => false

theorem run17 (b : Bool) (y : Nat) (r : List Nat) : runT b ⟨17, y, 0, 0, 0⟩ r = secS r := by
  rcases r with _ | ⟨s1, _ | ⟨s2, r⟩⟩
  · rfl
  · simp [secS, Rone, runT_nil]
  · simp [secS, Rone, Rtwo, run19]

/-- after hh:mm — ':' and the seconds, or (only when the seconds are optional) the zone at once -/
def afterMin (b : Bool) : List Nat → Bool
  | [] => false
  | c :: r => if c = 58 then secS r else (b && zoneS (c :: r))

theorem run16 (b : Bool) (r : List Nat) : runT b ⟨16, 0, 0, 0, 0⟩ r = afterMin b r := by
  cases r with
  | nil => rfl
  | cons c r =>
    rw [runT_cons]
    by_cases h : c = 58
    · have e : timeStep b ⟨16, 0, 0, 0, 0⟩ c = some ⟨17, 0, 0, 0, 0⟩ := by simp [timeStep, h]
      rw [e]; simp only [afterMin, h, if_true]; exact run17 b 0 r
    · cases b with
      | false =>
        have e : timeStep false ⟨16, 0, 0, 0, 0⟩ c = none := by simp [timeStep, h]
        rw [e]; simp [afterMin, h]
      | true =>
        have e : timeStep true ⟨16, 0, 0, 0, 0⟩ c = zoneEnterY 1 c := by
          simp only [timeStep, zoneEnterY]
          by_cases h90 : c = 90
          · simp [h90]
          · by_cases hs : c = 43 ∨ c = 45
            · simp [h, h90, hs]
            · simp [h, h90, hs]
        rw [e, zone_run]; simp [afterMin, h]

def timePrefix (c0 c1 c2 c3 c4 c5 : Nat) : Bool :=
  decide (c0 = 84) && (isDigit c1 && ((isDigit c2 && decide ((c1 - 48) * 10 + (c2 - 48) ≤ 23)) && (decide (c3 = 58) &&
    (isDigit c4 && (isDigit c5 && decide ((c4 - 48) * 10 + (c5 - 48) ≤ 59))))))

/-- RFC 3339 after the date (`optSec = true`: the seconds may be left out) -/
def specTail (b : Bool) : List Nat → Bool
  | c0 :: c1 :: c2 :: c3 :: c4 :: c5 :: rest => timePrefix c0 c1 c2 c3 c4 c5 && afterMin b rest
  | _ => false

theorem tail_spec (b : Bool) (t : List Nat) : (dtTailRfc b).run t = specTail b t := by
  rw [tail_run]
  rcases t with _ | ⟨c0, _ | ⟨c1, _ | ⟨c2, _ | ⟨c3, _ | ⟨c4, _ | ⟨c5, rest⟩⟩⟩⟩⟩⟩
  all_goals simp [afterDate, specTail, timePrefix, R10, Rone, Rtwo, Rcolon, run16, runT_nil]
  all_goals simp [Bool.and_assoc]

/-- `goRFC3339` after `goDatePrefix` (the rest of its `do` block) -/
def goTail (s : List Nat) : Bool :=
  (do
    let s ← lit 84 s
    let (h, s) ← take1or2 s
    let s ← lit 58 s
    let (mi, s) ← takeDigits 2 s
    let s ← lit 58 s
    let (sec, s) ← takeDigits 2 s
    if h ≥ 24 ∨ mi ≥ 60 ∨ sec ≥ 60 then none
    let s := match s with
      | p :: d :: rest => if (p = 46 ∨ p = 44) ∧ isDigit d then dropDigits rest else s
      | _ => s
    some (goZone s)).getD false

theorem goRFC3339_eq (s : List Nat) :
    goRFC3339 s = match goDatePrefix s with | some r => goTail r | none => false := by
  unfold goRFC3339 goTail
  cases goDatePrefix s <;> rfl

theorem goDatePrefix_split (s : List Nat) :
    goDatePrefix s = if isoDate.run (s.take 10) then some (s.drop 10) else none := by
  by_cases hl : 10 ≤ s.length
  · rcases s with _ | ⟨a, _ | ⟨b, _ | ⟨c, _ | ⟨d, _ | ⟨e, _ | ⟨f, _ | ⟨g, _ | ⟨h, _ | ⟨i, _ | ⟨j, rest⟩⟩⟩⟩⟩⟩⟩⟩⟩⟩
    all_goals first | (simp at hl; done) | skip
    rw [goDatePrefix10]
    have e : isoDate.run (List.take 10 (a :: b :: c :: d :: e :: f :: g :: h :: i :: j :: rest))
        = dateShape [a, b, c, d, e, f, g, h, i, j] := isoDate10 a b c d e f g h i j
    simp only [e, List.drop]
  · have h1 : goDatePrefix s = none := by
      cases hg : goDatePrefix s with
      | none => rfl
      | some r => have := goDatePrefix_length hg; omega
    have h2 : isoDate.run (s.take 10) = false := by
      cases hg : isoDate.run (s.take 10) with
      | false => rfl
      | true => have := date_length hg; rw [List.length_take] at this; omega
    rw [h1, h2]; rfl

theorem offS_goZone (sg : Nat) (hs : sg = 43 ∨ sg = 45) (r : List Nat) (h : offS r = true) : goZone (sg :: r) = true := by
  rcases r with _ | ⟨h1, _ | ⟨h2, _ | ⟨c, _ | ⟨m1, _ | ⟨m2, rest⟩⟩⟩⟩⟩
  all_goals first | (simp [offS] at h; done) | skip
  simp only [offS, Bool.and_eq_true, decide_eq_true_eq, List.isEmpty_iff] at h
  obtain ⟨a1, ⟨a2, a3⟩, a4, a5, ⟨a6, a7⟩, a8⟩ := h
  subst a8
  have hsg : (decide (sg = 43) || decide (sg = 45)) = true := by rcases hs with h | h <;> simp [h]
  simp only [goZone, hsg, a1, a2, a4, a5, a6, Bool.true_and, Bool.and_true, decide_true, Bool.and_eq_true, decide_eq_true_eq]
  omega

theorem zoneS_goZone (z : List Nat) (h : zoneS z = true) : goZone z = true := by
  cases z with
  | nil => simp [zoneS] at h
  | cons c r =>
    simp only [zoneS] at h
    by_cases h90 : c = 90
    · rw [if_pos h90] at h
      have : r = [] := by simpa using h
      subst this; subst h90; rfl
    · rw [if_neg h90] at h
      by_cases hs : c = 43 ∨ c = 45
      · rw [if_pos hs] at h; exact offS_goZone c hs r h
      · rw [if_neg hs] at h; cases h

theorem zoneS_head {c : Nat} {r : List Nat} (h : zoneS (c :: r) = true) : c = 90 ∨ c = 43 ∨ c = 45 := by
  simp only [zoneS] at h
  by_cases h90 : c = 90
  · exact Or.inl h90
  · rw [if_neg h90] at h
    by_cases hs : c = 43 ∨ c = 45
    · exact Or.inr hs
    · rw [if_neg hs] at h; cases h

def goAfterSec (s : List Nat) : Bool :=
  goZone (match s with
    | p :: d :: rest => if (p = 46 ∨ p = 44) ∧ isDigit d then dropDigits rest else s
    | _ => s)

theorem fracS_go (r : List Nat) (h : fracS r = true) : goAfterSec r = true := by
  cases r with
  | nil => simp [fracS] at h
  | cons c r =>
    simp only [fracS] at h
    by_cases h46 : c = 46
    · rw [if_pos h46] at h
      cases r with
      | nil => simp at h
      | cons d r' =>
        simp only [Bool.and_eq_true] at h
        simp only [goAfterSec, h46, h.1, true_or, and_self, if_true]
        exact zoneS_goZone _ h.2
    · rw [if_neg h46] at h
      have hz := zoneS_goZone _ h
      have hh := zoneS_head h
      have h44 : c ≠ 44 := by omega
      cases r with
      | nil => simpa [goAfterSec] using hz
      | cons d r' => simp only [goAfterSec, h46, h44, false_or, false_and, if_false]; exact hz

theorem digit_lt {a : Nat} (h : isDigit a = true) : 48 ≤ a ∧ a ≤ 57 := (isDigit_iff a).1 h

theorem goTail_prefix (c0 c1 c2 c3 c4 c5 : Nat) (rest : List Nat) (hp : timePrefix c0 c1 c2 c3 c4 c5 = true) :
    goTail (c0 :: c1 :: c2 :: c3 :: c4 :: c5 :: rest) =
      match rest with
      | c6 :: s1 :: s2 :: r => decide (c6 = 58) && (isDigit s1 && isDigit s2 && decide ((s1 - 48) * 10 + (s2 - 48) < 60)) && goAfterSec r
      | _ => false := by
  simp only [timePrefix, Bool.and_eq_true, decide_eq_true_eq] at hp
  obtain ⟨e0, d1, ⟨d2, hh⟩, e3, d4, d5, hm⟩ := hp
  subst e0 e3
  have hh' : ¬ (c1 - 48) * 10 + (c2 - 48) ≥ 24 := by omega
  have hm' : ¬ (c4 - 48) * 10 + (c5 - 48) ≥ 60 := by omega
  -- the six bytes read, what is left of the parser is the seconds field and what follows it
  have e : goTail (84 :: c1 :: c2 :: 58 :: c4 :: c5 :: rest) = ((lit 58 rest).bind fun s => (takeDigits 2 s).bind fun p =>
      if p.1 ≥ 60 then none else some (goAfterSec p.2)).getD false := by
    simp [goTail, goAfterSec, lit, take1or2, d1, d2, td2, d4, d5, bind, hh', hm']
  rw [e]
  rcases rest with _ | ⟨c6, _ | ⟨s1, _ | ⟨s2, r⟩⟩⟩
  · rfl
  · by_cases h6 : c6 = 58 <;> simp [lit, h6, takeDigits]
  · by_cases h6 : c6 = 58 <;> simp [lit, h6, takeDigits]
  · by_cases h6 : c6 = 58
    · by_cases hs : isDigit s1 = true ∧ isDigit s2 = true
      · by_cases hv : (s1 - 48) * 10 + (s2 - 48) < 60
        · simp [lit, h6, td2, hs, hv, Nat.not_le.2 hv]
        · simp [lit, h6, td2, hs, hv, Nat.not_lt.1 hv]
      · simp [lit, h6, td2, hs]
    · simp [lit, h6]

theorem tail_guard_go (t : List Nat) : (specTail true t && goTail t) = specTail false t := by
  rcases t with _ | ⟨c0, _ | ⟨c1, _ | ⟨c2, _ | ⟨c3, _ | ⟨c4, _ | ⟨c5, rest⟩⟩⟩⟩⟩⟩
  all_goals first | (simp [specTail]; done) | skip
  simp only [specTail]
  cases hp : timePrefix c0 c1 c2 c3 c4 c5 with
  | false => simp
  | true =>
    rw [goTail_prefix _ _ _ _ _ _ rest hp]
    simp only [Bool.true_and]
    cases rest with
    | nil => rfl
    | cons c6 r =>
      by_cases h6 : c6 = 58
      · subst h6
        simp only [afterMin, if_true]
        rcases r with _ | ⟨s1, _ | ⟨s2, r'⟩⟩
        · rfl
        · simp [secS]
        · cases hs : secS (s1 :: s2 :: r') with
          | false => rfl
          | true =>
            simp only [secS, Bool.and_eq_true, decide_eq_true_eq] at hs
            obtain ⟨a1, ⟨a2, a3⟩, a4⟩ := hs
            have : (s1 - 48) * 10 + (s2 - 48) < 60 := by omega
            simp [a1, a2, this, fracS_go r' a4]
      · simp only [afterMin, if_neg h6, Bool.false_and, Bool.true_and]
        rcases r with _ | ⟨s1, _ | ⟨s2, r'⟩⟩ <;> simp [h6]

/-- validate.ISODateTime (guard pattern ∧ `time.Parse(time.RFC3339)` as transcribed in `Parsers.goRFC3339`) accepts exactly the
    RFC 3339 date-times, for all strings -/
theorem c20_isodatetime : ∀ s, (accepts Gen.val_isodatetime s && goRFC3339 s) = (isoDateTime false).run s := by
  intro s
  have e : Gen.val_isodatetime = Gen.pat_isodatetime := rfl
  rw [e, c20_isodatetime_pattern_optsec_full, goRFC3339_eq, goDatePrefix_split]
  rw [isoDateTime_eq, isoDateTime_eq,
    dateThen_split dtSupport _ _ dtSupport_sup (fun q h => by simp; omega),
    dateThen_split dtSupport _ _ dtSupport_sup (fun q h => by simp; omega),
    ← dtTailRfc_eq, ← dtTailRfc_eq, tail_spec, tail_spec]
  cases hd : isoDate.run (s.take 10) with
  | false => simp
  | true => simp only [Bool.true_and, if_true]; exact tail_guard_go _

/-- the two conjuncts are both needed: the pattern alone takes `hh:mm` + zone, the parser alone takes the lenient forms -/
example : accepts Gen.val_isodatetime (b! "2024-12-06T15:30Z") = true ∧ goRFC3339 (b! "2024-12-06T15:30Z") = false ∧
    accepts Gen.val_isodatetime (b! "2024-12-06T15:30:00,5Z") = false ∧ goRFC3339 (b! "2024-12-06T15:30:00,5Z") = true ∧
    (isoDateTime false).run (b! "2024-02-29T23:59:59.123456789+23:59") = true ∧
    (accepts Gen.val_isodatetime (b! "2024-02-29T23:59:59.123456789+23:59") && goRFC3339 (b! "2024-02-29T23:59:59.123456789+23:59")) = true := by
  decide +kernel

end Gozod.C20
