/-
  C09 — the type-local (`Parse`, `StrictParse`) pairs: ZodBigInt, ZodFile, ZodFunction, ZodStruct; at the end the families
  the driver's `c09 cpx` lines run (`TypeLocal.famSix`: Slice, the via-`Parse` types, File, Struct).
-/
import Gozod.Model.TypeLocal
import Gozod.Proofs.C09
import Gozod.Proofs.C09Complex
namespace Gozod.C09
open Gozod.Prim Gozod.Cpx Gozod.TypeLocal

section BigInt
variable {P O T V : Type}

/-- ZodBigInt, full: on every input of the strict static type — nil `*big.Int` and nil `**big.Int` included —
    `StrictParse` = `Parse`: the nil pass does not depend on WHICH nil came in, and behind it stands the primitive
    engine pair. -/
theorem c09_bigint_strict_eq_parse (env : Env P O T V) (i : Internals P O V) (x : Input V)
    (hx : wellTyped i x = true) : bigStrict env i x = bigParse env i x := by
  cases x with
  | nil | nilPtr | foreign => rfl
  | val v | ptr v =>
    simp only [bigStrict, bigParse, bigIsNil, Bool.false_eq_true, ↓reduceIte]
    exact c09_strict_eq_parse env i _ hx

theorem bigParse_nil_irrelevant (env : Env P O T V) (i : Internals P O V) :
    bigParse env i .nilPtr = bigParse env i .nil := rfl

/-- Where the type-local nil pass differs from the engine's (`Prim.nilPath`): a `*big.Int` is the VALUE type, so a
    default is handed out unchecked and nil-applicable checks are not run on nil — in `Parse` and `StrictParse` alike. -/
theorem bigNilPass_not_engine :
    bigParse wEnv { dv := some 3, checks := [.overwrite 1] } .nil = .okVal 3 ∧
    Prim.parse wEnv ({ dv := some 3, checks := [.overwrite 1] } : Internals Nat Nat Nat) .nil = .okVal 4 := by decide

example : bigStrict wEnv { pv := some 7, checks := [.pred 5 false none] } (.nilPtr : Input Nat) = .okVal 7 := by decide
example : bigStrict wEnv { nonOptional := true } (.nilPtr : Input Nat) = .errNonOptional := by decide

end BigInt

section Conv
variable {P O T V E : Type}

theorem fileResult_eq_adapt (rPtr : Bool) (r : Cpx.Res V E) : fileResult rPtr r = adapt rPtr r := by
  cases r <;> cases rPtr <;> rfl

theorem fileToR_adapt_false (rPtr : Bool) (r : Cpx.Res V E) : fileToR rPtr (adapt false r) = adapt rPtr r := by
  cases r <;> cases rPtr <;> rfl

/-- ZodFile, full: every validator, configuration and input (a file value, a `*any`, nil, anything else):
    `StrictParse` = `Parse`. -/
theorem c09_file_strict_eq_parse (env : CEnv P O T V E) (c : CCfg P O T V) (x : CIn V) :
    fileStrict env c x = fileParse env c x := by
  unfold fileStrict fileParse; rw [fileToR_adapt_false, fileResult_eq_adapt]

/-- `ZodFile.StrictParse` is the bare engine's `ParseComplexStrict` (hence, with `c09_file_strict_eq_parse`, so is `Parse`). -/
theorem c09_file_is_engine_pair (env : CEnv P O T V E) (c : CCfg P O T V) (x : CIn V) :
    fileStrict env c x = Cpx.strictParse env c x := by
  unfold fileStrict Cpx.strictParse; rw [fileToR_adapt_false]

/-- ZodFunction: same verdict, same error, same function value on every input. -/
theorem c09_function_same_verdict_value (env : CEnv P O T V E) (c : CCfg P O T V) (x : CIn V) :
    errorOf (funcStrict env c x) = errorOf (funcParse env c x) ∧ payload (funcStrict env c x) = payload (funcParse env c x) := by
  unfold funcStrict funcParse
  cases Cpx.parse env c x <;> cases c.i.ptrSchema <;> exact ⟨rfl, rfl⟩

/-- ZodFunction: the very same result whenever the engine did not answer with a pointer (the input was not a `*any`). -/
theorem c09_function_strict_eq_parse (env : CEnv P O T V E) (c : CCfg P O T V) (x : CIn V)
    (hp : ∀ v, Cpx.parse env c x ≠ .ptr v) (hn : Cpx.parse env c x ≠ .nilPtr) :
    funcStrict env c x = funcParse env c x := by
  unfold funcStrict funcParse
  cases h : Cpx.parse env c x with
  | ptr v => exact absurd h (hp v)
  | nilPtr => exact absurd h hn
  | err e | val v | nil => rfl

/-- ZodFunction: exact equality of `StrictParse` and `Parse` on every input (false: the witness below). -/
def c09_function_full : Prop :=
  ∀ (env : CEnv Nat Nat Nat Nat Nat) (c : CCfg Nat Nat Nat Nat) (x : CIn Nat), funcStrict env c x = funcParse env c x

/-- For an input `p = &f` of `Function()` (R = any, the pointer is of the strict static type) `Parse`
    hands back the POINTER, `StrictParse` the function it points to. The values agree, the Go shapes do not. -/
theorem c09_function_pointer_shape_witness :
    funcParse lEnv { i := {} } { isNil := false, untyped := false, ptrEx := some (some 12), typEx := none } = .ptr 12 ∧
    funcStrict lEnv { i := {} } { isNil := false, untyped := false, ptrEx := some (some 12), typEx := none } = .val 12 := by decide

theorem c09_function_full_false : ¬ c09_function_full := by
  intro h
  have := h lEnv { i := {} } { isNil := false, untyped := false, ptrEx := some (some 12), typEx := none }
  revert this; decide

example : funcStrict lEnv { i := { ptrSchema := true, optional := true } } nilPtrIn = .nil := by decide
example : fileStrict lEnv { i := { ptrSchema := true } } (valIn false 12) = .ptr 12 := by decide

end Conv

section Struct
variable {P O T V E : Type}

/-- Switching `Optional` on does not matter for a non-nil input. -/
theorem parse_structInternals (env : CEnv P O T V E) (c : CCfg P O T V) (v : V) :
    Cpx.parse env (structInternals c) (structIn v) = Cpx.parse env c (structIn v) := by
  unfold structInternals
  split
  · simp [Cpx.parse, pmCore, structIn, parseComplexValue, validatePointer, thenTransform]
  · rfl

theorem structParse_eq (env : CEnv P O T V E) (se : StructErr E) (c : CCfg P O T V) (v : V) :
    structParse env se c (structIn v) =
      match Cpx.parse env c (structIn v) with
      | .err e => if se.looksLikeTypeErr e then .err se.rewritten else .err e
      | r => adapt c.i.ptrSchema r := by
  unfold structParse; rw [parse_structInternals]
  cases Cpx.parse env c (structIn v) <;> rfl

/-- ZodStruct, partial: for every field validator, configuration and struct value: unless the validator's error
    carries the text the rewrite is keyed on, `StrictParse` = `Parse`. -/
theorem c09_struct_partial (env : CEnv P O T V E) (se : StructErr E) (c : CCfg P O T V) (v : V)
    (h : ∀ e, Cpx.parse env c (structIn v) = .err e → se.looksLikeTypeErr e = false) :
    structStrict env c v = structParse env se c (structIn v) := by
  rw [structParse_eq]; unfold structStrict Cpx.strictParse
  cases hr : Cpx.parse env c (structIn v) with
  | err e => simp [adapt, h e hr]
  | val v | ptr v | nilPtr | nil => rfl

/-- ZodStruct: `c09_struct_partial` without its hypothesis (false: the witness below). -/
def c09_struct_full : Prop :=
  ∀ (env : CEnv Nat Nat Nat Nat Nat) (se : StructErr Nat) (c : CCfg Nat Nat Nat Nat) (v : Nat),
    structStrict env c v = structParse env se c (structIn v)

/-- The full statement fails where a FIELD issue carries the text: `Struct[Outer]({"x": Struct[Inner](…)})` on `Outer{X: nil}` — `StrictParse`
    returns the field issue "x: Invalid input: expected struct, received nil" (error 7 here), `Parse` replaces it by a
    root-level "expected struct of type Outer, got Outer" (error 99). -/
theorem c09_struct_rewrite_witness :
    structStrict lEnv { i := {} } 5 = .err 7 ∧
    structParse lEnv { looksLikeTypeErr := fun e => e == 7, rewritten := 99, conversionErr := 98 } { i := {} } (structIn 5) = .err 99 := by
  decide

theorem c09_struct_full_false : ¬ c09_struct_full := by
  intro h
  have := h lEnv { looksLikeTypeErr := fun e => e == 7, rewritten := 99, conversionErr := 98 } { i := {} } 5
  revert this; decide

example : structStrict lEnv { i := { ptrSchema := true } } 12 = .ptr 12 := by decide
example : structParse lEnv { looksLikeTypeErr := fun _ => false, rewritten := 99, conversionErr := 98 } { i := { ptrSchema := true } } (structIn 12) = .ptr 12 := by decide

end Struct

section Fam
variable {P O T V E : Type}

/-- Slice, `Fam.viaParse` (nine of the 15 types of `c09_table_via_parse`), File, full: for every validator, configuration and input
    `StrictParse` = `Parse`. -/
theorem c09_fam_strict_eq_parse (se : StructErr E) (f : Fam) (hf : f = .slice ∨ f = .viaParse ∨ f = .file)
    (env : CEnv P O T V E) (c : CCfg P O T V) (x : CIn V) : famStrict se f env c x = famParse se f env c x := by
  rcases hf with h | h | h <;> subst h
  · exact c09_slice_strict_eq_parse env c x
  · rfl
  · exact c09_file_strict_eq_parse env c x

/-- All six entry points answer with `Parse`'s result (what the driver predicts and the run compares). -/
theorem c09_fam_six_agree (se : StructErr E) (f : Fam) (hf : f = .slice ∨ f = .viaParse ∨ f = .file)
    (env : CEnv P O T V E) (c : CCfg P O T V) (x : CIn V) :
    (famSix se f env c x).s = (famSix se f env c x).p ∧ (famSix se f env c x).a = (famSix se f env c x).p ∧
    (famSix se f env c x).ms = (famSix se f env c x).mp ∧ (famSix se f env c x).ma = (famSix se f env c x).mp :=
  let h := c09_six_agree (fun y => (famParse se f env c y).toExcept) (fun y => (famStrict se f env c y).toExcept) x
    (by simp only [c09_fam_strict_eq_parse se f hf])
  ⟨h.1, h.2.1, h.2.2.1, h.2.2.2.1⟩

theorem structStrict_eq_fam (se : StructErr E) (env : CEnv P O T V E) (c : CCfg P O T V) (v : V) :
    structStrict env c v = famStrict se .struct env c (structIn v) := rfl

/-- ZodStruct through the family: the six entry points agree on a struct value unless the validator's error is the one
    the rewrite is keyed on. -/
theorem c09_fam_struct_six_partial (env : CEnv P O T V E) (se : StructErr E) (c : CCfg P O T V) (v : V)
    (h : ∀ e, Cpx.parse env c (structIn v) = .err e → se.looksLikeTypeErr e = false) :
    (famSix se .struct env c (structIn v)).s = (famSix se .struct env c (structIn v)).p ∧
    (famSix se .struct env c (structIn v)).ms = (famSix se .struct env c (structIn v)).mp :=
  let h' := c09_six_agree (fun y => (famParse se .struct env c y).toExcept) (fun y => (famStrict se .struct env c y).toExcept) (structIn v)
    (by show (Cpx.strictParse env c (structIn v)).toExcept = (structParse env se c (structIn v)).toExcept
        rw [← c09_struct_partial env se c v h]; rfl)
  ⟨h'.1, h'.2.2.1⟩

example : (famSix ({ looksLikeTypeErr := fun _ => false, rewritten := 99, conversionErr := 98 } : StructErr Nat) .viaParse lEnv
    { i := { pv := some 30, ptrSchema := true } } nilPtrIn).ms = .returned (.ptr 30) := by decide
example : (famSix ({ looksLikeTypeErr := fun _ => false, rewritten := 99, conversionErr := 98 } : StructErr Nat) .file lEnv
    { i := { nonOptional := true } } nilPtrIn).mp = .panicked 2 := by decide

end Fam
end Gozod.C09
