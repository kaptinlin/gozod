/-
  C01 — Enum / Literal: membership as the code computes it (Go `==` on interface values, `GoEq.enumAccepts`,
  which the driver executes) holds exactly when the input is one of the listed values (`GoEq.OneOf`, the
  documented meaning, written independently); the driver's spec oracle (`GoEq.specOneOf`) decides that meaning.
-/
import Gozod.Model.GoEq
namespace Gozod.C01
open Gozod.GoEq

theorem floatEq_iff (x y : F) : floatEq x y = true ↔ sameNumber x y := by
  cases x <;> cases y <;> simp [floatEq, F.cmp, sameNumber]

theorem sameNumberB_iff (x y : F) : sameNumberB x y = true ↔ sameNumber x y := by
  cases x <;> cases y <;> simp [sameNumberB, sameNumber]

/-- Go's `==` on two interface values is "same Go type and same value". -/
theorem goEq_iff (a b : GoVal) : goEq a b = true ↔ SameValue a b := by
  cases a <;> cases b <;> simp [goEq, SameValue, floatEq_iff]

theorem sameValueB_iff (a b : GoVal) : sameValueB a b = true ↔ SameValue a b := by
  cases a <;> cases b <;> simp [sameValueB, SameValue, sameNumberB_iff]

theorem sameValue_ty_eq {a b : GoVal} (h : SameValue a b) : a.ty = b.ty := by
  -- same kind: `SameValue` starts with the equation of the type names; different kinds: it is `False`
  cases a <;> cases b <;> first | exact h.1 | exact h.elim

/-- C01, Enum / Literal: the schema's membership test accepts exactly the inputs that are one of the listed
    values — same dynamic Go type and same value; a NaN is no value (never accepted, even when listed), +0 and −0 are
    the same number, a value of a named type is not a value of its underlying type. -/
theorem c01_enum_iff (members : List GoVal) (x : GoVal) : enumAccepts members x = true ↔ OneOf members x := by
  simp only [enumAccepts, List.any_eq_true, OneOf, goEq_iff]

theorem specOneOf_eq_any (members : List GoVal) (x : GoVal) :
    specOneOf members x = members.any (sameValueB · x) := by
  induction members with
  | nil => rfl
  | cons m ms ih => simp only [specOneOf, List.any_cons, ih]

/-- The driver's spec oracle decides the documented meaning. -/
theorem c01_enum_spec_iff (members : List GoVal) (x : GoVal) : specOneOf members x = true ↔ OneOf members x := by
  simp only [specOneOf_eq_any, List.any_eq_true, OneOf, sameValueB_iff]

/-- Model and spec oracle agree on every member list and input (so a disagreement in the run is the implementation's). -/
theorem c01_enum_model_eq_spec (members : List GoVal) (x : GoVal) : enumAccepts members x = specOneOf members x := by
  rw [Bool.eq_iff_iff, c01_enum_iff, c01_enum_spec_iff]

theorem c01_enum_nan (members : List GoVal) (t : String) : enumAccepts members (.float t .nan) = false := by
  rw [Bool.eq_false_iff]; intro h
  obtain ⟨m, _, hs⟩ := (c01_enum_iff members _).mp h
  cases m <;> simp [SameValue, sameNumber] at hs

/-- A value of another dynamic type is never accepted (`int64(1)` against `Enum(1)`, `MyString("a")` against `Enum("a")`). -/
theorem c01_enum_other_type (members : List GoVal) (x : GoVal) (h : ∀ m ∈ members, m.ty ≠ x.ty) :
    enumAccepts members x = false := by
  rw [Bool.eq_false_iff]; intro ha
  obtain ⟨m, hm, hs⟩ := (c01_enum_iff members x).mp ha
  exact h m hm (sameValue_ty_eq hs)

example : enumAccepts [.int "int" 1, .int "int" 2] (.int "int64" 1) = false := by decide
example : enumAccepts [.float "float64" (.fin 0 3)] (.float "float64" (.fin (-0) 7)) = true ∧
    enumAccepts [.float "float64" (.fin 5 1)] (.float "float64" (.fin 10 2)) = true := by decide  -- +0 listed, −0 given; 2.5 = 10/4
example : enumAccepts [.str "string" [97]] (.str "main.myStr" [97]) = false := by decide
example : OneOf [.int "int" 1] (.int "int" 1) := ⟨_, List.mem_cons_self .., rfl, rfl⟩

end Gozod.C01
