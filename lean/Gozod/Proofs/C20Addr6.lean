/-
  C20 — the definitions `Fmt.ipv6` and `Fmt.cidrv6` (RFC 4291) as automata on their explicit state `V6St`.

  The steps are given as equations, one per phase and kind of byte (`gV_*`); both the shape of the definition
  (Proofs/C20V6Hex.lean) and the simulation of the Go parser (Proofs/C20Netip6.lean) go through them.  Phase 5, the dotted quad,
  is the IPv4 automaton (`sim5`); in phase 3 the automaton also reads the group as a decimal octet, as the IPv4 automaton
  started at the group would (`OInv`, `VOk`).  `Fmt.cidrv6` is the instance `cidr6` of `Cidr` over it.
-/
import Gozod.Proofs.C20Addr4
import Gozod.Model.FormatSpecV6
namespace Gozod.C20
open Gozod Gozod.Fmt

def gV : Option V6St → Nat → Option V6St
  | none, _ => none
  | some q, c => if c = 58 ∨ c = 46 ∨ isHex c = true then ipv6Step q c else none
def accV : Option V6St → Bool
  | none => false
  | some q => ipv6Acc q
def runV (o : Option V6St) (s : List Nat) : Bool := accV (s.foldl gV o)

theorem runV_none (s : List Nat) : runV none s = false := congrArg accV (foldl_none (fun _ => rfl) s)
theorem runV_cons (o : Option V6St) (c : Nat) (s : List Nat) : runV o (c :: s) = runV (gV o c) s := rfl

theorem gV_spec (o : Option V6St) (c : Nat) : Fmt.ipv6.gstep o c = gV o c := by
  cases o with
  | none => rfl
  | some q => exact Fmt.ipv6.gstep_some_of (by simp only [ipv6, ipv6Support, elem_cons_iff, hexDigits_elem]) q

theorem runV_spec (s : List Nat) : Fmt.ipv6.run s = runV (some ⟨0, 0, 0, 0, 0, 0⟩) s :=
  Fmt.ipv6.runFrom_congr gV_spec (fun o => by cases o <;> rfl) _ s

theorem isHex_ne {c : Nat} (hx : isHex c = true) : c ≠ 58 ∧ c ≠ 46 ∧ c ≠ 37 := by
  have := (isHex_iff c).1 hx
  omega

theorem gV_other {c : Nat} (h58 : c ≠ 58) (h46 : c ≠ 46) (hx : ¬ isHex c = true) (o : Option V6St) : gV o c = none := by
  cases o with
  | none => rfl
  | some q => exact if_neg (not_or.2 ⟨h58, not_or.2 ⟨h46, hx⟩⟩)

theorem gV_start {c : Nat} (hx : isHex c = true) (ph g ell n v k : Nat) (hph : ph = 0 ∨ ph = 4 ∨ (ph = 2 ∧ g ≤ 6)) :
    gV (some ⟨ph, g, ell, n, v, k⟩) c
      = some ⟨3, g, ell, 1, if quadMayStart g ell = true then octAcc 0 0 c else 256, k⟩ := by
  obtain ⟨h58, h46, _⟩ := isHex_ne hx
  simp only [gV, hx, or_true, if_true, ipv6Step, ipv6StepG, h58, h46, if_false, V6St.start, Bool.true_and]
  rcases hph with rfl | rfl | ⟨rfl, hg⟩
  · rfl
  · rfl
  · simp only [Nat.reduceEqDiff, or_self, ↓reduceIte, hg]

theorem gV_hex3 {c : Nat} (hx : isHex c = true) (g ell n v k : Nat) :
    gV (some ⟨3, g, ell, n, v, k⟩) c
      = if n < 4 then some ⟨3, g, ell, n + 1, if quadMayStart g ell = true then octAcc n v c else 256, k⟩ else none := by
  obtain ⟨h58, h46, _⟩ := isHex_ne hx
  simp only [gV, hx, or_true, ipv6Step, ipv6StepG, h58, h46, Nat.reduceEqDiff, or_self, ↓reduceIte, Bool.true_and]

theorem gV_dot3 (g ell n v k : Nat) :
    gV (some ⟨3, g, ell, n, v, k⟩) 46 = if v ≤ 255 then some ⟨5, 0, 0, 0, 0, 1⟩ else none := by
  show (if (3 : Nat) = 3 ∧ v ≤ 255 then _ else _) = _
  simp only [true_and]

theorem gV_colon3 (g ell n v k : Nat) :
    gV (some ⟨3, g, ell, n, v, k⟩) 58
      = if (ell = 0 ∧ g + 1 ≤ 7) ∨ (ell = 1 ∧ g + 1 ≤ 6) then some ⟨4, g + 1, ell, 0, 0, 0⟩ else none := rfl

theorem gV_colon4 (g ell n v k : Nat) :
    gV (some ⟨4, g, ell, n, v, k⟩) 58 = if ell = 0 then some ⟨2, g, 1, n, v, k⟩ else none := rfl

theorem gV_colon0 (g ell n v k : Nat) : gV (some ⟨0, g, ell, n, v, k⟩) 58 = some ⟨1, g, ell, n, v, k⟩ := rfl

theorem gV_ph1 {c : Nat} (h58 : c ≠ 58) (g ell n v k : Nat) : gV (some ⟨1, g, ell, n, v, k⟩) c = none := by
  simp only [gV, ipv6Step, ipv6StepG, h58, Nat.reduceEqDiff, false_and, or_self, ↓reduceIte, ite_self]
theorem gV_colon2 (g ell n v k : Nat) : gV (some ⟨2, g, ell, n, v, k⟩) 58 = none := rfl

theorem gV_dot_head (ph g ell n v k : Nat) (h3 : ph ≠ 3) (h5 : ph ≠ 5) : gV (some ⟨ph, g, ell, n, v, k⟩) 46 = none := by
  simp only [gV, ipv6Step, ipv6StepG, h3, h5, Nat.reduceEqDiff, true_or, or_true, false_and, ↓reduceIte]

/-- seven groups and a "::": no room for another group -/
theorem gV_full (ell n v k c : Nat) : gV (some ⟨2, 7, ell, n, v, k⟩) c = none := by
  simp only [gV, ipv6Step, ipv6StepG, Nat.reduceEqDiff, Nat.reduceLeDiff, false_and, or_self, ↓reduceIte, ite_self]

def quadSt (d : DotSt) : V6St := ⟨5, 0, 0, d.n, d.v, d.k⟩

theorem gV_quad (o : Option DotSt) (c : Nat) : gV (o.map quadSt) c = (g4 o c).map quadSt := by
  cases o with
  | none => rfl
  | some d =>
    by_cases h46 : c = 46
    · subst h46
      rw [g4_dot]
      show (if d.n ≥ 1 ∧ d.k < 3 then _ else _) = _
      split <;> rfl
    · by_cases hd : isDigit c = true
      · have hx : isHex c = true := isHex_of_isDigit hd
        rw [g4_digit hd]
        simp only [Option.map_some, quadSt, gV, hx, or_true, if_true, ipv6Step, ipv6StepG, h46, if_false, V6St.digit, DotSt.digit, hd,
          Bool.not_true, Bool.false_eq_true]
        repeat' split
        all_goals rfl
      · rw [g4_other h46 hd]
        show (if c = 58 ∨ c = 46 ∨ isHex c = true then ipv6StepG true (quadSt d) c else none) = none
        simp only [ipv6StepG, quadSt, if_true, h46, if_false, V6St.digit, Bool.eq_false_iff.2 hd, Bool.not_false, ite_self]

theorem accV_quad (o : Option DotSt) : accV (o.map quadSt) = acc4 o := by
  cases o with
  | none => rfl
  | some d => simp [accV, acc4, ipv6Acc, quadSt]

theorem sim5 : ∀ (r : List Nat) (n v k : Nat), runV (some ⟨5, 0, 0, n, v, k⟩) r = run4 (some ⟨k, n, v⟩) r :=
  fun r n v k =>
    (congrArg accV (List.foldl_hom (Option.map quadSt) (l := r) (init := some ⟨k, n, v⟩) gV_quad)).trans (accV_quad _)

/-- `h` (the hex digits of the current group) read by the IPv4 automaton from its start state, against the automaton's accumulator `v` -/
def OInv (h : List Nat) (n v : Nat) : Prop :=
  n = h.length ∧ n ≥ 1 ∧ (v ≤ 255 ∨ v = 256) ∧ h.foldl g4 (some ⟨0, 0, 0⟩) = (if v ≤ 255 then some ⟨0, n, v⟩ else none)

/-- one more hex digit: `octAcc` follows the IPv4 automaton (256: it has refused) -/
theorem oct_acc (h : List Nat) (n v c : Nat) (hx : isHex c = true) (hv : v ≤ 255 ∨ (v = 256 ∧ n ≠ 0))
    (hf : h.foldl g4 (some ⟨0, 0, 0⟩) = if v ≤ 255 then some ⟨0, n, v⟩ else none) :
    (octAcc n v c ≤ 255 ∨ octAcc n v c = 256) ∧
      (h ++ [c]).foldl g4 (some ⟨0, 0, 0⟩) = if octAcc n v c ≤ 255 then some ⟨0, n + 1, octAcc n v c⟩ else none := by
  rw [List.foldl_append, hf, List.foldl_cons, List.foldl_nil]
  unfold octAcc
  by_cases hd : isDigit c = true
  · have hr := (isDigit_iff c).1 hd
    simp only [hd, Bool.not_true, Bool.false_eq_true, if_false]
    by_cases hv255 : v ≤ 255
    · rw [if_pos hv255, g4_digit hd, DotSt.digit]
      by_cases hn : n = 0
      · simp only [hn, if_true]
        have : c - 48 ≤ 255 := by omega
        simp [this]
      · by_cases hv0 : v = 0
        · simp [hn, hv0]
        · have hv6 : ¬ v = 256 := by omega
          simp only [hn, hv0, hv6, or_self, if_false]
          by_cases hle : v * 10 + (c - 48) ≤ 255 <;> simp [hle]
    · have hv6 : v = 256 ∧ n ≠ 0 := by omega
      have : v = 0 ∨ v = 256 := Or.inr hv6.1
      simp [hv255, hv6.2, this, g4]
  · have h46 : c ≠ 46 := (isHex_ne hx).2.1
    simp only [Bool.eq_false_iff.2 hd, Bool.not_false, if_true]
    rw [g4_other h46 hd]
    simp

theorem oct_start (c : Nat) (hx : isHex c = true) : OInv [c] 1 (octAcc 0 0 c) :=
  ⟨rfl, Nat.le_refl 1, oct_acc [] 0 0 c hx (Or.inl (by omega)) rfl⟩

theorem oct_step (h : List Nat) (n v c : Nat) (hx : isHex c = true) (hi : OInv h n v) : OInv (h ++ [c]) (n + 1) (octAcc n v c) := by
  obtain ⟨h1, h2, h3, h4⟩ := hi
  exact ⟨by simp [h1], by omega, oct_acc h n v c hx (by omega) h4⟩

/-- the automaton's accumulator for the group `h` read so far -/
def VOk (g ell : Nat) (h : List Nat) (n v : Nat) : Prop :=
  if quadMayStart g ell = true then OInv h n v else (v = 256 ∧ n = h.length ∧ n ≥ 1)

theorem VOk_step {g ell : Nat} {h : List Nat} {n v c : Nat} (hx : isHex c = true)
    (hv : (n = 0 ∧ v = 0 ∧ h = []) ∨ VOk g ell h n v) :
    VOk g ell (h ++ [c]) (n + 1) (if quadMayStart g ell = true then octAcc n v c else 256) := by
  unfold VOk at hv ⊢
  by_cases hq : quadMayStart g ell = true
  · rw [if_pos hq] at hv ⊢
    rw [if_pos hq]
    rcases hv with ⟨rfl, rfl, rfl⟩ | hv
    · exact oct_start c hx
    · exact oct_step h n v c hx hv
  · rw [if_neg hq] at hv ⊢
    rw [if_neg hq]
    rcases hv with ⟨rfl, rfl, rfl⟩ | hv
    · exact ⟨rfl, rfl, Nat.le_refl 1⟩
    · exact ⟨rfl, by simp [hv.2.1], by omega⟩

/-- the counterparts of `ipv4A`, `cidrA` (C20Addr4.lean) -/
def vA : Aut V6St := Aut.ofO gV accV
def wA : Aut V6St := Fmt.cidrv6.aut

theorem runV_aut (q : V6St) (s : List Nat) : runV (some q) s = vA.run q s := Aut.run_ofO (fun _ => rfl) rfl s q

theorem wA_step (q : V6St) (c : Nat) :
    wA.step q c = if c = 47 ∨ c = 58 ∨ c = 46 ∨ isHex c = true then cidrv6Step q c else none :=
  Fmt.cidrv6.gstep_some_of (by simp only [cidrv6, ipv6Support, elem_cons_iff, hexDigits_elem]) q

theorem wA_ph6 (n v c : Nat) :
    wA.step ⟨6, 0, 0, n, v, 0⟩ c = ((Dec 128).step (n, v) c).map fun p => ⟨6, 0, 0, p.1, p.2, 0⟩ := by
  rw [wA_step, Dec.step_eq]
  by_cases hd : isDigit c = true
  · have hx : isHex c = true := isHex_of_isDigit hd
    simp only [hx, or_true, if_true, cidrv6Step, cidrv6StepG, V6St.digit, hd, Bool.not_true, Bool.false_eq_true, if_false,
      apply_ite (Option.map _), Option.map_some, Option.map_none]
  · rw [if_neg hd]
    show (if c = 47 ∨ c = 58 ∨ c = 46 ∨ isHex c = true then cidrv6StepG true ⟨6, 0, 0, n, v, 0⟩ c else none) = none
    simp only [cidrv6StepG, if_true, V6St.digit, Bool.eq_false_iff.2 hd, Bool.not_false, ite_self]

/-- a step of the address automaton never enters the prefix-length phase: in every branch the new phase is a literal 1–5 or the old one -/
theorem ipv6Step_ph {q q' : V6St} {c : Nat} (hq : q.ph ≠ 6) (h : ipv6Step q c = some q') : q'.ph ≠ 6 := by
  have lit : ∀ {q' : V6St} (k : Nat), q'.ph = k → k ≠ 6 → AllSome (fun q' : V6St => q'.ph ≠ 6) (some q') := fun _ e h => .some (e ▸ h)
  have same : ∀ {q' : V6St}, q'.ph = q.ph → AllSome (fun q' : V6St => q'.ph ≠ 6) (some q') := fun e => .some (e ▸ hq)
  refine (?_ : AllSome (fun q' : V6St => q'.ph ≠ 6) (ipv6Step q c)) q' h
  unfold ipv6Step ipv6StepG V6St.start V6St.digit
  -- the dotted quad; ':'; '.'; a hex digit
  refine .ite (fun _ => .ite (fun _ => .ite (fun _ => same rfl) .none)
      (.ite (fun _ => .none) (.ite (fun _ => same rfl) (.ite (fun _ => .none) (.ite (fun _ => same rfl) .none))))) ?_
  refine .ite (fun _ => .ite (fun _ => lit 1 rfl (by decide)) (.ite (fun _ => lit 2 rfl (by decide))
      (.ite (fun _ => .ite (fun _ => lit 4 rfl (by decide)) .none) (.ite (fun _ => .ite (fun _ => lit 2 rfl (by decide)) .none) .none)))) ?_
  refine .ite (fun _ => .ite (fun _ => lit 5 rfl (by decide)) .none) (.ite (fun _ => ?_) .none)
  exact .ite (fun _ => lit 3 rfl (by decide)) (.ite (fun _ => .ite (fun _ => lit 3 rfl (by decide)) .none)
    (.ite (fun _ => .ite (fun _ => same rfl) .none) .none))

theorem cidr6 : Cidr wA vA (fun q => q.ph ≠ 6) (fun n v => ⟨6, 0, 0, n, v, 0⟩) 128 where
  A_slash q := (gV_other (c := 47) (by decide) (by decide) (by decide) (some q) : gV (some q) 47 = none)
  X_addr q c hq h47 := by
    rw [wA_step]
    show _ = if _ then ipv6Step q c else none
    simp only [h47, false_or, cidrv6Step, cidrv6StepG, if_neg hq, if_false]
    rfl
  addr_step q c q' hq h := by
    have h' : gV (some q) c = some q' := h
    rw [gV] at h'
    split at h'
    · exact ipv6Step_ph hq h'
    · cases h'
  X_slash q hq := by
    rw [wA_step]
    show cidrv6StepG true q 47 = _
    simp only [cidrv6StepG, if_neg hq, if_true]
    rfl
  acc_addr q hq := by show (decide (q.ph = 6) && decide (q.n ≥ 1)) = false; simp [hq]
  pfx_step := wA_ph6
  pfx_acc n v := by show (decide ((6 : Nat) = 6) && decide (n ≥ 1)) = _; simp

theorem prefixBits128_run (b : List Nat) : Netip.prefixBits 128 b = wA.run ⟨6, 0, 0, 0, 0, 0⟩ b :=
  cidr6.prefixBits_run (by decide) b

theorem cidr6_split : ∀ (s : List Nat) (q : V6St), q.ph ≠ 6 →
    wA.run q s = match Netip.cutLastSlash s with
      | some (a, b) => vA.run q a && Netip.prefixBits 128 b
      | none => false :=
  cidr6.split (by decide)

/-- `cidr6_split` from the start state, between the two definitions -/
theorem cidrv6_split (s : List Nat) : cidrv6.run s = match Netip.cutLastSlash s with
    | some (a, b) => ipv6.run a && Netip.prefixBits 128 b
    | none => false := by
  rw [Fmt.cidrv6.run_aut, show Fmt.cidrv6.aut.run cidrv6.init s = wA.run ⟨0, 0, 0, 0, 0, 0⟩ s from rfl, cidr6_split s _ (by decide)]
  simp only [runV_spec, runV_aut]

end Gozod.C20
