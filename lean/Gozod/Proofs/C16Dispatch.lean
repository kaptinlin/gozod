/-
  C16, tie by translation: the tables regenerated from `pkg/validate/validate.go`,
  `internal/checks/numeric.go`, `types/integer.go` and `types/float.go`
  (`Gozod.Gen.NumDispatch`, written by `harness/numgen` on every run) against the hand model
  `Gozod.Model.Num`.

  What is translated (switches, guards with their constants evaluated by go/constant, `Lt/Lte/Gt/Gte`) is shown
  to be the model's; the text of `MultipleOf` and the frames around the translated parts are fingerprinted.
-/
import Gozod.Gen.NumDispatch
import Gozod.Proofs.C16

namespace Gozod.C16D
open Gozod Gozod.Coerce Gozod.Dispatch Gozod.Gen.NumDispatch

def lookupNum (ty : String) : List NumCase → Option NumCase
  | [] => none
  | c :: cs => if c.ty = ty then some c else lookupNum ty cs

def expectNum (t : IntTy) : NumCase :=
  { ty := IntTy.goName t,
    kind := if t.signed then "numInt" else "numUint",
    field := if t.signed then "i" else "u",
    conv := match t with
      | .i64 | .u64 => ""
      | t => if t.signed then "int64" else "uint64" }

/-- `toNum` holds every integer type in the 64-bit payload of its own signedness (so
    `Num.ofInt` is what the code builds), widening only; float32 is widened to float64. -/
theorem toNum_table :
    (∀ t : IntTy, lookupNum (IntTy.goName t) toNum = some (expectNum t)) ∧
    lookupNum "float32" toNum = some { ty := "float32", kind := "numFloat", field := "f", conv := "float64" } ∧
    lookupNum "float64" toNum = some { ty := "float64", kind := "numFloat", field := "f", conv := "" } := by
  refine ⟨fun t => by cases t <;> decide, by decide, by decide⟩

/-- Every clause of `toNum` is one of the twelve kinds of the property, or `uintptr` (declared
    outside: no schema type has it). -/
theorem toNum_types_known :
    ∀ c ∈ toNum, c.ty ∈ ["int", "int8", "int16", "int32", "int64", "uint", "uint8", "uint16", "uint32", "uint64",
      "float32", "float64", "uintptr"] := by decide +kernel

def isF : Num → Bool
  | .f _ => true
  | _ => false

/-- `armCond`, `armBody`: the patterns are the regenerated texts of `compareNumeric`'s arms; any other text is `none`,
    so an edited arm makes `compareNumeric_table` fail. -/
def armCond (c : String) (a b : Num) : Option Bool :=
  match c with
  | "a.kind == numFloat && b.kind == numFloat" => some (isF a && isF b)
  | "a.kind == numFloat" => some (isF a)
  | "b.kind == numFloat" => some (isF b)
  | "default" => some true
  | _ => none

def armBody (s : String) (a b : Num) : Option (Option Ordering) :=
  match s, a, b with
  | "return cmpFloats(a.f, b.f)", .f x, .f y => some (F.cmp x y)
  | "c, ok := cmpIntFloat(b, a.f); return -c, ok", .f x, n => some ((cmpIntFloat n x).map Ordering.flip)
  | "return cmpIntFloat(a, b.f)", n, .f y => some (cmpIntFloat n y)
  | "return cmpInts(a, b), true", a, b => some (some (cmpInts a b))
  | _, _, _ => none

/-- First arm whose condition holds, like Go's `switch { case … }` (not `Arms.runArms` of C16Arms). -/
def runArms : List (String × String) → Num → Num → Option (Option Ordering)
  | [], _, _ => none
  | (c, s) :: rest, a, b =>
    match armCond c a b with
    | some true => armBody s a b
    | some false => runArms rest a b
    | none => none

/-- `compareNumeric`'s switch is the model's `cmpNum`: which pair of payload kinds goes to
    `cmpFloats`, `cmpIntFloat` (with which operand order and sign flip) or `cmpInts`. -/
theorem compareNumeric_table (a b : Num) : runArms compareNumeric a b = some (cmpNum a b) := by
  cases a <;> cases b <;> simp [compareNumeric, runArms, armCond, armBody, isF, cmpNum]

def nullEnv : Env := ⟨fun _ => none, fun _ => none, fun _ => [], fun _ => []⟩

def ordOf (c : Int) : Ordering := if c < 0 then .lt else if c > 0 then .gt else .eq

/-- The regenerated guards of `cmpIntFloat`, and, when none fires, the comparison with
    `math.Trunc(f)` and the tie-break on the fractional part (`cmpWithTrunc`, from the frame).
    The list is run with the result `.fall`, which evaluates to `.ok (.str [])`, a value no guard returns: that is
    how "no guard fired" is recognised. -/
def runIntFloat (n : Num) (x : F) : Option (Option Ordering) :=
  let gs := cmpIntFloat_pre ++ (match n with
    | .u _ => cmpIntFloat_uint
    | _ => cmpIntFloat_int)
  match runGuards nullEnv (.f64 x) gs .fall, n, x with
  | some (.ok (.int c)), _, _ => some (some (ordOf c))
  | some (.error _), _, _ => some none
  | some (.ok (.str _)), .u v, .fin a k => some (some (cmpWithTrunc v (F.truncInt a k) a k))
  | some (.ok (.str _)), .i v, .fin a k => some (some (cmpWithTrunc v (F.truncInt a k) a k))
  | _, _, _ => none

theorem guards_uint_fin (a : Int) (k : Nat) :
    runGuards nullEnv (.f64 (.fin a k)) (cmpIntFloat_pre ++ cmpIntFloat_uint) .fall =
      if a < 0 then some (.ok (.int 1)) else if F.truncInt a k ≥ 2 ^ 64 then some (.ok (.int (-1)))
      else some (.ok (.str [])) := by
  show (if Rel.holds .lt (some (compare (a * 2 ^ 0) (0 * 2 ^ k))) = true then _
    else if Rel.holds .ge (some (compare (F.truncInt a k * 2 ^ 0) (18446744073709551616 * 2 ^ 0))) = true then _ else _) = _
  rw [holds_compare, holds_compare]
  simp only [Int.pow_zero, Int.mul_one, Int.zero_mul, decide_eq_true_eq]
  rfl

theorem guards_int_fin (a : Int) (k : Nat) :
    runGuards nullEnv (.f64 (.fin a k)) (cmpIntFloat_pre ++ cmpIntFloat_int) .fall =
      if F.truncInt a k ≥ 2 ^ 63 then some (.ok (.int (-1))) else if F.truncInt a k < -(2 ^ 63) then some (.ok (.int 1))
      else some (.ok (.str [])) := by
  show (if Rel.holds .ge (some (compare (F.truncInt a k * 2 ^ 0) (9223372036854775808 * 2 ^ 0))) = true then _
    else if Rel.holds .lt (some (compare (F.truncInt a k * 2 ^ 0) (-9223372036854775808 * 2 ^ 0))) = true then _ else _) = _
  rw [holds_compare, holds_compare]
  simp only [Int.pow_zero, Int.mul_one, decide_eq_true_eq]
  rfl

theorem cmpIntFloat_table (n : Num) (x : F) (hn : C16.isInt n = true) :
    runIntFloat n x = some (Gozod.cmpIntFloat n x) := by
  cases n with
  | f y => cases hn
  | u v =>
    cases x with
    | fin a k =>
      unfold runIntFloat Gozod.cmpIntFloat
      simp only [guards_uint_fin]
      by_cases h1 : a < 0
      · simp only [h1, ↓reduceIte]; rfl
      · by_cases h2 : F.truncInt a k ≥ 2 ^ 64
        · simp only [h1, h2, ↓reduceIte]; rfl
        · simp only [h1, h2, ↓reduceIte]
    | _ => rfl
  | i v =>
    cases x with
    | fin a k =>
      unfold runIntFloat Gozod.cmpIntFloat
      simp only [guards_int_fin]
      by_cases h1 : F.truncInt a k ≥ 2 ^ 63
      · simp only [h1, ↓reduceIte]; rfl
      · by_cases h2 : F.truncInt a k < -(2 ^ 63)
        · simp only [h1, h2, ↓reduceIte]; rfl
        · simp only [h1, h2, ↓reduceIte]
    | _ => rfl

def opName : CmpOp → String
  | .lt => "Lt" | .lte => "Lte" | .gt => "Gt" | .gte => "Gte"

/-- `validate.Lt/Lte/Gt/Gte` test the sign of `compareNumeric`'s result exactly as the model's
    `CmpOp.ofOrdering` (so a `<` turned into `<=` changes this obligation). -/
theorem cmpOps_table (op : CmpOp) (o : Ordering) :
    (cmpOps.lookup (opName op)).map (fun r => r.holds (some o)) = some (op.ofOrdering o) := by
  cases op <;> cases o <;> decide

theorem c16_cmp_table (op : CmpOp) (v b : Num) (hv : C16.Num.wf v) (hb : C16.Num.wf b) :
    (match runArms compareNumeric v b, cmpOps.lookup (opName op) with
      | some (some o), some r => r.holds (some o)
      | _, _ => false) = specCmp op v b := by
  have hops := cmpOps_table op
  rw [compareNumeric_table, ← C16.c16_cmp op v b hv hb]
  unfold implCmp
  cases hr : cmpOps.lookup (opName op) with
  | none => rw [hr] at hops; cases hops .eq
  | some r =>
    rw [hr] at hops
    cases cmpNum v b with
    | none => rfl
    | some o => exact Option.some.inj (hops o)

/-- `validate.Positive(value)` is `Gt(value, 0)`: the VALUE is passed unchanged (`.param 0`), the bound is the
    constant 0 — an edit such as `Gt(value+1, 0)` turns the first entry into `.raw` and fails this. -/
theorem sign_ops : signOps = [
  ("Positive", "Gt", [.param 0, .lit 0]),
  ("Negative", "Lt", [.param 0, .lit 0]),
  ("NonPositive", "Lte", [.param 0, .lit 0]),
  ("NonNegative", "Gte", [.param 0, .lit 0])
] := by decide +kernel

theorem check_ctors : checkCtors = [
  ("Lt", "validate.Lt(payload.Value(), value)", []),
  ("Lte", "validate.Lte(payload.Value(), value)", []),
  ("Gt", "validate.Gt(payload.Value(), value)", []),
  ("Gte", "validate.Gte(payload.Value(), value)", []),
  ("MultipleOf", "validate.MultipleOf(payload.Value(), divisor)", []),
  ("Positive", "Gt", [.lit 0, .rest]),
  ("Negative", "Lt", [.lit 0, .rest]),
  ("NonPositive", "Lte", [.lit 0, .rest]),
  ("NonNegative", "Gte", [.lit 0, .rest])
] := by decide +kernel

/-- The IEEE bit patterns of `float64(1e-10)`, `float64(1e-6)`: the literals of `NumFloat.c1em10` / `c1em6`. -/
theorem multipleOf_consts : MultipleOf_consts = [("1e-10", 4457293557087583675), ("1e-6", 4517329193108106637)] := by decide

/- The bodies of `cmpFloats`, `cmpInts`, `multipleOfInts` have no text fingerprint (their frames below only say that
   nothing stands outside the switch): they are interpreted clause by clause in Proofs/C16Arms.lean, so a re-spelling
   that keeps the meaning raises no alarm. -/
theorem frames :
    Gen.NumDispatch.compareNumeric_frame =
      "if !reflectx.IsNumeric(value) || !reflectx.IsNumeric(limit) { return 0, false }; a, okA := toNum(value); b, okB := toNum(limit); if !okA || !okB { if isBig(value) || isBig(limit) { if c, ok, done := cmpBig(value, limit); done { return c, ok } } x, y, ok := toFloat64Pair(value, limit) if !ok { return 0, false } return cmpFloats(x, y) }; «switch»" ∧
    Gen.NumDispatch.cmpFloats_frame =
      "«switch»" ∧
    Gen.NumDispatch.cmpInts_frame =
      "«switch»" ∧
    Gen.NumDispatch.multipleOfInts_frame =
      "«switch»" ∧
    Gen.NumDispatch.cmpIntFloat_uintCmp =
      "c = cmp.Compare(n.u, uint64(t))" ∧
    Gen.NumDispatch.cmpIntFloat_intCmp =
      "c = cmp.Compare(n.i, int64(t))" ∧
    Gen.NumDispatch.cmpIntFloat_frame =
      "const two63, two64 = 9223372036854775808.0, 18446744073709551616.0; «nan/inf switch»; t := math.Trunc(f); var c int; «if n.kind == numUint {guards; c = cmp.Compare(n.u, uint64(t))} else {guards; c = cmp.Compare(n.i, int64(t))}»; if c != 0 { return c, true }; return cmp.Compare(t, f), true" ∧
    Gen.NumDispatch.MultipleOf_text =
      "if !reflectx.IsNumeric(value) || !reflectx.IsNumeric(divisor) { return false }; if a, ok := toNum(value); ok && a.kind != numFloat { if b, ok := toNum(divisor); ok && b.kind != numFloat { return multipleOfInts(a, b) } }; if isBig(value) || isBig(divisor) { if x, ok := toBig(value); ok { if y, ok := toBig(divisor); ok { return y.Sign() != 0 && new(big.Int).Rem(x, y).Sign() == 0 } } }; val, div, ok := toFloat64Pair(value, divisor); if !ok || div == 0 { return false }; epsilon := max(1e-10, math.Abs(div)*1e-6); remainder := math.Abs(math.Mod(val, div)); return remainder < epsilon || math.Abs(remainder-math.Abs(div)) < epsilon" := by
  refine ⟨rfl, rfl, rfl, rfl, rfl, rfl, rfl, rfl⟩

/-- Resolve a schema method to the `validate` calls it ends in, with the literal bound (or `none`
    = the method's own argument). `checks.X` goes through `checkCtors` (a forwarding constructor
    such as `checks.Positive` through its target), a bare name is another method of the schema.
    A table row is (method, type of its bound parameter, steps); a step is (is it a `checks.` constructor?, its
    name, the argument it is given).  The fuels 3 and 4 bound the forwarding depth; the tables need 2 (`Positive → Gt`,
    `Safe → Gte`), and a deeper chain makes `methods_table` fail, not pass. -/
def resolveCtor (fuel : Nat) (name : String) (arg : Option Int) : Option (String × Option Int) :=
  match fuel with
  | 0 => none
  | fuel + 1 =>
    match checkCtors.lookup name with
    | some (call, []) => some (call, arg)
    | some (fwd, [.lit lit, .rest]) => resolveCtor fuel fwd (some lit)        -- `return Gt(0, params...)`
    | some (fwd, [.param 0, .rest]) => resolveCtor fuel fwd arg               -- a pure forwarder
    | _ => none

def resolve (tbl : List (String × String × List (Bool × String × Arg))) (fuel : Nat) (m : String) (arg : Option Int) :
    Option (List (String × Option Int)) :=
  match fuel with
  | 0 => none
  | fuel + 1 =>
    match tbl.lookup m with
    | none => none
    | some (_, chain) =>
      chain.foldr (fun (step : Bool × String × Arg) acc => do
        let rest ← acc
        -- the bound handed on: the method's own first parameter UNCHANGED, or an integer constant;
        -- any other expression (`value+1`, `-value`, a second parameter, …) has no meaning here
        let a ← match step.2.2 with
          | .lit l => some (some l)
          | .param 0 => some arg
          | _ => none
        if step.1 then
          let r ← resolveCtor 3 step.2.1 a
          pure (r :: rest)
        else
          let rs ← resolve tbl fuel step.2.1 a
          pure (rs ++ rest)) (some [])

def documented : List (String × List (String × Option Int)) := [
  ("Min", [("validate.Gte(payload.Value(), value)", none)]),
  ("Max", [("validate.Lte(payload.Value(), value)", none)]),
  ("Gt", [("validate.Gt(payload.Value(), value)", none)]),
  ("Gte", [("validate.Gte(payload.Value(), value)", none)]),
  ("Lt", [("validate.Lt(payload.Value(), value)", none)]),
  ("Lte", [("validate.Lte(payload.Value(), value)", none)]),
  ("Positive", [("validate.Gt(payload.Value(), value)", some 0)]),
  ("Negative", [("validate.Lt(payload.Value(), value)", some 0)]),
  ("NonNegative", [("validate.Gte(payload.Value(), value)", some 0)]),
  ("NonPositive", [("validate.Lte(payload.Value(), value)", some 0)]),
  ("MultipleOf", [("validate.MultipleOf(payload.Value(), divisor)", none)]),
  ("Step", [("validate.MultipleOf(payload.Value(), divisor)", none)]),
  ("Safe", [("validate.Gte(payload.Value(), value)", some (-(2 ^ 53 - 1))), ("validate.Lte(payload.Value(), value)", some (2 ^ 53 - 1))])]

/-- Every numeric method of the integer and of the float schemas ends in the `validate`
    function, and with the literal bound, that its documentation states (`documented`); the bound
    parameter is an `int64` for the integer schemas and a `float64` for the float schemas. -/
theorem methods_table :
    (∀ d ∈ documented, resolve integerMethods 4 d.1 none = some d.2 ∧ resolve floatMethods 4 d.1 none = some d.2) ∧
    (∀ m ∈ integerMethods, m.2.1 = "int64" ∨ m.2.1 = "") ∧ (∀ m ∈ floatMethods, m.2.1 = "float64" ∨ m.2.1 = "") ∧
    integerMethods.length = documented.length ∧ floatMethods.length = documented.length := by
  decide +kernel

end Gozod.C16D
