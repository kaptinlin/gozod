/-
  C08 — schemas are immutable values: deriving a schema never changes an existing one.

  Store model: `Gozod.Model.Store`, op classes `Store.Op` extended by `StoreC08.XOp` (`refilter`: Clone with a re-made
  check slice; `access`: an existing schema handed out).  The theorems are about `applyOp` / `applyXOp` with
  `cfg.cloneBagAlways = true`: /repo HEAD, whose `Internals.Clone` always copies the Bag (/repo 97c97c3; `Store.fixed`).
  `Store.today` is, its name notwithstanding, the code BEFORE that commit (Bag cloned only when non-empty); for it the
  step statement is false: `today_partial_mutates_receiver` (`Record(Enum("a","b"), String()).Partial()`).

  Idea: every piece of a chaining call (`Clone` field by field, `append`, `withInternals`, a Bag store) writes nothing
  below the allocation pointer the CALL started from (`Keeps n`), so the call is a fresh step and
  `Proofs/C08Frame.lean` does the rest.

  Op class `metaSelf` is LEGACY: until /repo 6ba76b8 `Meta()` on the 28 non-string types was
  `GlobalRegistry.Add(z, meta); return z` — it returned the receiver and rewrote its registry entry.  Since that commit
  Meta() clones like Describe() (op `derive` with a registry value) and no method of the library performs `metaSelf`
  (`table_all_covered` in `Proofs/C08Methods.lean`), hence the hypothesis `Op.isMetaSelf = false` of `c08_step`;
  `metaSelf_violates` / `metaSelf_changes_receiver` are about the legacy behaviour.
-/
import Gozod.Proofs.C08Frame
import Gozod.Proofs.Basics
import Gozod.Model.StoreC08

namespace Gozod.C08
open Gozod.Store Gozod.StoreC08

theorem cloneChecks_spec {n : Nat} {σ σ' : Store} {hd hd' : Hdr} (h : cloneChecks σ hd = (σ', hd')) (hn : n ≤ σ.next)
    (hl : hd.loc < σ.next) (hcap : hd.len = 0 → hd.cap = 0) :
    Keeps n σ σ' ∧ hd'.loc < σ'.next ∧ hd'.len = hd'.cap := by
  unfold cloneChecks at h
  split at h <;> cases h
  · exact ⟨.alloc hn fun _ => trivial, Nat.lt_succ_self _, rfl⟩
  · next h0 =>
    have h0 : hd.len = 0 := Nat.eq_zero_of_not_pos h0
    exact ⟨.refl _ _, hl, h0.trans (hcap h0).symm⟩

theorem cloneValues_spec {n : Nat} {σ σ' : Store} {v v' : Option Loc} (h : cloneValues σ v = (σ', v')) (hn : n ≤ σ.next)
    (hl : Below σ.next (optLoc v)) : Keeps n σ σ' ∧ Below σ'.next (optLoc v') := by
  unfold cloneValues at h
  split at h
  · cases h; exact ⟨.refl _ _, hl⟩
  · split at h
    · split at h <;> cases h
      · exact ⟨.refl _ _, hl⟩
      · exact ⟨.alloc hn fun _ => trivial, forall_optLoc_some.2 (Nat.lt_succ_self _)⟩
    · cases h; exact ⟨.refl _ _, hl⟩

/-- The repaired `Clone` gives the copy its own Bag whenever the receiver has one. -/
theorem cloneBag_spec {n : Nat} {σ σ' : Store} {b b' : Option Loc} (h : cloneBag true σ b = (σ', b')) (hn : n ≤ σ.next)
    (hl : Below σ.next (optLoc b)) :
    Keeps n σ σ' ∧ Below σ'.next (optLoc b') ∧ ∀ l kv, b' = some l → σ'.heap l = some (.bag kv) → σ.next ≤ l := by
  unfold cloneBag at h
  split at h
  · cases h; exact ⟨.refl _ _, hl, nofun⟩
  · next l =>
    split at h <;> cases h
    · next kv hh =>
      exact ⟨.alloc hn fun hc => cellOk_mono _ (hc l _ hh) (Nat.le_succ _), forall_optLoc_some.2 (Nat.lt_succ_self _),
        fun _ _ e _ => Nat.le_of_eq (Option.some.inj e)⟩
    · next hne => exact ⟨.refl _ _, hl, fun _ kv e hb => absurd (Option.some.inj e ▸ hb) (hne kv)⟩

/-- `hfresh`: spare capacity is only ever used in an array the call allocated itself -/
theorem appendOne_spec {g : Nat → Nat} {n x : Nat} {σ σ' : Store} {hd hd' : Hdr} (h : appendOne g σ hd x = (σ', hd'))
    (hn : n ≤ σ.next) (hl : hd.loc < σ.next) (hfresh : hd.len < hd.cap → n ≤ hd.loc) (hc0 : hd.len = 0 → hd.cap = 0) :
    Keeps n σ σ' ∧ hd'.loc < σ'.next ∧ (hd'.len < hd'.cap → n ≤ hd'.loc) ∧ (hd'.len = 0 → hd'.cap = 0) := by
  unfold appendOne at h
  split at h
  · next hlt =>
    split at h <;> cases h
    · exact ⟨.write (hfresh hlt) fun _ => trivial, hl, fun _ => hfresh hlt, nofun⟩
    · exact ⟨.refl _ _, hl, hfresh, hc0⟩
  · cases h
    exact ⟨.alloc hn fun _ => trivial, Nat.lt_succ_self _, fun _ => hn, nofun⟩

theorem appendAll_spec (g : Nat → Nat) (n : Nat) (xs : List Nat) : ∀ (σ : Store) (hd : Hdr), n ≤ σ.next →
    hd.loc < σ.next → (hd.len < hd.cap → n ≤ hd.loc) → (hd.len = 0 → hd.cap = 0) →
    Keeps n σ (appendAll g σ hd xs).1 ∧ (appendAll g σ hd xs).2.loc < (appendAll g σ hd xs).1.next ∧
    ((appendAll g σ hd xs).2.len = 0 → (appendAll g σ hd xs).2.cap = 0) := by
  induction xs with
  | nil => intro σ hd _ hl _ hc; exact ⟨.refl _ _, hl, hc⟩
  | cons x xs ih =>
    intro σ hd hn hl hf hc
    obtain ⟨t1, l1, f1, c1⟩ := appendOne_spec (σ' := (appendOne g σ hd x).1) (hd' := (appendOne g σ hd x).2) rfl hn hl hf hc
    obtain ⟨t2, l2, c2⟩ := ih _ _ (Nat.le_trans hn t1.le) l1 f1 c1
    exact ⟨t1.trans t2, l2, c2⟩

/-- `Below m (direct s)` (`dirOk_iff`) with a name for each reference field: the `*_spec` proofs replace one field at a time -/
structure DirOk (m : Nat) (s : Schema) : Prop where
  self : s.self < m
  checks : s.checks.loc < m
  bag : ∀ l ∈ optLoc s.bag, l < m
  values : ∀ l ∈ optLoc s.values, l < m
  shape : ∀ l ∈ optLoc s.shape, l < m
  dflt : ∀ l ∈ dfltLocs s.dflt, l < m

theorem dirOk_iff {m : Nat} {s : Schema} : DirOk m s ↔ Below m (direct s) :=
  ⟨fun h => forall_direct.2 ⟨h.self, h.checks, h.bag, h.values, h.shape, h.dflt⟩,
   fun h => let ⟨a, b, c, d, e, f⟩ := forall_direct.1 h; ⟨a, b, c, d, e, f⟩⟩

theorem DirOk.mono {m k : Nat} {s : Schema} (h : DirOk m s) (hk : m ≤ k) : DirOk k s :=
  dirOk_iff.2 (Below.mono (dirOk_iff.1 h) hk)

theorem clone_spec (cfg : Cfg) (hcfg : cfg.cloneBagAlways = true) (n : Nat) (σ : Store) (s : Schema)
    (hn : n ≤ σ.next) (hd : DirOk σ.next s) (hcap : s.checks.len = 0 → s.checks.cap = 0) :
    Keeps n σ (clone cfg σ s).1 ∧ DirOk (clone cfg σ s).1.next (clone cfg σ s).2 ∧
    (clone cfg σ s).2.checks.len = (clone cfg σ s).2.checks.cap ∧
    (∀ l kv, (clone cfg σ s).2.bag = some l → (clone cfg σ s).1.heap l = some (.bag kv) → σ.next ≤ l) := by
  rcases h1 : cloneChecks σ s.checks with ⟨σ1, ch⟩
  rcases h2 : cloneValues σ1 s.values with ⟨σ2, vs⟩
  rcases h3 : cloneBag true σ2 s.bag with ⟨σ3, bg⟩
  obtain ⟨t1, l1, c1⟩ := cloneChecks_spec h1 hn hd.checks hcap
  obtain ⟨t2, l2⟩ := cloneValues_spec h2 (Nat.le_trans hn t1.le) (Below.mono hd.values t1.le)
  have t12 := t1.trans t2
  obtain ⟨t3, l3, f3⟩ := cloneBag_spec h3 (Nat.le_trans hn t12.le) (Below.mono hd.bag t12.le)
  have d := hd.mono (t12.trans t3).le
  simp only [clone, hcfg, h1, h2, h3]
  exact ⟨t12.trans t3, ⟨d.self, Nat.lt_of_lt_of_le l1 (t2.trans t3).le, l3, Below.mono l2 t3.le, d.shape, d.dflt⟩, c1,
    fun l kv e hb => Nat.le_trans t12.le (f3 l kv e hb)⟩

theorem bagStore_spec {n k v : Nat} {σ σ' : Store} {b b' : Option Loc} (h : bagStore σ b k (.num v) = (σ', b'))
    (hn : n ≤ σ.next) (hl : Below σ.next (optLoc b)) (hfresh : ∀ l kv, b = some l → σ.heap l = some (.bag kv) → n ≤ l) :
    Keeps n σ σ' ∧ Below σ'.next (optLoc b') := by
  unfold bagStore at h
  split at h
  · cases h
    refine ⟨.alloc hn fun _ p hp => ?_, forall_optLoc_some.2 (Nat.lt_succ_self _)⟩
    rw [List.mem_singleton.1 hp]; nofun
  · next l =>
    split at h <;> cases h
    · next kv hh =>
      refine ⟨.write (hfresh l kv rfl hh) fun hc p hp => ?_, hl⟩
      -- an entry of `bagSet kv k (num v)` is the new scalar or an entry of `kv`
      rcases Assoc.mem_set (bagSet_eq_set ▸ hp) with rfl | hp
      · nofun
      · exact hc l _ hh p hp
    · exact ⟨.refl _ _, hl⟩

theorem optAlloc_spec {n : Nat} {σ σ' : Store} {w : Bool} {c : Cell} {o : Option Loc} (h : optAlloc σ w c = (σ', o))
    (hn : n ≤ σ.next) (hok : cellOk (σ.next + 1) c) : Keeps n σ σ' ∧ Below σ'.next (optLoc o) := by
  unfold optAlloc at h
  split at h <;> cases h
  · exact ⟨.alloc hn fun _ => hok, forall_optLoc_some.2 (Nat.lt_succ_self _)⟩
  · exact ⟨.refl _ _, nofun⟩

abbrev MadeS := Made WfS Schema.self

theorem made_of_keeps {σ σ' : Store} {r : Schema} (t : Keeps σ.next σ σ') (hc : BagClosed σ) (hd : DirOk σ'.next r)
    (hcap : r.checks.len = 0 → r.checks.cap = 0) (hs : σ.next ≤ r.self) : MadeS σ (σ', r) :=
  ⟨t.1, t.2 hc, wfs_of_direct _ (t.2 hc) _ (dirOk_iff.1 hd) hcap, hs⟩

/-- the last step of every cloning method: `withInternals` on internals `s` prepared in `σ1` -/
theorem withInternals_made {σ σ1 : Store} (recv s : Schema) (m : Option Nat) (t : Keeps σ.next σ σ1) (hc : BagClosed σ)
    (hd : DirOk σ1.next s) (hcap : s.checks.len = 0 → s.checks.cap = 0) : MadeS σ (withInternals σ1 recv s m) :=
  have d := hd.mono (Nat.le_succ σ1.next)
  made_of_keeps (t.trans (.alloc t.le fun _ => trivial)) hc
    ⟨Nat.lt_succ_self _, d.checks, d.bag, d.values, d.shape, d.dflt⟩ hcap t.le

def _root_.Gozod.Store.Op.ok : Op → Prop
  | .rebuild _ _ cks cap _ _ _ => cks = [] → cap = 0      -- constructors build `[]ZodCheck{}`: no spare capacity
  | _ => True

instance (op : Op) : Decidable (Op.ok op) := by
  cases op <;> simp only [Op.ok] <;> infer_instance

theorem applyOp_spec (cfg : Cfg) (hcfg : cfg.cloneBagAlways = true) (σ : Store) (recv : Schema) (op : Op)
    (hc : BagClosed σ) (hw : WfS σ recv) (hok : op.ok) (hm : op.isMetaSelf = false) : MadeS σ (applyOp cfg σ recv op) := by
  have hd := dirOk_iff.2 hw.direct
  have hclone := clone_spec cfg hcfg σ.next σ recv (Nat.le_refl _) hd hw.2
  cases op with
  | metaSelf m => cases hm
  | copyMeta m => exact withInternals_made recv recv (some m) (.refl _ _) hc hd hw.2
  | derive fl cks m =>
    rcases h1 : clone cfg σ recv with ⟨σ1, c⟩
    obtain ⟨t1, d1, c1, _⟩ := h1 ▸ hclone
    rcases h2 : appendAll cfg.grow σ1 c.checks cks with ⟨σ2, hd2⟩
    obtain ⟨t2, l2, c2⟩ := h2 ▸ appendAll_spec cfg.grow σ.next cks σ1 c.checks t1.le d1.checks
      (fun h => absurd h (c1 ▸ Nat.lt_irrefl _)) (fun h => c1 ▸ h)
    have d := d1.mono t2.le
    simp only [applyOp, h1, h2]
    exact withInternals_made recv _ m (t1.trans t2) hc ⟨d.self, l2, d.bag, d.values, d.shape, d.dflt⟩ c2
  | bagWrite k v =>
    rcases h1 : clone cfg σ recv with ⟨σ1, c⟩
    obtain ⟨t1, d1, c1, f1⟩ := h1 ▸ hclone
    rcases h2 : bagStore σ1 c.bag k (.num v) with ⟨σ2, b⟩
    obtain ⟨t2, l2⟩ := bagStore_spec h2 t1.le d1.bag f1
    have d := d1.mono t2.le
    simp only [applyOp, h1, h2]
    exact withInternals_made recv _ none (t1.trans t2) hc ⟨d.self, d.checks, l2, d.values, d.shape, d.dflt⟩
      (fun h => c1 ▸ h)
  | rebuild kind fl cks cap wb wv ws =>
    have t1 : Keeps σ.next σ (alloc σ (.arr (cks ++ List.replicate (cap - cks.length) 0))).1 :=
      .alloc (Nat.le_refl _) fun _ => trivial
    rcases h2 : optAlloc (alloc σ (.arr (cks ++ List.replicate (cap - cks.length) 0))).1 wb (.bag []) with ⟨σ2, b⟩
    rcases h3 : optAlloc σ2 wv (.vals []) with ⟨σ3, v⟩
    rcases h4 : optAlloc σ3 ws (.shape []) with ⟨σ4, sh⟩
    obtain ⟨t2, l2⟩ := optAlloc_spec h2 t1.le nofun
    obtain ⟨t3, l3⟩ := optAlloc_spec h3 (t1.trans t2).le trivial
    obtain ⟨t4, l4⟩ := optAlloc_spec h4 (t1.trans (t2.trans t3)).le trivial
    have t14 := t1.trans (t2.trans (t3.trans t4))
    simp only [applyOp, h2, h3, h4]
    have up : ∀ {ls : List Loc}, Below σ4.next ls → Below (σ4.next + 1) ls := fun h => h.mono (Nat.le_succ _)
    refine made_of_keeps (t14.trans (.alloc t14.le fun _ => trivial)) hc ?_ ?_ t14.le
    · exact ⟨Nat.lt_succ_self _, Nat.lt_succ_of_lt (Nat.lt_of_lt_of_le (Nat.lt_succ_self _) (t2.trans (t3.trans t4)).le),
        up (l2.mono (t3.trans t4).le), up (l3.mono t4.le), up l4, nofun⟩
    · show cks.length = 0 → max cap cks.length = 0
      intro h; rw [h, hok (List.length_eq_zero_iff.1 h)]; rfl

def _root_.Gozod.StoreC08.XOp.ok : XOp → Prop
  | .base op => Op.ok op ∧ op.isMetaSelf = false
  | .refilter _ kept spare _ => kept = [] → spare = 0      -- `make([]ZodCheck, 0, len(cs))` of an EMPTY slice has cap 0
  | .access => True

instance (x : XOp) : Decidable x.ok := by
  cases x <;> simp only [XOp.ok] <;> infer_instance

theorem applyRefilter_spec (cfg : Cfg) (hcfg : cfg.cloneBagAlways = true) (σ : Store) (recv : Schema)
    (fl : Nat) (kept : List Nat) (spare : Nat) (m : Option Nat) (hc : BagClosed σ) (hw : WfS σ recv)
    (hk : kept = [] → spare = 0) : MadeS σ (applyRefilter cfg σ recv fl kept spare m) := by
  rcases h1 : clone cfg σ recv with ⟨σ1, c⟩
  obtain ⟨t1, d1, _, _⟩ := h1 ▸ clone_spec cfg hcfg σ.next σ recv (Nat.le_refl _) (dirOk_iff.2 hw.direct) hw.2
  have t2 : Keeps σ.next σ1 (alloc σ1 (.arr (kept ++ List.replicate spare 0))).1 := .alloc t1.le fun _ => trivial
  have d := d1.mono t2.le
  simp only [applyRefilter, h1]
  refine withInternals_made recv _ m (t1.trans t2) hc ⟨d.self, Nat.lt_succ_self _, d.bag, d.values, d.shape, d.dflt⟩
    fun h => ?_
  rw [List.length_eq_zero_iff.1 h, hk (List.length_eq_zero_iff.1 h)]; rfl

theorem applyXOp_spec (cfg : Cfg) (hcfg : cfg.cloneBagAlways = true) (σ : Store) (recv : Schema) (x : XOp)
    (hc : BagClosed σ) (hw : WfS σ recv) (hok : x.ok) :
    ExtFrom σ.next σ (applyXOp cfg σ recv x).1 ∧ BagClosed (applyXOp cfg σ recv x).1 ∧
    WfS (applyXOp cfg σ recv x).1 (applyXOp cfg σ recv x).2 ∧
    (x.chains = true → σ.next ≤ (applyXOp cfg σ recv x).2.self) := by
  cases x with
  | base op =>
    obtain ⟨a, b, c, d⟩ := applyOp_spec cfg hcfg σ recv op hc hw hok.1 hok.2
    exact ⟨a, b, c, fun _ => d⟩
  | refilter fl kept spare m =>
    obtain ⟨a, b, c, d⟩ := applyRefilter_spec cfg hcfg σ recv fl kept spare m hc hw hok
    exact ⟨a, b, c, fun _ => d⟩
  | access => exact ⟨ExtFrom.refl _ _, hc, hw, nofun⟩

/-- State invariant of a history.  With the repaired `Clone` no operation writes a location that existed before the
    call, so no sharing discipline beyond "an empty check slice has no spare capacity" is needed. -/
structure Inv (σ : Store) (live : List Schema) : Prop where
  closed : BagClosed σ
  wf : ∀ s ∈ live, WfS σ s

/-- C08 for one call of an extended op: every live schema is observed as before; a chaining result (not an accessor's) is new -/
def XStepOK (cfg : Cfg) (σ : Store) (live : List Schema) (recv : Schema) (x : XOp) : Prop :=
  (x.chains = true → ∀ s ∈ live, (applyXOp cfg σ recv x).2.self ≠ s.self) ∧
  (∀ s ∈ live, obs (applyXOp cfg σ recv x).1.heap s = obs σ.heap s)

theorem c08x_step (cfg : Cfg) (hcfg : cfg.cloneBagAlways = true) (σ : Store) (live : List Schema)
    (recv : Schema) (x : XOp) (hi : Inv σ live) (hr : recv ∈ live) (hok : x.ok) :
    Inv (applyXOp cfg σ recv x).1 (live ++ [(applyXOp cfg σ recv x).2]) ∧ XStepOK cfg σ live recv x := by
  obtain ⟨he, hc, hw, hs⟩ := applyXOp_spec cfg hcfg σ recv x hi.closed (hi.wf recv hr) hok
  obtain ⟨hl, ho⟩ := framedS.step hi.wf he hw
  exact ⟨⟨hc, hl⟩, fun hch => framedS.new hi.wf (hs hch), ho⟩

def runXHist (cfg : Cfg) : Store → List Schema → List (Nat × XOp) → Store × List Schema
  | σ, live, [] => (σ, live)
  | σ, live, (i, x) :: rest =>
    match live[i]? with
    | none => runXHist cfg σ live rest
    | some recv =>
      let r := applyXOp cfg σ recv x
      runXHist cfg r.1 (live ++ [r.2]) rest

def xopsOK (ops : List (Nat × XOp)) : Prop := ∀ p ∈ ops, p.2.ok

/-- nothing is promised of a schema a history adds: an accessor re-lists an old one -/
abbrev anyNew : Nat → Schema → Prop := fun _ _ => True

theorem chain_applyOp {cfg : Cfg} (hcfg : cfg.cloneBagAlways = true) {σ σ'' : Store} {live live'' : List Schema}
    {recv : Schema} (x : XOp) (hr : recv ∈ live) (hok : x.ok)
    (t : Chain WfS anyNew (applyXOp cfg σ recv x).1 (live ++ [(applyXOp cfg σ recv x).2]) σ'' live'') :
    Chain WfS anyNew σ live σ'' live'' :=
  .one (fun hc hw =>
    have h := applyXOp_spec cfg hcfg σ recv x hc (hw recv hr) hok
    ⟨h.1, h.2.1, h.2.2.1, trivial⟩) t

/-- Every history runner is a recursion of its own and gets this proof once more: `runObjHist_chain`, `runHHist_chain`;
    `runHT_chain`, `runHO_chain` with a `Chain.store` case for conversions; `runH_chain` rewrites them away by `c12_pure`. -/
theorem runXHist_chain (cfg : Cfg) (hcfg : cfg.cloneBagAlways = true) : ∀ (ops : List (Nat × XOp)) (σ : Store)
    (live : List Schema), xopsOK ops → Chain WfS anyNew σ live (runXHist cfg σ live ops).1 (runXHist cfg σ live ops).2
  | [], _, _, _ => .nil
  | (i, x) :: rest, σ, live, hok => by
    have ih := fun σ live => runXHist_chain cfg hcfg rest σ live fun q hq => hok q (List.mem_cons_of_mem _ hq)
    unfold runXHist
    cases hl : live[i]? with
    | none => exact ih σ live
    | some recv => exact chain_applyOp hcfg x (List.mem_of_getElem? hl) (hok _ List.mem_cons_self) (ih _ _)

theorem hist_of_chain {σ σ' : Store} {live live' : List Schema} (h : Chain WfS anyNew σ live σ' live') (hi : Inv σ live) :
    Inv σ' live' ∧ live <+: live' ∧ ∀ s ∈ live, obs σ'.heap s = obs σ.heap s :=
  have ⟨h1, ⟨extra, h2, _⟩, _, h4⟩ := h.frame framedS (fun _ h => h) hi.closed hi.wf
  ⟨⟨h1.1, h1.2⟩, ⟨extra, h2⟩, h4⟩

theorem c08x_hist (cfg : Cfg) (hcfg : cfg.cloneBagAlways = true) (ops : List (Nat × XOp)) :
    ∀ (σ : Store) (live : List Schema), Inv σ live → xopsOK ops →
    Inv (runXHist cfg σ live ops).1 (runXHist cfg σ live ops).2 ∧
    live <+: (runXHist cfg σ live ops).2 ∧
    ∀ s ∈ live, obs (runXHist cfg σ live ops).1.heap s = obs σ.heap s :=
  fun σ live hi hok => hist_of_chain (runXHist_chain cfg hcfg ops σ live hok) hi

theorem runXHist_append (cfg : Cfg) : ∀ (a b : List (Nat × XOp)) (σ : Store) (live : List Schema),
    runXHist cfg σ live (a ++ b) = runXHist cfg (runXHist cfg σ live a).1 (runXHist cfg σ live a).2 b
  | [], _, _, _ => rfl
  | (i, x) :: rest, b, σ, live => by
    simp only [List.cons_append, runXHist]
    cases live[i]? with
    | none => exact runXHist_append cfg rest b σ live
    | some recv => exact runXHist_append cfg rest b _ _

theorem c08x_hist_all (cfg : Cfg) (hcfg : cfg.cloneBagAlways = true) (a b : List (Nat × XOp))
    (σ : Store) (live : List Schema) (hi : Inv σ live) (ha : xopsOK a) (hb : xopsOK b) :
    ∀ s ∈ (runXHist cfg σ live a).2,
      obs (runXHist cfg σ live (a ++ b)).1.heap s = obs (runXHist cfg σ live a).1.heap s := by
  rw [runXHist_append]
  exact (c08x_hist cfg hcfg b _ _ (c08x_hist cfg hcfg a σ live hi ha).1 hb).2.2

/-- C08 for one call: the result is distinct from every live schema, and every live schema (receiver, ancestors, siblings)
    is observed as before. -/
def StepOK (cfg : Cfg) (σ : Store) (live : List Schema) (recv : Schema) (op : Op) : Prop :=
  (∀ s ∈ live, (applyOp cfg σ recv op).2.self ≠ s.self) ∧
  (∀ s ∈ live, obs (applyOp cfg σ recv op).1.heap s = obs σ.heap s)

def c08_full (cfg : Cfg) : Prop :=
  ∀ σ live recv op, Inv σ live → recv ∈ live → Op.ok op → StepOK cfg σ live recv op

/-- one call of any op class the code has (`Op.isMetaSelf = false` excludes only the legacy class: what `Meta()` did
    before /repo 6ba76b8). -/
theorem c08_step (cfg : Cfg) (hcfg : cfg.cloneBagAlways = true) (σ : Store) (live : List Schema)
    (recv : Schema) (op : Op) (hi : Inv σ live) (hr : recv ∈ live) (hok : Op.ok op)
    (hm : op.isMetaSelf = false) :
    Inv (applyOp cfg σ recv op).1 (live ++ [(applyOp cfg σ recv op).2]) ∧ StepOK cfg σ live recv op :=
  have h := c08x_step cfg hcfg σ live recv (.base op) hi hr ⟨hok, hm⟩
  ⟨h.1, h.2.1 rfl, h.2.2⟩

def c08_full_code (cfg : Cfg) : Prop :=
  ∀ σ live recv op, Inv σ live → recv ∈ live → Op.ok op → op.isMetaSelf = false → StepOK cfg σ live recv op

/-- `c08_full_code`, NOT `c08_full`, which also quantifies over `metaSelf` and is refuted by `metaSelf_violates`. -/
theorem c08_full_holds (cfg : Cfg) (hcfg : cfg.cloneBagAlways = true) : c08_full_code cfg :=
  fun σ live recv op hi hr hok hm => (c08_step cfg hcfg σ live recv op hi hr hok hm).2

def opsOK (ops : List (Nat × Op)) : Prop := ∀ p ∈ ops, Op.ok p.2 ∧ p.2.isMetaSelf = false

def baseOps (ops : List (Nat × Op)) : List (Nat × XOp) := ops.map fun p => (p.1, .base p.2)

theorem runHist_eq (cfg : Cfg) : ∀ (ops : List (Nat × Op)) (σ : Store) (live : List Schema),
    runHist cfg σ live ops = runXHist cfg σ live (baseOps ops)
  | [], _, _ => rfl
  | (i, op) :: rest, σ, live => by
    simp only [runHist, baseOps, List.map_cons, runXHist]
    cases live[i]? with
    | none => exact runHist_eq cfg rest σ live
    | some recv => exact runHist_eq cfg rest _ _

theorem baseOps_ok {ops : List (Nat × Op)} (h : opsOK ops) : xopsOK (baseOps ops) := fun p hp => by
  obtain ⟨q, hq, rfl⟩ := List.mem_map.1 hp
  exact h q hq

/-- along every history (any receivers, any sibling fan-out, any length, any growth rule of
    `append`) every schema that was live at the start is observed unchanged at the end, and the live list
    only grows. -/
theorem c08_hist (cfg : Cfg) (hcfg : cfg.cloneBagAlways = true) (ops : List (Nat × Op)) :
    ∀ (σ : Store) (live : List Schema), Inv σ live → opsOK ops →
    Inv (runHist cfg σ live ops).1 (runHist cfg σ live ops).2 ∧
    live <+: (runHist cfg σ live ops).2 ∧
    ∀ s ∈ live, obs (runHist cfg σ live ops).1.heap s = obs σ.heap s := by
  intro σ live hi hok
  rw [runHist_eq]
  exact c08x_hist cfg hcfg _ σ live hi (baseOps_ok hok)

/-- "…and every schema previously derived from it": whatever was live after any prefix of the history is
    unchanged by the rest of it. -/
theorem c08_hist_all (cfg : Cfg) (hcfg : cfg.cloneBagAlways = true) (a b : List (Nat × Op))
    (σ : Store) (live : List Schema) (hi : Inv σ live) (ha : opsOK a) (hb : opsOK b) :
    ∀ s ∈ (runHist cfg σ live a).2,
      obs (runHist cfg σ live (a ++ b)).1.heap s = obs (runHist cfg σ live a).1.heap s := by
  simp only [runHist_eq, baseOps, List.map_append]
  exact c08x_hist_all cfg hcfg _ _ σ live hi (baseOps_ok ha) (baseOps_ok hb)

theorem c08_fresh (cfg : Cfg) (hcfg : cfg.cloneBagAlways = true) (σ : Store) (live : List Schema)
    (recv : Schema) (op : Op) (hi : Inv σ live) (hr : recv ∈ live) (hok : Op.ok op) (hm : op.isMetaSelf = false) :
    ∀ s ∈ live, (applyOp cfg σ recv op).2.self ≠ s.self :=
  (c08_step cfg hcfg σ live recv op hi hr hok hm).2.1

def σ0 : Store := { heap := fun _ => none, next := 1 }
/-- the placeholder receiver of a constructor: every `Op` takes a receiver, `rebuild` ignores it (as in `Store.mkBase`) -/
def dummy : Schema :=
  { self := 0, kind := 0, flags := 0, checks := ⟨0, 0, 0⟩, bag := none, values := none, shape := none, dflt := none }

theorem inv0 : Inv σ0 [dummy] :=
  ⟨nofun, fun _ hs => List.mem_singleton.1 hs ▸ ⟨by decide, fun _ => rfl⟩⟩

/-- A constructor-built base schema (`Record(Enum("a","b"), String())`: empty check slice, empty non-nil Bag).
    Kind 7 is an arbitrary tag: the model only copies and compares `kind`. -/
def baseRecord : Store × Schema := applyOp fixed σ0 dummy (.rebuild 7 0 [] 0 true false false)

theorem inv_base : Inv baseRecord.1 [dummy, baseRecord.2] :=
  (c08_step fixed rfl σ0 [dummy] dummy (.rebuild 7 0 [] 0 true false false) inv0 List.mem_cons_self (fun _ => rfl) rfl).1

/-- Non-vacuity of `c08_step` / `c08_hist`: a sibling fan-out with a check chain over the base record. -/
example : opsOK [(1, .derive 0 [9] none), (1, .derive 1 [] none), (2, .derive 0 [17, 25] none), (1, .bagWrite 4 1)] := by
  simp [opsOK, Op.ok, Op.isMetaSelf]

/-- Witness for `Store.today`, the `Clone` before /repo 97c97c3: with "clone the Bag only when non-empty",
    `Record.Partial()` (op `bagWrite`) changes the receiver — the step statement is false for that code. -/
theorem today_partial_mutates_receiver :
    obs (applyOp today baseRecord.1 baseRecord.2 (.bagWrite 4 1)).1.heap baseRecord.2
      ≠ obs baseRecord.1.heap baseRecord.2 := by decide

theorem c08_today_false : ¬ c08_full today := fun h =>
  today_partial_mutates_receiver
    ((h baseRecord.1 [dummy, baseRecord.2] baseRecord.2 (.bagWrite 4 1) inv_base (by simp) trivial).2 baseRecord.2 (by simp))

/-- The repaired `Clone` on the same history leaves the receiver alone (instance of `c08_step`). -/
example : obs (applyOp fixed baseRecord.1 baseRecord.2 (.bagWrite 4 1)).1.heap baseRecord.2
      = obs baseRecord.1.heap baseRecord.2 := by decide

/-- Legacy witness (`Meta()` on non-string types before /repo 6ba76b8): the result *is* the receiver and its registry
    entry changed, so the statement quantified over ALL of `Store.Op` is false even with the repaired `Clone`; since
    that commit no method of the library is of this op class. -/
theorem metaSelf_violates : ¬ c08_full fixed := fun h =>
  (h baseRecord.1 [dummy, baseRecord.2] baseRecord.2 (.metaSelf 5) inv_base (by simp) trivial).1 baseRecord.2 (by simp) rfl

theorem metaSelf_changes_receiver :
    obs (applyOp fixed baseRecord.1 baseRecord.2 (.metaSelf 5)).1.heap baseRecord.2
      ≠ obs baseRecord.1.heap baseRecord.2 := by decide

/-- Why `WfS` demands "an empty check slice has no spare capacity": with `len = 0 < cap` two siblings derived
    from one parent write the same array cell, and the second call changes the first sibling. -/
def spareParent : Store × Schema :=
  ({ heap := upd (upd (fun _ => none) 1 (.arr [0, 0])) 2 (.reg none), next := 3 },
   { self := 2, kind := 1, flags := 0, checks := ⟨1, 0, 2⟩, bag := none, values := none, shape := none, dflt := none })

theorem spare_capacity_siblings_clobber :
    let s1 := applyOp fixed spareParent.1 spareParent.2 (.derive 0 [9] none)
    let s2 := applyOp fixed s1.1 spareParent.2 (.derive 0 [17] none)
    obs s2.1.heap s1.2 ≠ obs s1.1.heap s1.2 := by decide

/-! Type-local reference state (`PartialExceptions`, option lists; `LSchema`, `LOp`): the reference-typed fields that
  object / struct / union types keep outside `ZodTypeInternals`.  Every chaining call either copies the reference (no
  write), drops it, or points the result at a key set it allocated itself; the one excluded shape, editing the
  receiver's key set in place, changes the receiver (`exceptions_in_place_mutates_receiver`). -/

def WfL (σ : Store) (x : LSchema) : Prop := WfS σ x.s ∧ ∀ l ∈ optLoc x.exc, l < σ.next

theorem obsL_frame {σ σ' : Store} (x : LSchema) (hw : WfL σ x) (he : ExtFrom σ.next σ σ') :
    obsL σ'.heap x = obsL σ.heap x := by
  simp only [obsL, obs_frame x.s hw.1 he, readVals_frame x.exc hw.2 he]

theorem wfl_frame {σ σ' : Store} (x : LSchema) (hw : WfL σ x) (he : ExtFrom σ.next σ σ') : WfL σ' x :=
  ⟨wfs_frame x.s hw.1 he, Below.mono hw.2 he.1⟩

theorem framedL : Framed WfL obsL (·.s.self) := ⟨obsL_frame, wfl_frame, fun h => h.1.self_lt⟩

def _root_.Gozod.Store.LOp.ok (o : LOp) : Prop := Op.ok o.base ∧ o.base.isMetaSelf = false ∧ o.isInPlace = false

theorem applyLOp_spec (cfg : Cfg) (hcfg : cfg.cloneBagAlways = true) (σ : Store) (recv : LSchema) (o : LOp)
    (hc : BagClosed σ) (hw : WfL σ recv) (hok : o.ok) : Made WfL (·.s.self) σ (applyLOp cfg σ recv o) := by
  have h := applyOp_spec cfg hcfg σ recv.s o.base hc hw.1 hok.1 hok.2.1
  cases o with
  | inPlace op k => cases hok.2.2
  | share op => exact h.lift (fun he hws => ⟨hws, Below.mono hw.2 he.1⟩) rfl
  | drop op => exact h.lift (fun _ hws => ⟨hws, nofun⟩) rfl
  | keyed op ks =>
    exact (framedS.made_then h (alloc_ext _ _ (.vals ks) (Nat.le_refl _)) (bagClosed_alloc _ _ h.2.1 trivial)).lift
      (fun _ hws => ⟨hws, forall_optLoc_some.2 (Nat.lt_succ_self _)⟩) rfl

/-- a chaining call of any of the code's type-local behaviours leaves the extended observation of
    every live schema — receiver, ancestors, siblings — unchanged, and its result is a new schema. -/
theorem c08_local_step (cfg : Cfg) (hcfg : cfg.cloneBagAlways = true) (σ : Store) (live : List LSchema)
    (recv : LSchema) (o : LOp) (hc : BagClosed σ) (hl : ∀ x ∈ live, WfL σ x) (hr : recv ∈ live) (hok : o.ok) :
    (∀ x ∈ live, obsL (applyLOp cfg σ recv o).1.heap x = obsL σ.heap x) ∧
    (∀ x ∈ live, WfL (applyLOp cfg σ recv o).1 x) ∧ WfL (applyLOp cfg σ recv o).1 (applyLOp cfg σ recv o).2 ∧
    BagClosed (applyLOp cfg σ recv o).1 ∧ (∀ x ∈ live, x.s.self ≠ (applyLOp cfg σ recv o).2.s.self) := by
  obtain ⟨he, hb, hw, hs⟩ := applyLOp_spec cfg hcfg σ recv o hc (hl recv hr) hok
  exact ⟨fun x hx => obsL_frame x (hl x hx) he, fun x hx => wfl_frame x (hl x hx) he, hw, hb,
    fun x hx e => framedL.new hl hs x hx e.symm⟩

/-- `Object(shape).Partial(["a"])`-like schema: common part of `baseRecord`, key set {1, 2} at a fresh location. -/
def withExceptions : Store × LSchema :=
  applyLOp fixed baseRecord.1 ⟨baseRecord.2, none⟩ (.keyed (.derive 1 [] none) [1, 2])

example : (LOp.keyed (.derive 1 [] none) [3]).ok := ⟨trivial, rfl, rfl⟩

/-- on the code's behaviours the receiver keeps its key set (instance of `c08_local_step`) -/
example :
    obsL (applyLOp fixed withExceptions.1 withExceptions.2 (.keyed (.derive 2 [] none) [1])).1.heap withExceptions.2
      = obsL withExceptions.1.heap withExceptions.2 := by decide

/-- Witness: a call that deletes a key from the receiver's key set in place (instead of building its own)
    changes the receiver — the shape of defect the extended frame theorem excludes. -/
theorem exceptions_in_place_mutates_receiver :
    (obsL (applyLOp fixed withExceptions.1 withExceptions.2 (.inPlace (.derive 2 [] none) 1)).1.heap withExceptions.2).exc
      = some [2] ∧
    (obsL withExceptions.1.heap withExceptions.2).exc = some [1, 2] := by decide

end Gozod.C08
