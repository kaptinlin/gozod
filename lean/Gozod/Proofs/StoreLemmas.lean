/-
  Frame lemmas of the store model shared by C08 / C12 / C15: a schema's observation depends only on the
  locations it reaches; allocation and writes to fresh locations leave every older location alone.
-/
import Gozod.Model.Store
import Gozod.Proofs.Basics

namespace Gozod.Store

/-- why the bound `n` is not `σ.next`: header of Proofs/C08Frame.lean -/
def ExtFrom (n : Nat) (σ σ' : Store) : Prop :=
  σ.next ≤ σ'.next ∧ ∀ l, l < n → σ'.heap l = σ.heap l

theorem ExtFrom.refl (n : Nat) (σ : Store) : ExtFrom n σ σ := ⟨Nat.le_refl _, fun _ _ => rfl⟩

theorem ExtFrom.trans {n : Nat} {a b c : Store} (h1 : ExtFrom n a b) (h2 : ExtFrom n b c) : ExtFrom n a c :=
  ⟨Nat.le_trans h1.1 h2.1, fun l hl => by rw [h2.2 l hl, h1.2 l hl]⟩

theorem ExtFrom.mono {n m : Nat} {a b : Store} (h : ExtFrom n a b) (hm : m ≤ n) : ExtFrom m a b :=
  ⟨h.1, fun l hl => h.2 l (Nat.lt_of_lt_of_le hl hm)⟩

theorem ExtFrom.step {a b c : Store} (h1 : ExtFrom a.next a b) (h2 : ExtFrom b.next b c) : ExtFrom a.next a c :=
  h1.trans (h2.mono h1.1)

/-- The model writes `m[k] = v` out per map type (also as `StoreC08.shapeSet`, `ConvDoc.kset`); the proofs reason about
    `Assoc.set` through these bridges, so that an edit of one of the copies shows here. -/
theorem bagSet_eq_set : bagSet = Assoc.set := rfl
theorem vset_eq_set : vset = Assoc.set := rfl
theorem setKey_eq_set : setKey = Assoc.set := rfl

theorem upd_other (h : Loc → Option Cell) (l x : Loc) (c : Cell) (hx : x ≠ l) : upd h l c x = h x := by
  simp [upd, hx]

theorem upd_same (h : Loc → Option Cell) (l : Loc) (c : Cell) : upd h l c l = some c := by
  simp [upd]

theorem alloc_ext (n : Nat) (σ : Store) (c : Cell) (hn : n ≤ σ.next) : ExtFrom n σ (alloc σ c).1 :=
  ⟨Nat.le_succ _, fun _ hl => upd_other _ _ _ _ (Nat.ne_of_lt (Nat.lt_of_lt_of_le hl hn))⟩

theorem alloc_next (σ : Store) (c : Cell) : (alloc σ c).1.next = σ.next + 1 := rfl
theorem alloc_loc (σ : Store) (c : Cell) : (alloc σ c).2 = σ.next := rfl
theorem alloc_get (σ : Store) (c : Cell) : (alloc σ c).1.heap σ.next = some c := upd_same _ _ _

theorem write_ext (n : Nat) (σ : Store) (l : Loc) (c : Cell) (hl : n ≤ l) : ExtFrom n σ (write σ l c) :=
  ⟨Nat.le_refl _, fun _ hx => upd_other _ _ _ _ (Nat.ne_of_lt (Nat.lt_of_lt_of_le hx hl))⟩

abbrev Below (n : Nat) (ls : List Loc) : Prop := ∀ l ∈ ls, l < n

theorem Below.mono {n m : Nat} {ls : List Loc} (h : Below n ls) (hm : n ≤ m) : Below m ls :=
  fun l hl => Nat.lt_of_lt_of_le (h l hl) hm

theorem forall_optLoc_some {P : Loc → Prop} {l : Loc} : (∀ x ∈ optLoc (some l), P x) ↔ P l := by
  simp [optLoc]

theorem forall_direct {P : Loc → Prop} {s : Schema} : (∀ l ∈ direct s, P l) ↔
    P s.self ∧ P s.checks.loc ∧ (∀ l ∈ optLoc s.bag, P l) ∧ (∀ l ∈ optLoc s.values, P l) ∧
    (∀ l ∈ optLoc s.shape, P l) ∧ ∀ l ∈ dfltLocs s.dflt, P l := by
  simp only [direct, List.forall_mem_cons, List.forall_mem_append, and_assoc]

theorem readArr_congr {h h' : Loc → Option Cell} (hd : Hdr) (e : h' hd.loc = h hd.loc) :
    readArr h' hd = readArr h hd := by simp only [readArr, e]

theorem readBag_congr {h h' : Loc → Option Cell} (b : Option Loc) (e : ∀ l ∈ optLoc b, h' l = h l) :
    readBag h' b = readBag h b := by
  cases b with
  | none => rfl
  | some l => simp only [readBag, forall_optLoc_some.1 e]

theorem readVals_congr {h h' : Loc → Option Cell} (b : Option Loc) (e : ∀ l ∈ optLoc b, h' l = h l) :
    readVals h' b = readVals h b := by
  cases b with
  | none => rfl
  | some l => simp only [readVals, forall_optLoc_some.1 e]

theorem readShape_congr {h h' : Loc → Option Cell} (b : Option Loc) (e : ∀ l ∈ optLoc b, h' l = h l) :
    readShape h' b = readShape h b := by
  cases b with
  | none => rfl
  | some l => simp only [readShape, forall_optLoc_some.1 e]

theorem readNode_congr {h h' : Loc → Option Cell} (l : Loc) (e : h' l = h l) : readNode h' l = readNode h l := by
  simp only [readNode, e]

theorem readVals_frame {σ σ' : Store} (o : Option Loc) (hl : Below σ.next (optLoc o)) (he : ExtFrom σ.next σ σ') :
    readVals σ'.heap o = readVals σ.heap o :=
  readVals_congr o fun l h => he.2 l (hl l h)

theorem readVals_alloc (σ : Store) (c : List Nat) :
    readVals (alloc σ (.vals c)).1.heap (some (alloc σ (.vals c)).2) = some c := by
  simp only [readVals, alloc_loc, alloc_get]

theorem dfltKids_congr {h h' : Loc → Option Cell} (d : Option UVal) (e : ∀ l ∈ dfltLocs d, h' l = h l) :
    dfltKids h' d = dfltKids h d := by
  match d with
  | some (.ref l) => exact readNode_congr l (e l (List.mem_singleton_self l))
  | some (.scalar _) | none => rfl

theorem obsBagVal_congr {h h' : Loc → Option Cell} (v : BagVal) (e : ∀ l ∈ bagValLocs v, h' l = h l) :
    obsBagVal h' v = obsBagVal h v := by
  cases v with
  | num n => rfl
  | strs hd => simp only [obsBagVal, readArr_congr hd (e _ (List.mem_singleton_self _))]

theorem locs_congr {h h' : Loc → Option Cell} (s : Schema) (e : ∀ l ∈ direct s, h' l = h l) :
    locs h' s = locs h s := by
  simp only [locs, bagLocs, readBag_congr s.bag (forall_direct.1 e).2.2.1]

theorem obs_congr {h h' : Loc → Option Cell} (s : Schema) (e : ∀ l ∈ locs h s, h' l = h l) :
    obs h' s = obs h s := by
  obtain ⟨eself, echecks, ebag, evalues, eshape, edflt⟩ :=
    forall_direct.1 (fun l hl => e l (List.mem_append_left _ hl))
  have ereg : readMeta h' s.self = readMeta h s.self := by simp only [readMeta, eself]
  simp only [obs, readArr_congr s.checks echecks, readBag_congr s.bag ebag, readVals_congr s.values evalues,
    readShape_congr s.shape eshape, ereg, dfltKids_congr s.dflt edflt]
  congr 1
  -- the `[]string` values of the Bag: their arrays are the `bagLocs` part of `locs`
  cases hb : readBag h s.bag with
  | none => rfl
  | some kv =>
    refine congrArg some (List.map_congr_left fun p hp => ?_)
    rw [obsBagVal_congr p.2 fun l hl => e l (List.mem_append_right _ ?_)]
    simp only [bagLocs, hb, List.mem_flatMap]
    exact ⟨p, hp, hl⟩

/-- Well-formed (allocated) schema: everything its observation reads lies below the allocation pointer,
    and an empty check slice has no spare capacity (`Checks: []ZodCheck{}` in every constructor). -/
def WfS (σ : Store) (s : Schema) : Prop :=
  (∀ l ∈ locs σ.heap s, l < σ.next) ∧ (s.checks.len = 0 → s.checks.cap = 0)

theorem WfS.direct {σ : Store} {s : Schema} (h : WfS σ s) : Below σ.next (direct s) :=
  fun l hl => h.1 l (List.mem_append_left _ hl)

theorem WfS.self_lt {σ : Store} {s : Schema} (h : WfS σ s) : s.self < σ.next :=
  h.direct _ List.mem_cons_self

theorem obs_frame {σ σ' : Store} (s : Schema) (hw : WfS σ s) (he : ExtFrom σ.next σ σ') :
    obs σ'.heap s = obs σ.heap s :=
  obs_congr s (fun l hl => he.2 l (hw.1 l hl))

theorem wfs_frame {σ σ' : Store} (s : Schema) (hw : WfS σ s) (he : ExtFrom σ.next σ σ') : WfS σ' s := by
  refine ⟨fun l hl => ?_, hw.2⟩
  rw [locs_congr s fun l hl => he.2 l (hw.direct l hl)] at hl
  exact Nat.lt_of_lt_of_le (hw.1 l hl) he.1

/-- a Bag cell's `[]string` values point below `n`; every other cell is fine -/
def cellOk (n : Nat) : Cell → Prop
  | .bag kv => ∀ p ∈ kv, ∀ l' ∈ bagValLocs p.2, l' < n
  | _ => True

def BagClosed (σ : Store) : Prop := ∀ l c, σ.heap l = some c → cellOk σ.next c

theorem cellOk_mono {n m : Nat} (c : Cell) (h : cellOk n c) (hm : n ≤ m) : cellOk m c := by
  cases c with
  | bag kv => exact fun p hp => Below.mono (h p hp) hm
  | _ => trivial

theorem upd_cases {h : Loc → Option Cell} {l x : Loc} {c c' : Cell} (hx : upd h l c x = some c') :
    c' = c ∨ h x = some c' := by
  simp only [upd] at hx
  split at hx
  · exact .inl (Option.some.inj hx).symm
  · exact .inr hx

theorem bagClosed_alloc (σ : Store) (c : Cell) (hc : BagClosed σ) (hok : cellOk (σ.next + 1) c) :
    BagClosed (alloc σ c).1 :=
  fun l _ hl => (upd_cases hl).elim (· ▸ hok) fun h => cellOk_mono _ (hc l _ h) (Nat.le_succ _)

theorem bagClosed_write (σ : Store) (l : Loc) (c : Cell) (hc : BagClosed σ) (hok : cellOk σ.next c) :
    BagClosed (write σ l c) :=
  fun x _ hx => (upd_cases hx).elim (· ▸ hok) (hc x _)

theorem bagLocs_lt (σ : Store) (hc : BagClosed σ) (b : Option Loc) : Below σ.next (bagLocs σ.heap b) := by
  intro l hl
  cases b with
  | none => cases hl
  | some lb =>
    cases hh : σ.heap lb with
    | none => simp [bagLocs, readBag, hh] at hl
    | some c =>
      cases c with
      | bag kv =>
        simp only [bagLocs, readBag, hh, List.mem_flatMap] at hl
        obtain ⟨p, hp, hl'⟩ := hl
        exact hc lb _ hh p hp l hl'
      | _ => simp [bagLocs, readBag, hh] at hl

theorem wfs_of_direct (σ : Store) (hc : BagClosed σ) (s : Schema) (hd : Below σ.next (direct s))
    (hcap : s.checks.len = 0 → s.checks.cap = 0) : WfS σ s :=
  ⟨fun l hl => (List.mem_append.1 hl).elim (hd l) (bagLocs_lt σ hc s.bag l), hcap⟩

end Gozod.Store
