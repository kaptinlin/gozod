/-
  C04 — the static panic-site table is accounted for

`Gozod.Gen.PanicSites.sites` is REGENERATED on every run by `harness/cmd/c04gen` (sites.go, go/ast over the non-test files of
the root package, coerce/, core/, internal/, jsonschema/, locales/, pkg/, types/): every construct that can panic at run time
(assertion without comma-ok, reflect methods that panic on the wrong kind or on an invalid / nil value, stores through an
index, index and slice expressions, division, big-number division, explicit `panic`, Must* calls) with the syntactic tests
found on the same operand in an enclosing condition or in a preceding early-exit `if` of the same function.

`sites_accounted` is over the WHOLE table: every site
  * carries a guard that is ADEQUATE for its kind (`adequate`), or
  * lies in a scope whose contract covers the panic (a `defer … recover()` function, a Must* function, package initialisation), or
  * lies in jsonschema/ (ToJSONSchema / FromJSONSchema are not Parse; their OUTPUT schemas are run by the fjs stream), or
  * lies in a function listed in `outsideParse` with the reason why Parse's quantifier does not reach it, or
  * is listed in `reviewed` with a reason string.
A NEW unguarded assertion / reflect call / index in the library satisfies none of these: the theorem stops checking,
`vlib/c04.py` names the rows (file, function, operand) and the run is aimed at the schema families of those files.

NOT a proof of panic-freedom: guards are syntactic (same operand family, no data flow), a `reviewed` reason is a human
argument, and nil dereferences / conversions are not in the table. It fixes the set of unguarded sites, so that it cannot grow
silently, and tells the run where to look.
-/
import Gozod.Gen.PanicSites
namespace Gozod.C04.Sites
open Gozod.Gen.PanicSites

/-- which syntactic test counts as a guard for which kind of site. A Kind()/Type() test is NOT accepted for an assertion
    (it establishes the kind, not the dynamic type: the UnionPtr.Default((*int)(nil)) defect sat behind such a test);
    `rangedOver`, `ok`, `pred` alone are not accepted for index / store sites. -/
def adequate : Kind → Guard → Bool
  | .assert, .ok | .assert, .typeswitch => true
  | .reflectV, .kind | .reflectV, .valid | .reflectV, .nilTest | .reflectV, .pred | .reflectV, .len | .reflectV, .ranged
  | .reflectV, .typeswitch => true
  | .reflectT, .kind | .reflectT, .pred | .reflectT, .len | .reflectT, .ranged => true
  | .store, .made | .store, .ensured | .store, .nilTest | .store, .len | .store, .ranged => true
  | .index, .len | .index, .ranged => true
  | .slice, .len | .slice, .ranged => true
  | .div, .nonzero | .bigdiv, .nonzero => true
  | _, _ => false

def guarded (s : Site) : Bool := s.guards.any (adequate s.kind)

/-- recovered: the function installs `defer func(){ … recover() … }()`; must: a Must* function (contract: panics);
    initf: package initialisation (runs before any Parse). -/
def inScope (s : Site) : Bool :=
  match s.scope with
  | .plain => false
  | _ => true

def notParsePkg (s : Site) : Bool := s.notParse

def rGeneric : String :=
  "generic-constraint conversion any(x).(R): x is built for this instantiation and R ∈ {T, *T} is fixed by the constructors; NOT statically guarded (the class of the UnionPtr.Default((*int)(nil)) defect); exercised for every constructor by the typed / level2 / dflt streams"
def rSame : String :=
  "sameValue(a, b): a and b are two values of ONE type (validatePointer builds both from v : T and a non-nil ptr : *T; the recursion descends into both in step and compares Elem().Type() for interfaces), so b has the kind tested on a by the enclosing switch a.Kind(); run-covered by the typed pointer-chain stream"
def rCtor : String :=
  "Constructor closure: the asserted value is the schema just built by newZod*FromDef, whose type implements core.ZodType[any] (compile-time assertions in types/constraints_verify.go); run by every modifier call of the derived stream"

/-- `id`: FNV-1a of the name (what the proofs compare: the kernel compares numerals in one step, strings character by
    character; vlib/c04.py recomputes every id from the name next to it). -/
structure Exc where
  id : Nat
  name : String
  why : String

/-- functions outside Parse's quantifier (constructor-time, accessors, registration, user-callback schemas): `file:function`, why. -/
def outsideParse : List Exc := [
  ⟨18319982686616220532, "core/registry.go:Registry.Add", "registry API, not Parse; meta is made by NewRegistry"⟩,
  ⟨14980784390903241306, "internal/engine/types.go:AddCheck", "modifier call at construction time; every newZod*FromDef sets Constructor, the panic names a framework bug"⟩,
  ⟨15215749242447222700, "internal/engine/types.go:Clone", "modifier call at construction time; every newZod*FromDef sets Constructor, the panic names a framework bug"⟩,
  ⟨1520815196823664633, "locales/locales.go:RegisterLocale", "registration API, not Parse; DefaultLocales is a package-level map literal"⟩,
  ⟨14197261555207848059, "pkg/regex/datetimes.go:Datetime", "pattern assembled from fixed templates selected by an options struct; compiled when the Iso check is attached"⟩,
  ⟨16128761261911085031, "pkg/regex/datetimes.go:Time", "pattern assembled from fixed templates selected by an options struct; compiled when the Iso check is attached"⟩,
  ⟨2885920189991924400, "pkg/regex/ids.go:UUIDForVersion", "version is range-tested (1..8) two lines above; uuidVersionCache is a fixed package-level table"⟩,
  ⟨5134875691642414242, "pkg/regex/networks.go:MAC", "delimiter is QuoteMeta-escaped into a fixed template; macCache is a package-level made map; called when the MAC check is attached"⟩,
  ⟨9176441740324733334, "pkg/regex/primitives.go:StringRegex", "pattern built from two integers; stringCache is a package-level made map"⟩,
  ⟨3187563091821896192, "types/discriminated_union.go:DiscriminatedUnionTyped", "schema construction: an option that is not a schema is rejected when the schema is built"⟩,
  ⟨1282308722559740120, "types/function.go:ZodFunction.makeValidated", "Function().Implement(fn): wraps a user function; function schemas run user callbacks and are outside the statement"⟩,
  ⟨2064913823074537459, "types/intersection.go:IntersectionTyped", "schema construction: a side that is not a schema is rejected when the schema is built"⟩,
  ⟨18072760452728110363, "types/literal.go:ZodLiteral.Value", "accessor of the schema (documented to panic on a multi-value literal), never called by Parse"⟩,
  ⟨16840241307961996669, "types/literal.go:newZodLiteralFromDef", "schema construction: Literal(pointer) is rejected when the schema is built"⟩,
  ⟨3976691470545519970, "types/object.go:ZodObject.IsFieldOptional", "accessor used by ToJSONSchema; Shape is a map (core.ObjectSchema): a map read"⟩,
  ⟨14807065818510229920, "types/string.go:ZodString.RegexString", "schema construction: the pattern string is compiled when the check is attached (MustCompile documents the panic)"⟩,
  ⟨7364646943660340790, "types/struct.go:applyOptionalToSchema", "FromStruct tag parsing at construction time (reflective Optional() on a schema value; MethodByName result is tested with IsValid)"⟩,
  ⟨4538327764754737023, "types/struct.go:applyParameterizedRule", "FromStruct tag parsing at construction time: gozod:\"regex=…\" is compiled when the schema is built"⟩,
  ⟨12467329981146452408, "types/struct.go:createLazySchemaForType", "FromStruct tag parsing at construction time; Elem() follows Kind() tests held in bools"⟩,
  ⟨13849928069474805774, "types/struct.go:createSchemaFromTypeWithCycleDetection", "FromStruct tag parsing at construction time; Elem() follows a Kind()==Pointer test held in a bool"⟩,
  ⟨11385089308710836075, "types/struct.go:createSchemaFromTypeWithInfo", "FromStruct tag parsing at construction time"⟩,
  ⟨17475340894608873965, "types/struct.go:parseArrayDefault", "FromStruct tag parsing at construction time (default:\"[...]\" tag)"⟩,
  ⟨12980290789505935095, "types/struct.go:parseStructTagsToSchemasWithCycleDetection", "FromStruct / Struct[T]() tag parsing at construction time; visited is made by the caller"⟩,
  ⟨14360943794918902189, "types/union.go:UnionTyped", "schema construction: a union option that is not a schema is rejected when the schema is built (misuse; the statement quantifies over schemas that exist)"⟩,
  ⟨5865070315362950365, "types/xor.go:XorTyped", "schema construction: an option that is not a schema is rejected when the schema is built"⟩
]

/-- reviewed exceptions: site key (file:function:kind:operand, ×count), reason. -/
def reviewed : List Exc := [
  ⟨7035749307882052193, "internal/checks/factory.go:PrefixIssues:slice:newPath[1:]", "newPath is made with length 1+len(path) one line above"⟩,
  ⟨10254346878168250754, "internal/engine/modifiers.go:deepCloneSeen:reflectV:s.Index", "s = reflect.MakeSlice(rv.Type(), rv.Len(), rv.Cap()) and i ranges over rv.Len()"⟩,
  ⟨3714924192986881549, "internal/engine/modifiers.go:deepCloneSeen:store:seen[k]", "seen is made by the only external caller deepClone (make(map[cloneKey]reflect.Value)) and passed down"⟩,
  ⟨897133792906570018, "internal/engine/parser.go:convertNilToConstraintType:assert:any((**T)(nil)).(R)", rGeneric⟩,
  ⟨17580145392641963826, "internal/engine/parser.go:convertNilToConstraintType:assert:any((*T)(nil)).(R)", rGeneric⟩,
  ⟨6081646643772367141, "internal/engine/parser.go:convertNilToConstraintType:assert:any(t).(R)", rGeneric⟩,
  ⟨858015549627602290, "internal/engine/parser.go:convertToValue:assert:any(t).(R)", rGeneric⟩,
  ⟨14347297933569196323, "internal/engine/parser.go:convertValidatedToResult:assert:any(new(validated)).(R)", rGeneric⟩,
  ⟨16221384560326659408, "internal/engine/parser.go:convertValidatedToResult:assert:any(validated).(R)", rGeneric⟩,
  ⟨2525656333325833949, "internal/engine/parser.go:extractFromPointer:reflectV:rv.IsNil", "only caller parsePrimitiveStrictWithChecks tests reflect.TypeOf(input).Kind()==Pointer first"⟩,
  ⟨9665511777909359575, "internal/engine/parser.go:sameValue:reflectV:b.Bool", rSame⟩,
  ⟨15909413729041468113, "internal/engine/parser.go:sameValue:reflectV:b.Complex", rSame⟩,
  ⟨5369202245446932157, "internal/engine/parser.go:sameValue:reflectV:b.Field", rSame⟩,
  ⟨5675167641333190951, "internal/engine/parser.go:sameValue:reflectV:b.Float", rSame⟩,
  ⟨13238242782596656697, "internal/engine/parser.go:sameValue:reflectV:b.Index", rSame⟩,
  ⟨9353835124987723372, "internal/engine/parser.go:sameValue:reflectV:b.Int", rSame⟩,
  ⟨6539171201453462062, "internal/engine/parser.go:sameValue:reflectV:b.IsNil", rSame⟩,
  ⟨12483211244307257458, "internal/engine/parser.go:sameValue:reflectV:b.Len", rSame⟩,
  ⟨17464858775677179629, "internal/engine/parser.go:sameValue:reflectV:b.Pointer×2", rSame⟩,
  ⟨5901530174693439963, "internal/engine/parser.go:sameValue:reflectV:b.Uint", rSame⟩,
  ⟨15345583584449320247, "internal/engine/parser.go:validatePointer:reflectV:reflect.ValueOf(&v).Elem×2", "pointer to a local variable: never nil (two uses since 3302475: sameValue and sameEntries)"⟩,
  ⟨1660640290014876089, "internal/engine/parser.go:validatePointer:reflectV:reflect.ValueOf(ptr).Elem×2", "both callers return before on p == nil and dereference *p in the call; Elem of a non-nil *T is valid (two uses since 3302475)"⟩,
  ⟨16619464385031058473, "internal/engine/parser.go:sameEntries:reflectV:b.IsNil", "sameEntries(a, b): a and b are two values of ONE type (validatePointer builds both from v : T and the non-nil ptr : *T); a.Kind() == Map is tested first in the same short-circuit condition, so b is a map and IsNil is defined; run-covered by the pointer-to-map stream"⟩,
  ⟨6564284307537644925, "internal/engine/types.go:InitZodType:assert:any(schema).(core.ZodType[any])", rCtor⟩,
  ⟨73428325107682150, "internal/issues/creators.go:CreateRestParameterTooSmallError:store:raw.Properties[\"is_rest_param\"]", "CreateTooSmallIssue always returns a literal Properties map"⟩,
  ⟨341650263362698964, "internal/issues/errors.go:FlattenErrorWithMapper:index:issue.Path[0]", "else-branch of slicex.IsEmpty(issue.Path); formatting API, not Parse"⟩,
  ⟨16588158663013123304, "internal/issues/errors.go:FormatErrorWithMapper:index:curr[key]", "curr is a map (ZodFormattedError): a map read; formatting API, not Parse"⟩,
  ⟨7311770265072461944, "internal/issues/errors.go:FormatErrorWithMapper:store:currMap[\"_errors\"]", "currMap comes from a successful comma-ok assertion of a value stored two lines above; formatting API"⟩,
  ⟨374879419635556475, "internal/issues/errors.go:processIssueInTree:index:current.Items[element]", "preceded by a loop that appends until len(Items) > element; element is a library-built index >= 0; formatting API"⟩,
  ⟨18175502101059240329, "pkg/coerce/coerce.go:ToComplexFromString:slice:s[:len(s)-1]", "inside if HasSuffix(s, \"i\"|\"j\"): len(s) >= 1"⟩,
  ⟨7843121564582622300, "pkg/coerce/coerce.go:parseComplexParts:slice:imStr[:len(imStr)-1]", "after the HasSuffix test that returns otherwise: len >= 1"⟩,
  ⟨13824652233178380267, "pkg/coerce/coerce.go:parseComplexParts:slice:s[:pos]", "pos comes from findComplexSplit(s), an index found by scanning s (caller returns when it is <= 0)"⟩,
  ⟨3448461886736237671, "pkg/coerce/coerce.go:parseComplexParts:slice:s[pos:]", "pos comes from findComplexSplit(s), an index found by scanning s"⟩,
  ⟨1124322521091180832, "pkg/coerce/coerce.go:stringToBigInt:slice:trimmed[2:]", "inside if HasPrefix(trimmed, \"0x\"|\"0X\"): len >= 2"⟩,
  ⟨13029812018970328610, "pkg/reflectx/utils.go:Convert:assert:src.Convert(target).Interface().(T)", rGeneric⟩,
  ⟨3192330214741007585, "pkg/reflectx/utils.go:Convert:assert:v.(T)", rGeneric⟩,
  ⟨10402591715601346194, "pkg/slicex/slicex.go:Append:slice:result[len(items):]", "result is made with len(items)+len(elements)"⟩,
  ⟨9919411282091793803, "pkg/slicex/slicex.go:Prepend:slice:result[len(elements):]", "result is made with len(elements)+len(items)"⟩,
  ⟨1642008543236372384, "pkg/slicex/slicex.go:restoreType:reflectV:result.Index×2", "result = MakeSlice(typ, len(items), …) and i ranges over items; Set follows AssignableTo / ConvertibleTo"⟩,
  ⟨5597443578259963610, "pkg/slicex/slicex.go:restoreType:reflectV:result.Interface", "result is a reflect.MakeSlice value: valid, Interface() cannot panic"⟩,
  ⟨4987597108630062885, "pkg/slicex/slicex.go:restoreType:reflectV:rv.Type×2", "DEFECT of the utility API, not of Parse: slicex.Unique(L{nil,1}) with type L []any panics 'call of reflect.Value.Type on zero Value' (a nil element of a named slice type); unreachable from Parse - the library passes []any only (creators.go, locales), which returns two lines above; not a violation of C04 (observation recorded in notes/C04.md)"⟩,
  ⟨6440432852034397972, "pkg/structx/structx.go:ToMap:reflectV:t.NumField×2", "structValue(input) returned ok: the value is a struct"⟩,
  ⟨11075545956014661684, "pkg/structx/structx.go:setField:reflectV:dst.Set×2", "under AssignableTo / ConvertibleTo cases; dst is field i of a freshly built struct value (unexported fields are skipped before)"⟩,
  ⟨8866733611631987693, "pkg/structx/structx.go:setField:reflectV:src.Type×2", "caller passes reflect.ValueOf of a non-nil map value (nil is skipped before)"⟩,
  ⟨14917078999109164125, "pkg/validate/validate.go:ISODuration:slice:duration[1:]", "after the regular expression matched: the text starts with P"⟩,
  ⟨15784970849217231854, "types/any.go:ZodAny.Refine:assert:any((*any)(nil)).(R)", rGeneric⟩,
  ⟨2571207705592551152, "types/any.go:newZodAnyFromDef:assert:any(newZodAnyFromDef[T, R](d)).(core.ZodType[any])", rCtor⟩,
  ⟨11545476485097005160, "types/array.go:ZodArray.Refine:assert:any((*T)(nil)).(R)", rGeneric⟩,
  ⟨6738382910881097193, "types/array.go:ZodArray.validate:index:value[i]×2", "i runs from fixed to actual = len(value)"⟩,
  ⟨1765936964985704976, "types/array.go:ZodArray.validate:store:issue.Properties[\"is_rest_param\"]", "CreateTooSmallIssue always returns a literal Properties map"⟩,
  ⟨6027999037548316223, "types/array.go:convertToArrayType:assert:value.(R)", rGeneric⟩,
  ⟨11101150201856511823, "types/array.go:newZodArrayFromDef:assert:any(newZodArrayFromDef[T, R](arrayDef)).(core.ZodType[any])", rCtor⟩,
  ⟨4610654976648464301, "types/bigint.go:ZodBigInt.Refine:assert:any((**big.Int)(nil)).(T)", rGeneric⟩,
  ⟨12184398908497312966, "types/bigint.go:newZodBigIntFromDef:assert:any(newZodBigIntFromDef[T]( &ZodBigIntDef{ZodTypeDef: *d}, )).(core.ZodType[any])", rCtor⟩,
  ⟨11490705244870486882, "types/bool.go:ZodBool.Refine:assert:any((*bool)(nil)).(T)", rGeneric⟩,
  ⟨8176599159131220352, "types/bool.go:convertToBoolType:assert:any(boolValue).(T)", rGeneric⟩,
  ⟨16984369594968846699, "types/bool.go:convertToBoolType:assert:any(new(boolValue)).(T)", rGeneric⟩,
  ⟨12067111842583649922, "types/bool.go:newZodBoolFromDef:assert:any(newZodBoolFromDef[T](bd)).(core.ZodType[any])", rCtor⟩,
  ⟨710802193898698843, "types/complex.go:ZodComplex.Refine:assert:any((*complex128)(nil)).(T)", rGeneric⟩,
  ⟨15302967422490773288, "types/complex.go:ZodComplex.Refine:assert:any((*complex64)(nil)).(T)", rGeneric⟩,
  ⟨16476726941755972393, "types/complex.go:newZodComplexFromDef:assert:any(newZodComplexFromDef[T](cd)).(core.ZodType[any])", rCtor⟩,
  ⟨3845880262573283513, "types/complex.go:toComplexType:assert:any(*c).(T)", rGeneric⟩,
  ⟨17781043828755822691, "types/complex.go:toComplexType:assert:any(c).(T)", rGeneric⟩,
  ⟨18194507416260429924, "types/complex.go:toComplexType:assert:any(complex64(*c)).(T)", rGeneric⟩,
  ⟨11562907477148237687, "types/complex.go:toComplexType:assert:any(new(complex64(*c))).(T)", rGeneric⟩,
  ⟨6168607577298807038, "types/discriminated_union.go:convertToDiscriminatedUnionConstraintType:assert:any((*any)(nil)).(R)", rGeneric⟩,
  ⟨1642765388613083124, "types/discriminated_union.go:convertToDiscriminatedUnionConstraintType:assert:any(new(v)).(R)", rGeneric⟩,
  ⟨4323500393696201469, "types/discriminated_union.go:convertToDiscriminatedUnionConstraintType:assert:any(v).(R)", rGeneric⟩,
  ⟨3685476275618985553, "types/discriminated_union.go:convertToDiscriminatedUnionConstraintValue:assert:any((*any)(nil)).(R)", rGeneric⟩,
  ⟨11848712325102373357, "types/discriminated_union.go:newZodDiscriminatedUnionFromDef:assert:any(newZodDiscriminatedUnionFromDef[T, R](cd)).(core.ZodType[any])", rCtor⟩,
  ⟨615351815450597100, "types/enum.go:ZodEnum.Refine:assert:any((*T)(nil)).(R)", rGeneric⟩,
  ⟨2480769556859022442, "types/enum.go:newZodEnumFromDef:assert:any(newZodEnumFromDef[T, R](ed)).(core.ZodType[any])", rCtor⟩,
  ⟨11358184291539514561, "types/file.go:convertToFileConstraintType:assert:any(value).(R)", rGeneric⟩,
  ⟨3563334486745395819, "types/file.go:newZodFileFromDef:assert:any(newZodFileFromDef[T, R](fileDef)).(core.ZodType[any])", rCtor⟩,
  ⟨4434711998892125332, "types/float.go:extractFloatToFloat64:assert:v.(float64)", "default branch of a type switch whose only other case is float32; T is constrained to float32|float64"⟩,
  ⟨12401555158266488208, "types/float.go:newZodFloatFromDef:assert:any(newZodFloatFromDef[T, R](&ZodFloatDef{ZodTypeDef: *d})).(core.ZodType[any])", rCtor⟩,
  ⟨16376927638461385009, "types/function.go:ZodFunction.convertResult:assert:any((*any)(nil)).(T)", rGeneric⟩,
  ⟨15948385654411614210, "types/function.go:ZodFunction.convertResult:assert:any(new(result)).(T)", rGeneric⟩,
  ⟨16978524942583461719, "types/function.go:ZodFunction.convertResult:assert:any(result).(T)", rGeneric⟩,
  ⟨373360793875333409, "types/function.go:ZodFunction.validateInput:reflectV:a.Interface", "args are the arguments reflect hands to a MakeFunc wrapper: valid; function schemas are outside the statement"⟩,
  ⟨15644538999131121326, "types/function.go:newFuncFromDef:assert:any(newFuncFromDef[T](fd)).(core.ZodType[any])", rCtor⟩,
  ⟨6925650623853092808, "types/integer.go:newZodIntegerFromDef:assert:any(newZodIntegerFromDef[T, R](d)).(core.ZodType[any])", rCtor⟩,
  ⟨2187553161163751405, "types/intersection.go:convertToIntersectionConstraintType:assert:any((*any)(nil)).(R)", rGeneric⟩,
  ⟨5844543714457195879, "types/intersection.go:convertToIntersectionConstraintType:assert:any(value).(R)", rGeneric⟩,
  ⟨493199858903270780, "types/intersection.go:convertToIntersectionConstraintValue:assert:any((*any)(nil)).(R)", rGeneric⟩,
  ⟨8030934994257979611, "types/intersection.go:newZodIntersectionFromDef:assert:any(newZodIntersectionFromDef[T, R](d)).(core.ZodType[any])", rCtor⟩,
  ⟨9648004905842975097, "types/intersection.go:structToMap:index:strings.Split(tag, \",\")[0]", "strings.Split never returns an empty slice"⟩,
  ⟨5493187255574450679, "types/intersection.go:structToMap:reflectT:t.Field", "i ranges over t.NumField()"⟩,
  ⟨13791082572043356612, "types/intersection.go:structToMap:reflectT:t.NumField×2", "only caller mergeValues tests Kind()==Struct on both sides first"⟩,
  ⟨11629973633416058765, "types/intersection.go:structToMap:reflectV:v.Type", "only caller mergeValues passes reflect.ValueOf of a non-nil value"⟩,
  ⟨14053245949039543474, "types/lazy.go:ZodLazy.convertResult:assert:any(new(result)).(T)", rGeneric⟩,
  ⟨6538098956528949959, "types/lazy.go:ZodLazy.convertResult:assert:any(result).(T)", rGeneric⟩,
  ⟨10394470101920233666, "types/lazy.go:newZodLazyFromDef:assert:any(newZodLazyFromDef[T](ld)).(core.ZodType[any])", rCtor⟩,
  ⟨9608546598335730724, "types/map.go:ZodMap.validateDirect:reflectT:mt.NumIn", "mt is the Type of a valid Method value: a func type"⟩,
  ⟨9662382968642803421, "types/map.go:acceptsParseContext:reflectT:mt.NumIn", "callers pass the Type of a valid Parse method: a func type"⟩,
  ⟨8023407940871052573, "types/map.go:convertFromGeneric:assert:any(converted).(T)", rGeneric⟩,
  ⟨18094615912076041622, "types/map.go:convertFromGeneric:assert:any(m).(T)", rGeneric⟩,
  ⟨5521906225847565907, "types/map.go:newZodMapFromDef:assert:any(newZodMapFromDef[T, R](md)).(core.ZodType[any])", rCtor⟩,
  ⟨14816408127360635708, "types/map.go:toConstraintType:assert:any((*map[any]any)(nil)).(R)", rGeneric⟩,
  ⟨9012220279490998044, "types/map.go:toConstraintType:assert:any(value).(R)", rGeneric⟩,
  ⟨17415265633262223118, "types/never.go:convertToNeverConstraintValue:assert:any((*any)(nil)).(R)", rGeneric⟩,
  ⟨9160297382154259864, "types/never.go:extractNeverValue:assert:any(value).(T)", rGeneric⟩,
  ⟨15085729925606035319, "types/never.go:newZodNeverFromDef:assert:any(newZodNeverFromDef[T, R](neverDef)).(core.ZodType[any])", rCtor⟩,
  ⟨870300328648391870, "types/nil.go:convertToNilConstraintValue:assert:any((*any)(nil)).(R)", rGeneric⟩,
  ⟨11432529232718149604, "types/nil.go:extractNilValue:assert:any(value).(T)", rGeneric⟩,
  ⟨17773694161889577639, "types/nil.go:newZodNilFromDef:assert:any(newZodNilFromDef[T, R](nd)).(core.ZodType[any])", rCtor⟩,
  ⟨13896527355247458417, "types/object.go:convertToObjectConstraintType:reflectV:reflect.ValueOf(&result).Elem", "pointer to a local variable: never nil"⟩,
  ⟨16576101523757870107, "types/object.go:newZodObjectFromDef:assert:any(newZodObjectFromDef[T, R](objectDef)).(core.ZodType[any])", rCtor⟩,
  ⟨17826777039137614849, "types/record.go:ZodRecord.validateRecord:index:seenKeys[k]", "seenKeys is a made map[string]bool: a map read"⟩,
  ⟨14611183956009712257, "types/record.go:ZodRecord.validateRecordValue:reflectV:valValue.Type", "not guarded syntactically; a nil here needs a member schema that answers an untyped nil for a typed element: probed typed records map[string]*int / map[string][]int with value schemas Any().Nilable(), Unknown().Optional(), Nil(), Nil().Optional(), UnionPtr, Lazy(Nil) on nil elements - none reaches it (values come back typed through MapIndex(..).Interface(), a nil-returning schema keeps the typed nil); no witness; run-covered by the typed Record constructors x nil-class values"⟩,
  ⟨13404946161255439264, "types/record.go:ZodRecord.validateValue:reflectT:methodType.NumIn", "Type of a valid Parse method: a func type"⟩,
  ⟨4962461954379153188, "types/record.go:extractRecordValue:assert:any(value).(T)", rGeneric⟩,
  ⟨6790997909822587331, "types/record.go:newZodRecordFromDef:assert:any(newZodRecordFromDef[T, R](recordDef)).(core.ZodType[any])", rCtor⟩,
  ⟨3926508994445203748, "types/record.go:reflectArg:reflectT:mt.In", "callers test NumIn() >= 1 first"⟩,
  ⟨7672216538289718331, "types/record.go:reflectArg:reflectV:reflect.Zero(mt.In(0))", "callers test NumIn() >= 1 first; In(0) is a non-nil type"⟩,
  ⟨2630103495509691412, "types/set.go:ZodSet.validateDirect:reflectT:mt.NumIn", "Type of a valid Parse method: a func type"⟩,
  ⟨1496423569244909699, "types/set.go:newZodSetFromDef:assert:any(newZodSetFromDef[T, R](sd)).(core.ZodType[any])", rCtor⟩,
  ⟨12008677874452231772, "types/slice.go:newZodSliceFromDef:assert:any(newZodSliceFromDef[T, R](d)).(core.ZodType[any])", rCtor⟩,
  ⟨11993183682061498703, "types/string.go:convertToStringType:assert:any((*string)(nil)).(T)", rGeneric⟩,
  ⟨512012299000986455, "types/string.go:newZodStringFromDef:assert:any(newZodStringFromDef[T](stringDef)).(core.ZodType[any])", rCtor⟩,
  ⟨12800092012156771012, "types/stringbool.go:ZodStringBool.Refine:assert:any((*bool)(nil)).(T)", rGeneric⟩,
  ⟨18424716369096078019, "types/stringbool.go:convertToStringBoolType:assert:any(b).(T)", rGeneric⟩,
  ⟨4575116347389883018, "types/stringbool.go:convertToStringBoolType:assert:any(new(b)).(T)", rGeneric⟩,
  ⟨3895583615419284684, "types/stringbool.go:newZodStringBoolFromDef:assert:any(newZodStringBoolFromDef[T](sd)).(core.ZodType[any])", rCtor⟩,
  ⟨12128952830361537759, "types/struct.go:ZodStruct.convertSliceTypes:reflectV:newSlice.Index", "newSlice = MakeSlice(targetType, sourceVal.Len(), …), i ranges over sourceVal.Len()"⟩,
  ⟨17656294653292948164, "types/struct.go:ZodStruct.convertSliceTypes:reflectV:newSlice.Interface", "newSlice is a reflect.MakeSlice value: valid, Interface() cannot panic"⟩,
  ⟨3950381326064745233, "types/struct.go:ZodStruct.convertValue:assert:value.(string)", "Kind()==String also holds for named string types; probed Struct[struct{A string}]{A: Any()}.Parse({a: MyStr(\"x\")}): converted ({x}), no panic - the named value takes the reflect Convert path before this branch; no witness; run-covered by the struct stream (named-type fields)"⟩,
  ⟨11002935487131420682, "types/struct.go:ZodStruct.convertValue:reflectV:reflect.Zero(targetType)", "targetType is the Type of a struct field / map or slice element: non-nil"⟩,
  ⟨18165676809109461455, "types/struct.go:ZodStruct.convertValue:reflectV:reflect.Zero(targetType).Interface", "reflect.Zero of a non-nil type is a valid Value"⟩,
  ⟨5014509530207752724, "types/struct.go:ZodStruct.getStructFieldValue:reflectT:structType.Field", "i ranges over val.NumField() of the same struct"⟩,
  ⟨9851296726834874640, "types/struct.go:ZodStruct.getStructFieldValue:reflectV:val.FieldByName", "callers pass the Elem of a struct value (Kind()==Struct tested in extractStruct)"⟩,
  ⟨7564534887303338388, "types/struct.go:ZodStruct.setReflectFieldValue:reflectV:fieldVal.Set", "callers test IsValid() && CanSet() on fieldVal first"⟩,
  ⟨4828877884012929329, "types/struct.go:ZodStruct.setReflectFieldValue:reflectV:fieldVal.Type×2", "callers test IsValid() on fieldVal first"⟩,
  ⟨2968785987149058281, "types/struct.go:ZodStruct.setReflectFieldValue:reflectV:reflect.Zero(fieldVal.Type())", "callers test IsValid() on fieldVal first"⟩,
  ⟨8921273609902504216, "types/struct.go:ZodStruct.setStructFieldValue:reflectT:structType.Field", "i ranges over structType.NumField()"⟩,
  ⟨10485928567127034376, "types/struct.go:ZodStruct.setStructFieldValue:reflectT:structType.NumField", "structType is the struct type T of the schema (reflect.New(structType).Elem() by the caller)"⟩,
  ⟨13215242990010818507, "types/struct.go:ZodStruct.setStructFieldValue:reflectV:structVal.FieldByName", "structVal is reflect.New(struct type).Elem() built by the caller"⟩,
  ⟨16669934098590629173, "types/struct.go:convertMapToStructStrict:assert:v.Interface().(T)", rGeneric⟩,
  ⟨4146984220111446586, "types/struct.go:convertToStructConstraintType:assert:any(new(value)).(R)", rGeneric⟩,
  ⟨17053220999009232451, "types/struct.go:convertToStructConstraintType:assert:any(value).(R)", rGeneric⟩,
  ⟨16332229321264163623, "types/struct.go:newZodStructFromDef:assert:any(newZodStructFromDef[T, R](structDef)).(core.ZodType[any])", rCtor⟩,
  ⟨12528909767318680054, "types/time.go:ZodTime.Refine:assert:any((*time.Time)(nil)).(T)", rGeneric⟩,
  ⟨8441083741483341270, "types/time.go:convertToTimeType:assert:any(new(timeValue)).(T)", rGeneric⟩,
  ⟨7573924716321136623, "types/time.go:convertToTimeType:assert:any(timeValue).(T)", rGeneric⟩,
  ⟨13716625077580442447, "types/time.go:newZodTimeFromDef:assert:any(newZodTimeFromDef[T](timeDef)).(core.ZodType[any])", rCtor⟩,
  ⟨5968865341567446756, "types/tuple.go:calculateRequiredCount:index:items[i]", "i runs from len(items)-1 down to 0; constructor-time"⟩,
  ⟨14643276059759335998, "types/tuple.go:convertToTupleConstraintType:assert:any(arr).(R)×2", rGeneric⟩,
  ⟨9100951925971678626, "types/tuple.go:convertToTupleConstraintType:assert:any(new(arr)).(R)", rGeneric⟩,
  ⟨11324627493854024115, "types/tuple.go:newZodTupleFromDef:assert:any(newZodTupleFromDef[T, R](tupleDef, requiredCount)).(core.ZodType[any])", rCtor⟩,
  ⟨8558318968512435567, "types/union.go:convertToUnionConstraint:assert:any((*any)(nil)).(R)", rGeneric⟩,
  ⟨3828195637417461709, "types/union.go:convertUnionToConstraint:assert:any((*any)(nil)).(R)", rGeneric⟩,
  ⟨9223515965197231047, "types/union.go:convertUnionToConstraint:assert:any(value).(R)", rGeneric⟩,
  ⟨1539458552031852853, "types/union.go:newZodUnionFromDef:assert:any(newZodUnionFromDef[T, R](d)).(core.ZodType[any])", rCtor⟩,
  ⟨10623515235969670202, "types/unknown.go:ZodUnknown.Refine:assert:any((*any)(nil)).(R)", rGeneric⟩,
  ⟨3420949697338002388, "types/unknown.go:newZodUnknownFromDef:assert:any(newZodUnknownFromDef[T, R](d)).(core.ZodType[any])", rCtor⟩,
  ⟨354098123231303951, "types/xor.go:newZodXorFromDef:assert:any(newZodXorFromDef[T, R](xorDef)).(core.ZodType[any])", rCtor⟩
]

def outsideIds : List Nat := outsideParse.map (·.id)
def reviewedIds : List Nat := reviewed.map (·.id)

def outside (s : Site) : Bool := outsideIds.contains s.fid
def listed (s : Site) : Bool := reviewedIds.contains s.kid

def accounted (s : Site) : Bool :=
  guarded s || inScope s || notParsePkg s || outside s || listed s

/-! Every statement about the whole table is read off ONE evaluation by the kernel (`sites_tally`): each site is
  classified by the first way that accounts for it, and the classes are counted.  (The search of a row's id among the
  reviewed ids is the long step of a row; so it is made once per row.) -/

inductive Way | guarded | scope | notParse | outside | listed | none
  deriving DecidableEq

/-- `ids.contains x`, by the kernel's own comparison of numerals. -/
def hasId (x : Nat) : List Nat → Bool
  | [] => false
  | y :: ys => Nat.beq x y || hasId x ys

theorem hasId_eq (x : Nat) (ids : List Nat) : hasId x ids = ids.contains x := by
  induction ids with
  | nil => rfl
  | cons y ys ih => rw [hasId, ih, List.contains_cons]; congr 1; rw [Bool.eq_iff_iff, Nat.beq_eq, beq_iff_eq]

def way (s : Site) : Way :=
  if guarded s then .guarded else if inScope s then .scope else if notParsePkg s then .notParse
  else if hasId s.fid outsideIds then .outside else if hasId s.kid reviewedIds then .listed else .none

theorem way_spec (s : Site) :
    match way s with
    | .guarded => guarded s = true
    | .scope => guarded s = false ∧ inScope s = true
    | .notParse => guarded s = false ∧ inScope s = false ∧ notParsePkg s = true
    | .outside => guarded s = false ∧ inScope s = false ∧ notParsePkg s = false ∧ outside s = true
    | .listed => guarded s = false ∧ inScope s = false ∧ notParsePkg s = false ∧ outside s = false ∧ listed s = true
    | .none => accounted s = false := by
  unfold way accounted outside listed
  simp only [hasId_eq]
  cases guarded s <;> cases inScope s <;> cases notParsePkg s <;> cases outsideIds.contains s.fid <;>
    cases reviewedIds.contains s.kid <;> simp

def tally : List Site → Nat → Nat → Nat → Nat → Nat → Nat → Nat × Nat × Nat × Nat × Nat × Nat
  | [], g, c, n, o, l, z => (g, c, n, o, l, z)
  | s :: ss, g, c, n, o, l, z =>
    match way s with
    | .guarded => tally ss (g + 1) c n o l z
    | .scope => tally ss g (c + 1) n o l z
    | .notParse => tally ss g c (n + 1) o l z
    | .outside => tally ss g c n (o + 1) l z
    | .listed => tally ss g c n o (l + 1) z
    | .none => tally ss g c n o l (z + 1)

def cnt (w : Way) (ss : List Site) : Nat := ss.countP fun s => decide (way s = w)

theorem tally_eq (ss : List Site) (g c n o l z : Nat) :
    tally ss g c n o l z = (g + cnt .guarded ss, c + cnt .scope ss, n + cnt .notParse ss, o + cnt .outside ss,
      l + cnt .listed ss, z + cnt .none ss) := by
  induction ss generalizing g c n o l z with
  | nil => rfl
  | cons s ss ih => cases h : way s <;> simp [tally, h, ih, cnt, Nat.add_assoc, Nat.add_comm 1]

/-- 600 and 220, like the 900 of `sites_nontrivial`, are bounds with some margin around the counts of the table: they
    say that most sites are guarded structurally, not by review. -/
def tallyOK : Nat × Nat × Nat × Nat × Nat × Nat → Bool
  | (g, c, _, o, l, z) => z == 0 && decide (600 ≤ g) && decide (l ≤ 220) && decide (0 < c) && decide (0 < o) && decide (0 < l)

theorem sites_tally : tallyOK (tally sites 0 0 0 0 0 0) = true := by decide +kernel

theorem sites_counts :
    cnt .none sites = 0 ∧ 600 ≤ cnt .guarded sites ∧ cnt .listed sites ≤ 220 ∧ 0 < cnt .scope sites ∧
      0 < cnt .outside sites ∧ 0 < cnt .listed sites := by
  have h := sites_tally
  rw [tally_eq] at h
  simpa [tallyOK, and_assoc] using h

theorem exists_way {w : Way} {ss : List Site} (h : 0 < cnt w ss) : ∃ s ∈ ss, way s = w := by
  simpa [cnt, List.countP_pos_iff] using h

theorem sites_accounted : sites.all accounted = true := by
  refine List.all_eq_true.2 fun s hs => ?_
  have hz : way s ≠ .none := by simpa using List.countP_eq_zero.1 sites_counts.1 s hs
  have := way_spec s
  cases h : way s <;> simp_all [accounted]

theorem site_cases (s : Site) (h : s ∈ sites) :
    guarded s = true ∨ inScope s = true ∨ notParsePkg s = true ∨ outside s = true ∨ listed s = true := by
  have h1 := List.all_eq_true.mp sites_accounted s h
  simp only [accounted, Bool.or_eq_true] at h1
  rcases h1 with (((h1 | h1) | h1) | h1) | h1
  · exact Or.inl h1
  · exact Or.inr (Or.inl h1)
  · exact Or.inr (Or.inr (Or.inl h1))
  · exact Or.inr (Or.inr (Or.inr (Or.inl h1)))
  · exact Or.inr (Or.inr (Or.inr (Or.inr h1)))

theorem sites_nontrivial :
    sites.length ≥ 900 ∧ (sites.filter guarded).length ≥ 600 ∧
    (sites.filter (fun s => !guarded s && !inScope s && !notParsePkg s && !outside s)).length ≤ 220 ∧
    [Kind.assert, .reflectV, .reflectT, .store, .index, .slice, .div, .bigdiv, .panic, .mustcall].all
      (fun k => sites.any (fun s => decide (s.kind = k))) = true := by
  obtain ⟨hz, hg, hl, _⟩ := sites_counts
  refine ⟨by decide +kernel, Nat.le_trans hg ?_, Nat.le_trans ?_ hl, by decide +kernel⟩
  · rw [← List.countP_eq_length_filter]
    refine List.countP_mono_left fun s _ h => ?_
    have := way_spec s
    rw [of_decide_eq_true h] at this
    exact this
  · rw [← List.countP_eq_length_filter]
    refine List.countP_mono_left fun s hs h => ?_
    have hn : way s ≠ .none := by simpa using List.countP_eq_zero.1 hz s hs
    have := way_spec s
    cases hw : way s <;> simp_all

theorem adequate_is_strict : adequate .assert .kind = false ∧ adequate .store .ok = false ∧ adequate .index .pred = false := by
  decide

def nodupIds : List Nat → Bool
  | [] => true
  | x :: xs => xs.all (fun y => !Nat.beq x y) && nodupIds xs

theorem nodup_of_nodupIds {l : List Nat} (h : nodupIds l = true) : l.Nodup := by
  induction l with
  | nil => exact .nil
  | cons x xs ih =>
    simp only [nodupIds, Bool.and_eq_true, List.all_eq_true, Bool.not_eq_true'] at h
    exact List.nodup_cons.2 ⟨fun hx => absurd (Nat.beq_refl x) (by rw [h.1 x hx]; decide), ih h.2⟩

theorem exception_ids_distinct : reviewedIds.Nodup ∧ outsideIds.Nodup :=
  ⟨nodup_of_nodupIds (by decide +kernel), nodup_of_nodupIds (by decide +kernel)⟩

example : (sites.any guarded && sites.any inScope && sites.any listed && sites.any outside) = true := by
  obtain ⟨_, hg, _, hc, ho, hl⟩ := sites_counts
  obtain ⟨a, ha, wa⟩ := exists_way (Nat.lt_of_lt_of_le (by decide) hg)
  obtain ⟨b, hb, wb⟩ := exists_way hc
  obtain ⟨c, hc, wc⟩ := exists_way ho
  obtain ⟨d, hd, wd⟩ := exists_way hl
  have sa := way_spec a; have sb := way_spec b; have sc := way_spec c; have sd := way_spec d
  rw [wa] at sa; rw [wb] at sb; rw [wc] at sc; rw [wd] at sd
  simp only [Bool.and_eq_true, List.any_eq_true]
  exact ⟨⟨⟨⟨a, ha, sa⟩, b, hb, sb.2⟩, d, hd, sd.2.2.2.2⟩, c, hc, sc.2.2.2⟩

end Gozod.C04.Sites
