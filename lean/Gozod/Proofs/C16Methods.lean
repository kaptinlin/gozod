/-
  C16, method by method: every comparison method of the integer and of the float schemas —
  Min, Max, Gt, Gte, Lt, Lte, the sign shorthands Positive, Negative, NonNegative, NonPositive, and
  Safe — as the regenerated tables wire it (`Gen.NumDispatch.integerMethods` / `floatMethods` through
  `checkCtors` to `validate.Lt/Lte/Gt/Gte`, `C16D.methods_table`), interpreted with the model's
  `implCmp`, decides the mathematical comparison its documentation states, for every input.

  `cmpMethods_exact` is the statement for any table that resolves as documented, the two regenerated tables are
  instances; `c16_float_specials` spells out what the documented meaning `specCmp`, their right-hand side, is on
  the special float inputs (NaN, −0, ±Inf).
-/
import Gozod.Proofs.C16Dispatch
import Gozod.Proofs.C16Float

namespace Gozod.C16M
open Gozod Gozod.C16D Gozod.Gen.NumDispatch

/-- What the `validate` call a check constructor ends in decides, on the value `x` and the operand `b`
    the constructor received. -/
def callHolds : String → Num → Num → Option Bool
  | "validate.Lt(payload.Value(), value)", x, b => some (implCmp .lt x b)
  | "validate.Lte(payload.Value(), value)", x, b => some (implCmp .lte x b)
  | "validate.Gt(payload.Value(), value)", x, b => some (implCmp .gt x b)
  | "validate.Gte(payload.Value(), value)", x, b => some (implCmp .gte x b)
  | "validate.MultipleOf(payload.Value(), divisor)", x, b => some (NumFloat.multipleOfNum x b)
  | _, _, _ => none

/-- The verdict of schema method `m` on the value `x`, with the method's own bound `arg`, as the
    regenerated tables wire it: every `validate` call of the chain must hold. `lit` turns a
    literal bound into the operand the method receives (`int64(n)` / `float64(n)`). -/
def methodVerdict (tbl : List (String × String × List (Bool × String × Dispatch.Arg))) (lit : Int → Num)
    (m : String) (x arg : Num) : Option Bool :=
  match resolve tbl 4 m none with
  | none => none
  | some calls => calls.foldr (fun c acc => do
      let rest ← acc
      let b := match c.2 with
        | some n => lit n
        | none => arg
      let v ← callHolds c.1 x b
      pure (v && rest)) (some true)

/-- The documented meaning of each method, in terms of `specCmp` (`lit` as in `methodVerdict`). -/
def methodSpec (lit : Int → Num) (m : String) (x arg : Num) : Option Bool :=
  match m with
  | "Min" => some (specCmp .gte x arg)
  | "Max" => some (specCmp .lte x arg)
  | "Gt" => some (specCmp .gt x arg)
  | "Gte" => some (specCmp .gte x arg)
  | "Lt" => some (specCmp .lt x arg)
  | "Lte" => some (specCmp .lte x arg)
  | "Positive" => some (specCmp .gt x (lit 0))
  | "Negative" => some (specCmp .lt x (lit 0))
  | "NonNegative" => some (specCmp .gte x (lit 0))
  | "NonPositive" => some (specCmp .lte x (lit 0))
  | "Safe" => some (specCmp .gte x (lit (-(2 ^ 53 - 1))) && specCmp .lte x (lit (2 ^ 53 - 1)))
  | _ => none

def cmpMethods : List String :=
  ["Min", "Max", "Gt", "Gte", "Lt", "Lte", "Positive", "Negative", "NonNegative", "NonPositive", "Safe"]

def flit (n : Int) : Num := .f (.fin n 0)
def ilit (n : Int) : Num := .i n

/-- Any method table that resolves as documented decides every comparison method exactly,
    whatever the kinds of the value and of the bound, provided both are well-formed and so are the
    literal bounds (0 and ±(2^53−1)) as the table's `lit` reads them. -/
theorem cmpMethods_exact {tbl : List (String × String × List (Bool × String × Dispatch.Arg))} {lit : Int → Num}
    (hres : ∀ d ∈ documented, resolve tbl 4 d.1 none = some d.2)
    (hlit : ∀ k, IntTy.i64.inRange k → C16.Num.wf (lit k))
    (m : String) (hm : m ∈ cmpMethods) (x arg : Num) (hx : C16.Num.wf x) (harg : C16.Num.wf arg) :
    methodVerdict tbl lit m x arg = methodSpec lit m x arg := by
  have carg := fun op => C16.c16_cmp op x arg hx harg
  have c0 := fun op => C16.c16_cmp op x _ hx (hlit 0 (by decide))
  have clo := fun op => C16.c16_cmp op x _ hx (hlit (-(2 ^ 53 - 1)) (by decide))
  have chi := fun op => C16.c16_cmp op x _ hx (hlit (2 ^ 53 - 1) (by decide))
  simp only [documented, List.forall_mem_cons] at hres
  simp only [cmpMethods, List.mem_cons, List.mem_nil_iff, or_false] at hm
  rcases hm with rfl | rfl | rfl | rfl | rfl | rfl | rfl | rfl | rfl | rfl | rfl <;>
    simp only [methodVerdict, hres, List.foldr, callHolds, methodSpec, carg, c0, clo, chi, Option.bind_eq_bind,
      Option.bind_some, Option.pure_def, Bool.and_true]

/-- Every comparison method of the float schemas, on every float input (−0, ±Inf, NaN
    included) and every float64 bound, decides the mathematical comparison. -/
theorem c16_float_methods_exact (m : String) (hm : m ∈ cmpMethods) (x b : F) :
    methodVerdict floatMethods flit m (.f x) (.f b) = methodSpec flit m (.f x) (.f b) :=
  cmpMethods_exact (lit := flit) (fun d hd => (methods_table.1 d hd).2) (fun _ _ => trivial) m hm _ _ trivial trivial

/-- Every comparison method of the ten integer schemas, on every in-range input and every
    int64 bound, decides the comparison of the integers. -/
theorem c16_int_methods_exact (m : String) (hm : m ∈ cmpMethods) (t : IntTy) (v b : Int)
    (hv : t.inRange v) (hb64 : IntTy.i64.inRange b) :
    methodVerdict integerMethods ilit m (Num.ofInt t v) (.i b) = methodSpec ilit m (Num.ofInt t v) (.i b) :=
  cmpMethods_exact (lit := ilit) (fun d hd => (methods_table.1 d hd).1) (fun _ h => h) m hm _ _ (C16.ofInt_wf t v hv) hb64

def mulMethods : List String := ["MultipleOf", "Step"]

theorem mulMethods_eq {tbl : List (String × String × List (Bool × String × Dispatch.Arg))} {lit : Int → Num}
    (hres : ∀ d ∈ documented, resolve tbl 4 d.1 none = some d.2)
    (m : String) (hm : m ∈ mulMethods) (x arg : Num) :
    methodVerdict tbl lit m x arg = some (NumFloat.multipleOfNum x arg) := by
  simp only [documented, List.forall_mem_cons] at hres
  simp only [mulMethods, List.mem_cons, List.mem_nil_iff, or_false] at hm
  rcases hm with rfl | rfl <;>
    simp only [methodVerdict, hres, List.foldr, callHolds, Option.bind_eq_bind, Option.bind_some, Option.pure_def,
      Bool.and_true]

/-- `MultipleOf` / `Step` of the ten integer schemas decide integer divisibility — for every
    in-range input and every int64 divisor (zero divisor: nothing passes). -/
theorem c16_int_methods_multiple_exact (m : String) (hm : m ∈ mulMethods) (t : IntTy) (v d : Int)
    (hv : t.inRange v) (hd : IntTy.i64.inRange d) :
    methodVerdict integerMethods ilit m (Num.ofInt t v) (.i d) = some (specMultipleOfInt v d) := by
  rw [mulMethods_eq (fun d hd => (methods_table.1 d hd).1) m hm,
    C16F.multipleOfNum_ints (C16.ofInt_isInt t v) rfl,
    C16.multipleOfInts_exact _ (.i d) (C16.ofInt_wf t v hv) hd (C16.ofInt_isInt t v) rfl, C16.ofInt_ival]
  rfl

/-- `MultipleOf` / `Step` of the float schemas end in the documented ε-rule (`NumFloat.floatMultipleOf`; what that
    rule guarantees is `C16F.c16_float_multiple_complete` / `c16_float_multiple_sound_bound`). -/
theorem c16_float_methods_multiple (m : String) (hm : m ∈ mulMethods) (x d : F) :
    methodVerdict floatMethods flit m (.f x) (.f d) = some (NumFloat.floatMultipleOf x d) :=
  mulMethods_eq (fun d hd => (methods_table.1 d hd).2) m hm _ _

example : methodVerdict integerMethods ilit "Step" (Num.ofInt .i64 10000005) (.i 10000000) = some false ∧
    methodVerdict integerMethods ilit "MultipleOf" (Num.ofInt .u64 (2 ^ 64 - 2)) (.i (-2)) = some true ∧
    methodVerdict integerMethods ilit "MultipleOf" (Num.ofInt .i8 0) (.i 0) = some false := by
  decide +kernel

/-- `C16.specCmp_ints` is the same without the range hypotheses. -/
theorem specCmp_int (op : CmpOp) (t : IntTy) (v b : Int) (hv : t.inRange v) (hb : IntTy.i64.inRange b) :
    specCmp op (Num.ofInt t v) (.i b) = op.holdsInt v b := by
  rw [← C16.c16_cmp op _ _ (C16.ofInt_wf t v hv) (show C16.Num.wf (.i b) from hb)]
  exact C16.c16_int_cmp op t .i64 v b hv hb

set_option exponentiation.threshold 2000 in  -- `F.ofBits` scales subnormals by `2 ^ 1074`
/-- The special float inputs, spelled out (any finite bound `c/2^j`): a statement about the documented meaning
    `specCmp` alone; the methods decide it by `c16_float_methods_exact`. -/
theorem c16_float_specials (op : CmpOp) (c : Int) (j : Nat) :
    -- NaN fails everything, as input and as bound
    specCmp op (.f .nan) (.f (.fin c j)) = false ∧ specCmp op (.f (.fin c j)) (.f .nan) = false ∧
    specCmp op (.f .nan) (flit 0) = false ∧
    -- +Inf / −Inf against a finite bound
    specCmp op (.f .pinf) (.f (.fin c j)) = (match op with | .gt | .gte => true | _ => false) ∧
    specCmp op (.f .ninf) (.f (.fin c j)) = (match op with | .lt | .lte => true | _ => false) ∧
    -- infinities against themselves
    specCmp op (.f .pinf) (.f .pinf) = (match op with | .gte | .lte => true | _ => false) ∧
    specCmp op (.f .ninf) (.f .ninf) = (match op with | .gte | .lte => true | _ => false) ∧
    -- negative zero is zero: against the literal 0 of the sign shorthands
    specCmp op (.f (F.ofBits (2 ^ 63))) (flit 0) = (match op with | .gte | .lte => true | _ => false) ∧
    specCmp op (.f (F.ofBits (2 ^ 63))) (.f (.fin c j)) = specCmp op (.f (F.ofBits 0)) (.f (.fin c j)) := by
  cases op <;> exact ⟨rfl, rfl, rfl, rfl, rfl, rfl, rfl, by decide, rfl⟩

example : methodVerdict floatMethods flit "NonNegative" (.f (F.ofBits (2 ^ 63))) (.f .nan) = some true ∧
    methodVerdict floatMethods flit "Positive" (.f (F.ofBits (2 ^ 63))) (.f .nan) = some false ∧
    methodVerdict floatMethods flit "Max" (.f .pinf) (.f (.fin 5 0)) = some false ∧
    methodVerdict integerMethods ilit "Gt" (Num.ofInt .i64 (2 ^ 53 + 1)) (.i (2 ^ 53)) = some true := by
  decide +kernel

end Gozod.C16M
