/-
  C18 — the static catalogue of issue sites against the run (every finalising call is reached, dead, or listed with a
  reason; the observations of the coverage search show what the rows say) and against the creators of internal/issues
  (C04's regenerated tables): "every issue the library can produce" is, like the kinds the property names, a set of
  columns of the locale parameter table.  All of it is decided in one evaluation of the tables, `catalogue_ok`.
-/
import Gozod.Proofs.C18Key
import Gozod.Model.Msg
import Gozod.Gen.IssueSites
import Gozod.Gen.LocaleTable
import Gozod.Gen.IssueCreators
import Gozod.Gen.IssueCodes
namespace Gozod.C18
open Gozod.Msg

/-- finalising calls (file:func:callee#k) that neither a leaf of the behavioural catalogue nor a cell of the coverage search
    (harness/cmd/c18/reach.go: constructor families x modifier variants x inputs, plus typed entry points) reaches and
    that the translator does not find dead by name.  Reasons:
    * `conv`   engine: the final `CreateInvalidTypeError` of a convert-to-constraint-type helper; taken only when a validated
               value of type T (or *T, T) is not convertible to the schema's constraint type R — for the instantiations the
               library makes (R ∈ {T, *T}) `convertToType` succeeds first.  Not proved unreachable: no input of the search takes it.
    * `nil`    engine: the fall-through after `processModifiers` in handleNil*: processModifiersCore answers `handled = true`
               for every nil input except a prefault, which the callers resolve before they call handleNil*.
    * `strict` engine: StrictParse paths whose input is already of the constraint type; the type switch before them is total
               for the types the library instantiates.
    * `typed`  types: the default branch of `switch result.(type)` after engine.ParseComplex, which only yields T, *T or nil.
    * `guard`  types: a guard for a schema value that the constructors cannot produce (nil internals, nil validator).
    * `preset` the issue's message is written before FinalizeIssue runs (a foreign error text): no message source is
               consulted, so the recording map that makes the runtime link is never called.  The call IS executed by the
               run (cells `Intersection…`, `StructShape…`), only not attributable by the stack link.
    * `fold`   finalize.go: MapPropertiesToIssue re-finalises an `element_error` that was finalised before (message preset).
    * `rereport` the raw issues handed to CreateArrayValidationIssues at this call are the element / field issues the nested
               parse has finalised already (message preset); executed by the run like `preset`. -/
def unreachedListed : List (String × String) := [
  ("internal/engine/parser.go:ParseComplexStrict:CreateInvalidTypeError#1", "strict"),
  ("internal/engine/parser.go:handleNilPointer:CreateInvalidTypeError#1", "nil"),
  ("internal/engine/parser.go:handleNilComplex:CreateInvalidTypeError#1", "nil"),
  ("internal/engine/parser.go:coerceToType:CreateInvalidTypeError#1", "conv"),
  ("internal/engine/parser.go:convertNonNilToConstraintType:CreateInvalidTypeError#1", "conv"),
  ("internal/engine/parser.go:convertToDoublePtr:CreateInvalidTypeError#1", "conv"),
  ("internal/engine/parser.go:convertToPtr:CreateInvalidTypeError#1", "conv"),
  ("internal/engine/parser.go:convertToValue:CreateInvalidTypeError#1", "conv"),
  ("internal/engine/parser.go:parseTypedValue:CreateInvalidTypeError#1", "conv"),
  ("internal/engine/parser.go:parseTypedValue:CreateInvalidTypeError#2", "conv"),
  ("internal/engine/parser.go:validateAndReturn:CreateInvalidTypeError#1", "conv"),
  ("internal/engine/parser.go:parsePrimitiveStrictNil:CreateInvalidTypeError#1", "strict"),
  ("internal/engine/parser.go:parsePrimitiveStrictWithChecks:CreateInvalidTypeError#1", "strict"),
  ("internal/engine/parser.go:handleNilPointerStrict:CreateInvalidTypeError#1", "nil"),
  ("internal/engine/parser.go:applyTransformToResult:CreateInvalidTypeError#1", "conv"),
  ("internal/issues/creators.go:CreateCustomError:FinalizeIssue#1", "preset"),
  ("internal/issues/finalize.go:FinalizeIssue:MapPropertiesToIssue#1", "fold"),
  ("internal/issues/finalize.go:MapPropertiesToIssue:FinalizeIssue#1", "fold"),
  ("types/array.go:ZodArray.Parse:CreateInvalidTypeError#1", "typed"),
  ("types/array.go:ZodArray.validate:CreateInvalidTypeError#1", "guard"),
  ("types/enum.go:ZodEnum.validateEnum:CreateArrayValidationIssues#1", "preset"),
  ("types/intersection.go:collectSchemaIssues:FinalizeIssue#1", "preset"),
  ("types/intersection.go:ZodIntersection.validateValue:FinalizeIssue#1", "preset"),
  ("types/intersection.go:mergeMaps:CreateIncompatibleTypesError#1", "guard"),
  ("types/intersection.go:mergeSlices:CreateIncompatibleTypesError#1", "guard"),
  ("types/intersection.go:mergeSlices:CreateIncompatibleTypesError#2", "guard"),
  ("types/map.go:ZodMap.Parse:CreateTypeConversionError#1", "typed"),
  ("types/map.go:ZodMap.extractType:CreateNonOptionalError#1", "nil"),
  ("types/map.go:ZodMap.validateMap:CreateArrayValidationIssues#1", "rereport"),
  ("types/never.go:newNeverValidator:CreateInvalidTypeError#1", "guard"),
  ("types/nil.go:nilValidator:CreateInvalidTypeError#1", "guard"),
  ("types/object.go:ZodObject.Parse:CreateTypeConversionError#1", "typed"),
  ("types/record.go:ZodRecord.Parse:CreateTypeConversionError#1", "typed"),
  ("types/record.go:ZodRecord.validateRecord:CreateInvalidTypeError#1", "guard"),
  ("types/set.go:ZodSet.Parse:CreateTypeConversionError#1", "typed"),
  ("types/set.go:ZodSet.validateForEngine:CreateArrayValidationIssues#1", "rereport"),
  ("types/struct.go:ZodStruct.Parse:CreateTypeConversionError#1", "typed"),
  ("types/struct.go:ZodStruct.createStructTypeError:CreateCustomError#1", "preset"),
  ("types/struct.go:ZodStruct.parseStructWithDefaults:CreateInvalidTypeError#1", "nil"),
  ("types/struct.go:ZodStruct.parseStructWithDefaults:CreateInvalidTypeError#2", "nil"),
  ("types/struct.go:ZodStruct.parseStructWithDefaults:CreateArrayValidationIssues#1", "rereport"),
  ("types/tuple.go:ZodTuple.Parse:CreateInvalidTypeError#1", "typed"),
  ("types/tuple.go:ZodTuple.validateTupleForEngine:CreateArrayValidationIssues#1", "rereport")]

def siteCovered (s : IssueSite) : Bool :=
  !s.reaches || !s.reached.isEmpty || !s.cells.isEmpty || s.dead || (unreachedListed.lookup s.key).isSome

/-- the coverage is not vacuous (`50`, like the `100` of `c18_reach_obs_nonvacuous`, is a floor under the count of a
    table that is regenerated on every run) -/
theorem c18_sites_witnessed :
    (Gozod.Gen.issueSites.filter fun s => s.reaches && (!s.reached.isEmpty || !s.cells.isEmpty)).length ≥ 50 := by
  decide +kernel

/-! Static table = run, for the calls only the coverage search reaches (`c18_static_dynamic` says nothing about the rows
    without a leaf: `reached = []`) -/

/-- the same function as `SrcSet.union` of Proofs/C18.lean -/
def srcUnion' (a b : SrcSet) : SrcSet :=
  ⟨a.check || b.check, a.schema || b.schema, a.parse || b.parse, a.custom || b.custom, a.locale || b.locale⟩

/-- with only `src` configured the message is that source's iff neither the row of the first frame outside
    internal/issues nor the row of FinalizeIssue's caller drops it -/
def reachObsOk (o : String × String × String × String) : Bool :=
  match Gozod.Gen.issueSites.find? (fun s => s.key == o.1), Gozod.Gen.issueSites.find? (fun s => s.key == o.2.1) with
  | some ro, some rf => siteMessage (srcUnion' ro.drops rf.drops).compl (.ofString o.2.2.1) == o.2.2.2
  | _, _ => false

theorem c18_reach_obs_nonvacuous : Gozod.Gen.reachObs.length ≥ 100 := by
  decide +kernel

open Gozod.Gen in
def codeName (i : Nat) : String := (IssueCodes.codes.getD i ("?", "?")).2

/-- the issue codes a creator of internal/issues stamps on what it yields, resolved through the callee chain of C04's table
    (`.param` / `.inherit` = the caller's code or an existing issue's: nothing new).  "?" = not resolved. -/
def codesOf : Nat → Gozod.Gen.IssueCreators.Creator → List String
  | 0, _ => ["?"]
  | fuel + 1, c =>
    let raw := fun (r : Gozod.Gen.IssueCreators.Raw) =>
      match r.code with
      | .consts idx => idx.map codeName
      | .callee =>
        match r.kind with
        | .via j =>
          match Gozod.Gen.IssueCreators.creators[j]? with
          | some c' => codesOf fuel c'
          | none => ["?"]
        | _ => ["?"]
      | .param => []
      | .inherit => []
      | .unknown => ["?"]
    c.raws.flatMap raw ++ c.errs.flatMap (fun e => e.issues.flatMap (fun p => raw p.2))

def splitBar : List Char → List Char → List (List Char)
  | [], acc => [acc.reverse]
  | c :: r, acc => if c == '|' then acc.reverse :: splitBar r [] else splitBar r (c :: acc)

/-- `IssueSite.code` as the translator writes it: the codes separated by '|', "?" for an unresolved one -/
def codesOfSite (s : IssueSite) : List String := (splitBar s.code.toList []).map String.ofList

def underscore (p : String) : String := String.ofList (p.toList.map fun c => if c == ' ' then '_' else c)

/-- the columns of the locale parameter table that a call can produce: its code(s) with the literal origin / format /
    expected type it names (the same function as `producible_kinds` of vlib/c18.py) -/
def siteKinds (s : IssueSite) : List String :=
  if s.cls == "nested" then [] else
  let p := underscore s.param
  (codesOfSite s).flatMap fun code =>
    if code == "invalid_type" then [if p == "" then "invalid_type:bare" else "invalid_type:" ++ p ++ ":in-string"]
    else if code == "too_small" || code == "too_big" then [code ++ ":" ++ p ++ ":th1:inc1"]
    else if code == "invalid_format" then ["invalid_format:" ++ p ++ ":det0"]
    else if code == "invalid_key" || code == "invalid_element" then [code ++ ":" ++ p]
    else if code == "not_multiple_of" then ["not_multiple_of:div1"]
    else if code == "unrecognized_keys" then ["unrecognized_keys:n1"]
    else if code == "invalid_value" then ["invalid_value:n2"]
    else if code == "invalid_union" then ["invalid_union:errors"]
    else if code == "custom" || code == "missing_required" || code == "type_conversion" || code == "invalid_schema"
      || code == "incompatible_types" then [code ++ ":props"]
    else []

/-- calls of a creator of internal/issues' creators.go, which `c18_creators_closed` requires to be in C04's table -/
def createCallee (s : IssueSite) : Bool :=
  s.callee.startsWith "Create" && (s.cls == "raw" || s.cls == "helper")

def sameCodes (a b : List String) : Bool := a.all (b.contains ·) && b.all (a.contains ·)

/-- `codesOf 6`: the fuel bounds the callee chain inside creators.go (one level deep: fuel 2 resolves every creator);
    too little fuel leaves "?", which counts as a failure here, never as agreement. -/
def siteAgrees (s : IssueSite) : Bool :=
  match Gozod.Gen.IssueCreators.creators.find? (fun c => c.name == s.callee) with
  | some c =>
    let cs := codesOf 6 c
    -- an empty list (`.param` / `.inherit`): nothing to compare
    !cs.contains "?" && (cs.isEmpty || sameCodes cs (codesOfSite s))
  | none => !createCallee s

/-- the kinds the property names (columns of the parameter table) -/
def requiredKinds : List String :=
  ["string", "int", "float64", "bool", "object", "slice", "array", "map", "record"].map (fun t => "invalid_type:" ++ t ++ ":in-nil") ++
  (["string", "number", "int", "array", "slice", "map", "set", "file"].flatMap fun o =>
    ["too_small:" ++ o ++ ":th1:inc1", "too_big:" ++ o ++ ":th1:inc1", "too_small:" ++ o ++ ":th1:inc2", "too_big:" ++ o ++ ":th2:inc0"]) ++
  (["email", "url", "uuid", "regex", "starts_with", "ends_with", "includes", "datetime", "date", "time", "duration", "ipv4", "ipv6",
    "cidrv4", "cidrv6", "base64", "base64url", "json_string", "e164", "jwt", "emoji", "nanoid", "guid", "cuid", "cuid2", "ulid", "xid",
    "ksuid", "mac", "lowercase", "uppercase"].flatMap fun f => ["invalid_format:" ++ f ++ ":det0", "invalid_format:" ++ f ++ ":det1"]) ++
  ["not_multiple_of:div0", "not_multiple_of:div1", "not_multiple_of:div2", "unrecognized_keys:n0", "unrecognized_keys:n1",
   "unrecognized_keys:n2", "invalid_union:bare", "invalid_union:errors", "invalid_union:xor", "invalid_value:n0", "invalid_value:n1",
   "invalid_value:n2", "invalid_element:array", "invalid_element:", "invalid_key:record", "invalid_key:map", "invalid_key:bare",
   "custom:bare", "custom:props", "zz_unknown_code:bare"]

def requiredLocales : List String := [
  "ar", "bg", "cs", "da", "de", "en", "es", "fa", "fi", "fr", "he", "hu", "id", "it", "ja", "ko", "ms", "nl", "no",
  "pl", "pt", "ru", "sv", "ta", "th", "tr", "uk", "ur", "vi", "zh", "zh-CN", "zh-TW"]

/-- one evaluation (string comparisons through `natKey`): the parts share the keys of `Gen.localeKinds` and of the rows
    of `Gen.issueSites`, which the kernel then computes once -/
theorem catalogue_ok :
    (∀ s ∈ Gozod.Gen.issueSites, siteCovered s = true ∧ siteAgrees s = true ∧
      ∀ k ∈ siteKinds s, Gozod.Gen.localeKinds.contains k = true) ∧
    (∀ o ∈ Gozod.Gen.reachObs, reachObsOk o = true) ∧
    (∀ c ∈ Gozod.Gen.IssueCreators.creators, ∀ k ∈ codesOf 6 c, Gozod.Gen.localeKinds.contains (k ++ ":bare") = true) ∧
    (∀ c ∈ Gozod.Gen.IssueCodes.codes, Gozod.Gen.localeKinds.contains (c.2 ++ ":bare") = true) ∧
    (∀ l ∈ requiredLocales, (Gozod.Gen.localeRows.lookup l).isSome = true) ∧
    (∀ k ∈ requiredKinds, Gozod.Gen.localeKinds.contains k = true) ∧
    (∀ k ∈ Gozod.Gen.producibleKinds, Gozod.Gen.localeKinds.contains k = true) := by
  simp only [siteCovered, siteAgrees, siteKinds, createCallee, sameCodes, codesOfSite, underscore, reachObsOk,
    IssueSite.reaches, toList_first, beq_natKey, lookup_natKey, contains_natKey, find?_natKey]
  simp (singlePass := true) only [startsWith_first]
  decide +kernel

/-- every call that reaches FinalizeIssue is reached by a leaf of the behavioural catalogue or by a cell of the coverage
    search (runtime stack link), or lies in a function the translator finds unreachable from the public API, or is listed
    in `unreachedListed`.  A new finalising call that no cell reaches changes this obligation. -/
theorem c18_sites_covered : ∀ s ∈ Gozod.Gen.issueSites, siteCovered s = true :=
  fun s hs => (catalogue_ok.1 s hs).1

/-- the two independent go/ast translators agree — wherever a call of C18's static catalogue calls a creator that C04's
    table resolves to constant codes, the code C18's translator recorded for the call (hand-kept `creatorCode` map /
    helper summaries of sites.go) is exactly that set. -/
theorem c18_sites_agree_with_creators : ∀ s ∈ Gozod.Gen.issueSites, siteAgrees s = true :=
  fun s hs => (catalogue_ok.1 s hs).2.1

/-- every call of the static catalogue that creates or finalises an issue names a (code, origin / format / expected
    type) that is a column of the locale parameter table — with the key function `siteKinds` in Lean, so that the
    producible set does not rest on the Python writer. -/
theorem c18_producible_closed :
    ∀ s ∈ Gozod.Gen.issueSites, ∀ k ∈ siteKinds s, Gozod.Gen.localeKinds.contains k = true :=
  fun s hs => (catalogue_ok.1 s hs).2.2

/-- every observation of the coverage search — a constructor family x variant x input whose parse resolved a message at a
    call of the static table, parsed again with one source configured — shows exactly what the go/ast table says about
    that call. -/
theorem c18_static_dynamic_cells : ∀ o ∈ Gozod.Gen.reachObs, reachObsOk o = true :=
  catalogue_ok.2.1

/-- every issue code that a creator of internal/issues can stamp on an issue (C04's go/ast table of creators.go, every
    return statement, resolved through the callee chain) has its bare column in the parameter table. -/
theorem c18_creator_codes_columns :
    ∀ c ∈ Gozod.Gen.IssueCreators.creators, ∀ k ∈ codesOf 6 c, Gozod.Gen.localeKinds.contains (k ++ ":bare") = true :=
  catalogue_ok.2.2.1

/-- every declared issue code (core/constants.go) has a bare column -/
theorem c18_declared_codes_columns :
    ∀ c ∈ Gozod.Gen.IssueCodes.codes, Gozod.Gen.localeKinds.contains (c.2 ++ ":bare") = true :=
  catalogue_ok.2.2.2.1

/-- the regenerated table has a row for every bundled locale and a column for every kind the property names (all
    non-empty by `c18_locales`). -/
theorem c18_locales_cover :
    (∀ l ∈ requiredLocales, (Gozod.Gen.localeRows.lookup l).isSome = true) ∧
    (∀ k ∈ requiredKinds, Gozod.Gen.localeKinds.contains k = true) :=
  ⟨catalogue_ok.2.2.2.2.1, catalogue_ok.2.2.2.2.2.1⟩

/-- every (code, origin / format / expected type) the library's creation sites name in the source — the static
    catalogue `Gen.issueSites`, as keys `Gen.producibleKinds` — is a column of the parameter table: "every issue the
    library can produce" is read off the source, not off a hand-made list. -/
theorem c18_locales_producible : ∀ k ∈ Gozod.Gen.producibleKinds, Gozod.Gen.localeKinds.contains k = true :=
  catalogue_ok.2.2.2.2.2.2

/-- a creator that C04's table does not know makes `siteAgrees` fail -/
theorem c18_creators_closed :
    ∀ s ∈ Gozod.Gen.issueSites, createCallee s = true →
      (Gozod.Gen.IssueCreators.creators.any fun c => c.name == s.callee) = true := by
  intro s hs hc
  have h := c18_sites_agree_with_creators s hs
  unfold siteAgrees at h
  split at h
  next c hfind => exact List.any_eq_true.2 ⟨c, List.mem_of_find?_eq_some hfind, (List.find?_some hfind :)⟩
  next => simp [hc] at h

example : codesOf 6 ⟨"x", true, [], [⟨false, none, "", true,
    [(true, ⟨.via 3, "CreateTooBigIssue", .callee, .callee, false⟩)], false⟩]⟩ = ["too_big"] := by decide +kernel

end Gozod.C18
