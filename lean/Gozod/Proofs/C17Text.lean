/-
  C17, integer text sources without assumptions about strconv: for a string source whose
  text-derived fields are computed by `Gozod.Model.ParseInt` (`StrInfo.ofText`, which is how the
  driver builds every string source), the integer helpers return exactly the integer the text
  denotes — `Denotes`, the positional reading of sign? digit+ — or fail.  The soundness statements are
  `C17.stringToInt64_sound` / `stringToBig_sound` / `toInteger_sound` at the reading `TextInt` of the text,
  with `C17P.parseInt_sound` / `parseBig_sound` where `C17.StrSem` assumes.

  Also here, because they speak of `formatInt` / `Denotes`: what a successful conversion to the string target
  returns (`stringPost`, `c17_string_sound`), and beside it the float32 target (`float32Post`,
  `c17_float32_sound`; its float64 and bool siblings `float64Post`, `boolPost` are in Proofs/C17.lean).
-/
import Gozod.Proofs.C17
import Gozod.Proofs.C17Parse

namespace Gozod.C17T
open Gozod Gozod.Coerce Gozod.ParseInt Gozod.C17P

/-- What a text denotes as an integer: blank (after `TrimSpace`) reads as 0 — the library's
    convention — otherwise the decimal numeral's value. -/
def TextInt (bytes : List Nat) (n : Int) : Prop :=
  (trimSpace bytes = [] ∧ n = 0) ∨ Denotes (trimSpace bytes) n

theorem ofText_blank (b : List Nat) (nm : String) (p q : Option F) :
    ((StrInfo.ofText b nm p q).blank = true) = (trimSpace b = []) :=
  propext List.isEmpty_iff

theorem toInt64_text (b : List Nat) (nm : String) (p q : Option F) :
    toInt64 (.str (StrInfo.ofText b nm p q)) =
      if trimSpace b = [] then .ok 0 else
        match parseInt (trimSpace b) 64 with
        | some i => .ok i
        | none => .error .format := by
  simp only [toInt64, stringToInt64, ofText_blank]
  rfl

/-- ToInt64 of a text is sound: the result is what the text denotes, and an int64. -/
theorem c17_int64_text_sound (b : List Nat) (nm : String) (p q : Option F) (n : Int)
    (h : toInt64 (.str (StrInfo.ofText b nm p q)) = .ok n) : TextInt b n ∧ IntTy.i64.inRange n :=
  C17.stringToInt64_sound (D := TextInt b) (fun hb => .inl ⟨(ofText_blank b nm p q).mp hb, rfl⟩)
    (fun j hj => by
      have ⟨hd, hlo, hhi⟩ := parseInt_sound _ 64 j hj
      exact ⟨.inr hd, (C17.i64_range j).mpr ⟨hlo, Int.le_sub_one_of_lt hhi⟩⟩) h

/-- …and complete on numerals: no spurious failure (leading zeros, a plus sign, blanks around
    it allowed). -/
theorem c17_int64_text_complete (b : List Nat) (nm : String) (p q : Option F) (n : Int)
    (hd : Denotes (trimSpace b) n) (hr : IntTy.i64.inRange n) :
    toInt64 (.str (StrInfo.ofText b nm p q)) = .ok n := by
  rw [toInt64_text, if_neg (denotes_ne_nil _ n hd)]
  have ⟨hlo, hhi⟩ := (C17.i64_range n).mp hr
  rw [parseInt_complete _ 64 n (by decide) hd (by simpa using hlo) (by show n < 2 ^ 63; omega)]

/-- Every other non-blank text is an error: no numeral, or one that does not fit. -/
theorem c17_int64_text_err (b : List Nat) (nm : String) (p q : Option F) (hne : trimSpace b ≠ [])
    (hno : ∀ n, Denotes (trimSpace b) n → ¬ IntTy.i64.inRange n) :
    ∃ e, toInt64 (.str (StrInfo.ofText b nm p q)) = .error e :=
  C17.exists_error_of_ne_ok fun n h => by
    have ⟨ht, hr⟩ := c17_int64_text_sound b nm p q n h
    rcases ht with ⟨hb, _⟩ | hd
    · exact hne hb
    · exact hno n hd hr

/-- ToInteger[T] of a text, every integer target: the denoted value, within the type. -/
theorem c17_integer_text_sound (t : IntTy) (b : List Nat) (nm : String) (p q : Option F) (n : Int)
    (h : toInteger t (.str (StrInfo.ofText b nm p q)) = .ok n) : TextInt b n ∧ t.inRange n :=
  C17.toInteger_sound t (c17_int64_text_sound b nm p q) h

example : toInteger .i8 (.str (StrInfo.ofText [32, 43, 48, 49, 50, 55, 9] "" none none)) = .ok 127 ∧
    toInteger .i8 (.str (StrInfo.ofText [49, 50, 56] "" none none)) = .error .overflow ∧
    toInteger .u8 (.str (StrInfo.ofText [45, 49] "" none none)) = .error .negative ∧
    toInt64 (.str (StrInfo.ofText [49, 95, 48] "" none none)) = .error .format := by
  decide

/-- String target, integer sources: the text is `FormatInt`'s and denotes the source. -/
theorem c17_string_int_sound (f g : F → List Nat) (t : IntTy) (v : Int) :
    toStr f g (.int t v) = .ok (formatInt v) ∧ toStr f g (.big v) = .ok (formatInt v) ∧
    Denotes (formatInt v) v :=
  ⟨rfl, rfl, formatInt_denotes v⟩

/-- `ToInt64(ToString(n)) = n` for every int64. -/
theorem c17_text_roundtrip_i64 (nm : String) (p q : Option F) (n : Int) (hr : IntTy.i64.inRange n) :
    toInt64 (.str (StrInfo.ofText (formatInt n) nm p q)) = .ok n := by
  apply c17_int64_text_complete _ nm p q n _ hr
  rw [trimSpace_formatInt]; exact formatInt_denotes n

theorem toBigInt_text (b : List Nat) (nm : String) (p q : Option F) :
    toBigInt (.str (StrInfo.ofText b nm p q)) =
      if trimSpace b = [] then .ok 0 else
        match parseBig (trimSpace b) 10 with
        | some i => .ok i
        | none => if hasHexPrefix (trimSpace b) then
            (match parseBig ((trimSpace b).drop 2) 16 with
              | some i => .ok i
              | none => .error .format)
          else .error .format := by
  simp only [toBigInt, stringToBig, ofText_blank]
  rfl

/-- `ToBigInt(ToString(n)) = n` for every integer. -/
theorem c17_text_roundtrip_big (nm : String) (p q : Option F) (n : Int) :
    toBigInt (.str (StrInfo.ofText (formatInt n) nm p q)) = .ok n := by
  rw [toBigInt_text, trimSpace_formatInt, if_neg (denotes_ne_nil _ n (formatInt_denotes n)), parseBig_formatInt]

/-- ToBigInt of a text: 0 for a blank text, the numeral's value for a decimal numeral, else —
    after a `0x`/`0X` prefix only — what `SetString(text[2:], 16)` read. -/
theorem c17_bigint_text_sound (b : List Nat) (nm : String) (p q : Option F) (n : Int)
    (h : toBigInt (.str (StrInfo.ofText b nm p q)) = .ok n) :
    TextInt b n ∨ (hasHexPrefix (trimSpace b) = true ∧ parseBig ((trimSpace b).drop 2) 16 = some n) :=
  C17.stringToBig_sound
    (D := fun m => TextInt b m ∨ (hasHexPrefix (trimSpace b) = true ∧ parseBig ((trimSpace b).drop 2) 16 = some m))
    (fun hb => .inl (.inl ⟨(ofText_blank b nm p q).mp hb, rfl⟩))
    (fun _ hj => .inl (.inr (parseBig_sound _ _ hj))) (fun _ hx hj => .inr ⟨hx, hj⟩) h

/-- Witness for the open known finding `sign-after-0x-prefix`: `ToBigInt("0x+1F") = 31`,
    `ToBigInt("0X-ff") = -255`, while `"-0x1F"` is rejected. -/
theorem sign_after_prefix_witness :
    toBigInt (.str (StrInfo.ofText [48, 120, 43, 49, 70] "" none none)) = .ok 31 ∧
    toBigInt (.str (StrInfo.ofText [48, 88, 45, 102, 102] "" none none)) = .ok (-255) ∧
    toBigInt (.str (StrInfo.ofText [45, 48, 120, 49, 70] "" none none)) = .error .format := by
  decide

def float32Post (r : F) : Src → Prop
  | .f32 x => r = x ∧ x ≠ .nan
  | .f64 x => x ≠ .nan ∧ absGtMaxF32 x = false ∧ r = roundF32 x
  | .int _ v => r = .fin (toF32Int v) 0
  | .bool b => r = roundF32 (.fin (boolInt b) 0)
  | .str i => (i.blank = true ∧ r = .fin 0 0) ∨ (i.pFloat32 = some r ∧ r ≠ .nan)
  | .big v => r = bigToF32 v ∧ ∃ a k, r = .fin a k
  | .cplx _ _ mag => absGtMaxF32 mag = false ∧ r = roundF32 mag   -- the magnitude (known finding)
  | _ => False

/-- C17 (float32 target, value). What a successful `ToFloat[float32]` returns, by source kind (`float32Post`): every
    source is rounded ONCE (a float64 after the `> MaxFloat32` guard: `C17F.toFloat32_f64_value`; an integer to 24
    bits: `C17.roundTo_correct`). -/
theorem c17_float32_sound (s : Src) (r : F) (h : toFloat32 s = .ok r) : float32Post r s := by
  cases s with
  | int t v => cases h; rfl
  | f32 x => exact C17.notNaN_eq_ok.mp h
  | f64 x =>
    obtain ⟨f, h64, hg, rfl⟩ := C17.toFloat32_of64 rfl h
    obtain ⟨rfl, hn⟩ := C17.notNaN_eq_ok.mp h64
    exact ⟨hn, hg, rfl⟩
  | bool b =>
    obtain ⟨f, h64, _, rfl⟩ := C17.toFloat32_of64 rfl h
    cases h64; rfl
  | str i => exact C17.stringToFloat_ok _ _ r h
  | big v =>
    rw [C17.toFloat32_big] at h
    exact C17.finOrOverflow_ok _ _ h
  | cplx re im mag =>
    obtain ⟨f, h64, hg, rfl⟩ := C17.toFloat32_of64 rfl h
    cases h64; exact ⟨hg, rfl⟩
  | nilptr => cases h
  | other => cases h

example : toFloat32 (.f64 (.fin (2 ^ 24 + 1) 24)) = .ok (.fin (2 ^ 23) 23) ∧
    float32Post (.fin (2 ^ 23) 23) (.f64 (.fin (2 ^ 24 + 1) 24)) := by
  refine ⟨by decide, by simp, by decide, by decide⟩

/-- What a successful `ToString` must have returned (`f`, `g` = `FormatFloat(x,'g',-1,32|64)`). -/
def stringPost (f g : F → List Nat) (bs : List Nat) : Src → Prop
  | .str i => bs = i.bytes
  | .bool b => bs = strBytes (if b then "true" else "false")
  | .int _ v => bs = formatInt v ∧ Denotes bs v
  | .big v => bs = formatInt v ∧ Denotes bs v
  | .f32 x => bs = f x
  | .f64 x => bs = g x
  | _ => False

/-- C17 (string target). What a successful `ToString` returns, by source kind (`stringPost`): an integer is the
    decimal numeral that denotes it; a float is `strconv.FormatFloat(x,'g',-1,bits)`, a parameter (judged by the
    value its text denotes in the correspondence). -/
theorem c17_string_sound (f g : F → List Nat) (s : Src) (bs : List Nat) (h : toStr f g s = .ok bs) :
    stringPost f g bs s := by
  cases s with
  | str i => injection h with h; exact h.symm
  | bool b => injection h with h; exact h.symm
  | int t v => injection h with h; subst h; exact ⟨rfl, formatInt_denotes v⟩
  | big v => injection h with h; subst h; exact ⟨rfl, formatInt_denotes v⟩
  | f32 x => injection h with h; exact h.symm
  | f64 x => injection h with h; exact h.symm
  | cplx _ _ _ => cases h
  | nilptr => cases h
  | other => cases h

/-! ## An independent reading of "the text, trimmed" for ASCII text

  `TextInt` is defined through the model's own `trimSpace`.  For a text `l ++ core ++ r` — `l`, `r` runs of the six
  ASCII blanks, `core` printable non-blank ASCII — the integer reading is stated on `core`, without `trimSpace`. -/

def AsciiBlank (b : Nat) : Prop := b = 9 ∨ b = 10 ∨ b = 11 ∨ b = 12 ∨ b = 13 ∨ b = 32

theorem spaceAtHead_blank (b : Nat) (rest : List Nat) (h : AsciiBlank b) : spaceAtHead (b :: rest) = 1 := by
  rcases h with rfl | rfl | rfl | rfl | rfl | rfl <;> rfl

theorem spaceAtEndRev_blank (b : Nat) (rest : List Nat) (h : AsciiBlank b) : spaceAtEndRev (b :: rest) = 1 := by
  rcases h with rfl | rfl | rfl | rfl | rfl | rfl <;> rfl

theorem trimSpace_ascii_frame (l core r : List Nat) (hl : ∀ b ∈ l, AsciiBlank b) (hr : ∀ b ∈ r, AsciiBlank b)
    (hc : ∀ b ∈ core, 33 ≤ b ∧ b ≤ 127) : trimSpace (l ++ core ++ r) = core :=
  trimSpace_frame l core r
    (fun b hb rest => spaceAtHead_blank b rest ((List.mem_append.mp hb).elim (hl b) (hr b)))
    (fun b hb rest => spaceAtEndRev_blank b rest (hr b hb)) hc

theorem c17_int64_text_sound_ascii (l core r : List Nat) (nm : String) (p q : Option F) (n : Int)
    (hl : ∀ b ∈ l, AsciiBlank b) (hr : ∀ b ∈ r, AsciiBlank b) (hc : ∀ b ∈ core, 33 ≤ b ∧ b ≤ 127)
    (h : toInt64 (.str (StrInfo.ofText (l ++ core ++ r) nm p q)) = .ok n) :
    ((core = [] ∧ n = 0) ∨ Denotes core n) ∧ IntTy.i64.inRange n := by
  have ⟨ht, hrange⟩ := c17_int64_text_sound (l ++ core ++ r) nm p q n h
  unfold TextInt at ht
  rw [trimSpace_ascii_frame l core r hl hr hc] at ht
  exact ⟨ht, hrange⟩

example : toInt64 (.str (StrInfo.ofText ([32, 9] ++ [45, 52, 50] ++ [10]) "" none none)) = .ok (-42) := by decide

end Gozod.C17T
