/-
  C16, the float branch of `validate.MultipleOf` (the documented ε-rule), the other direction:
  what an *accepted* value satisfies.

  `c16_float_multiple_sound_bound`: the distance from an accepted `v` to a neighbouring multiple
  of `d` is below `ε = max(1e-10, fl(|d|·1e-6))`, up to one rounding of the subtraction `r − |d|`
  (relative 2^-53, absolute 2^-1075 in the subnormal range).  `remainder_is_distance` says that
  `r` and `|d| − r` are such distances; the two theorems are not combined into one inequality.
-/
import Gozod.Proofs.C16Float
import Gozod.Proofs.C17Round

set_option exponentiation.threshold 2000  -- the statements hold `2 ^ 1074`, `2 ^ 1075` (the smallest subnormal, half of it)
namespace Gozod.C16F
open Gozod Gozod.Coerce Gozod.NumFloat

/-- The shape of the rounding bound.  `n/K` is rounded to `m/K' = W/K`; if the rounding loses at
    most a relative `1 - P1/P` (`n·P1 ≤ W·P`) or at most an absolute `1/T` (`n·T ≤ W·T + K`), then
    `n/K · P1/P ≤ m/K' + 1/T`. -/
theorem lower_of_scaled {n m K K' W T P1 P : Nat} (hq : m * K = W * K') (hP : P1 ≤ P)
    (h : n * P1 ≤ W * P ∨ n * T ≤ W * T + K) : n * K' * P1 * T ≤ (m * T + K') * K * P := by
  have h' : n * P1 * T ≤ (W * T + K) * P := by
    rcases h with h | h
    · calc n * P1 * T ≤ W * P * T := Nat.mul_le_mul_right T h
        _ = W * T * P := Nat.mul_right_comm ..
        _ ≤ (W * T + K) * P := Nat.mul_le_mul_right P (Nat.le_add_right ..)
    · calc n * P1 * T ≤ n * P * T := Nat.mul_le_mul_right T (Nat.mul_le_mul_left n hP)
        _ = n * T * P := Nat.mul_right_comm ..
        _ ≤ (W * T + K) * P := Nat.mul_le_mul_right P h
  calc n * K' * P1 * T = K' * (n * P1 * T) := by ac_rfl
    _ ≤ K' * ((W * T + K) * P) := Nat.mul_le_mul_left _ h'
    _ = (W * K' * T + K' * K) * P := by rw [← Nat.mul_assoc, Nat.mul_add]; ac_rfl
    _ = (m * T + K') * K * P := by rw [← hq, Nat.add_mul (m * T)]; ac_rfl

/-- Rounding to nearest at an ulp `Z` that is at most `n / C` loses at most a relative `1/(2C)`. -/
theorem keyA (n W Z C P1 P : Nat) (hP : P = P1 + 1) (hC : P = 2 * C) (h1 : 2 * n ≤ 2 * W + Z) (h2 : Z * C ≤ n) :
    n * P1 ≤ W * P := by
  have a1 : n * P = n * P1 + n := by rw [hP, Nat.mul_add, Nat.mul_one]
  have a2 : n * P = (2 * n) * C := by rw [hC]; ac_rfl
  have a3 : (2 * n) * C ≤ (2 * W + Z) * C := Nat.mul_le_mul_right _ h1
  have a4 : (2 * W + Z) * C = W * P + Z * C := by rw [hC, Nat.add_mul]; congr 1; ac_rfl
  omega

/-- Transitivity with the denominators cleared: the bound `U` of `roundMag_lower` on the exact difference `M/KK`
    by its rounding `m/k2`, and the test the code passed, `V : m/k2 < e/m2`, bound `M/KK` by `ε = e/m2`. -/
theorem arithC (M m e k2 m2 KK T P1 P : Nat) (hKK : 0 < KK) (hT : 0 < T) (hPp : 0 < P)
    (U : M * k2 * P1 * T ≤ (m * T + k2) * KK * P) (V : m * m2 < e * k2) :
    M * m2 * P1 * T < (e * T + m2) * P * KK := by
  apply Nat.lt_of_mul_lt_mul_left (a := k2)
  calc k2 * (M * m2 * P1 * T) = (M * k2 * P1 * T) * m2 := by ac_rfl
    _ ≤ ((m * T + k2) * KK * P) * m2 := Nat.mul_le_mul_right _ U
    _ = ((m * m2) * T + k2 * m2) * (KK * P) := by
        have : (m * T + k2) * m2 = (m * m2) * T + k2 * m2 := by rw [Nat.add_mul]; congr 1; ac_rfl
        rw [← this]; ac_rfl
    _ < ((e * k2) * T + k2 * m2) * (KK * P) := by
        apply Nat.mul_lt_mul_of_pos_right
        · apply Nat.add_lt_add_right
          exact Nat.mul_lt_mul_of_pos_right V hT
        · exact Nat.mul_pos hKK hPp
    _ = k2 * ((e * T + m2) * P * KK) := by
        have : (e * k2) * T + k2 * m2 = k2 * (e * T + m2) := by rw [Nat.mul_add]; congr 1; ac_rfl
        rw [this]; ac_rfl

/-- With `(m, k') = roundMag 53 1074 n k` (the float64 nearest to `n/2^k`):
    `n/2^k · (1 − 2^-53) ≤ m/2^k' + 2^-1075`. -/
theorem roundMag_lower (n k : Nat) (hn : n ≠ 0) :
    n * 2 ^ (roundMag 53 1074 n k).2 * 9007199254740991 * 2 ^ 1075 ≤
      ((roundMag 53 1074 n k).1 * 2 ^ 1075 + 2 ^ (roundMag 53 1074 n k).2) * 2 ^ k * 9007199254740992 := by
  obtain ⟨_, hu⟩ := C17.roundMag_correct 53 1074 n k hn
  have hu' := hu _ rfl
  generalize hA : (((n.log2 : Nat) : Int) + 1 - 1 - ((k : Nat) : Int) - (((53 : Nat) : Int) - 1)) = A at hu'
  by_cases hs : ((k : Nat) : Int) + max A (-((1074 : Nat) : Int)) ≤ 0
  · -- nothing to round
    rw [hu'.1 hs]
    exact lower_of_scaled rfl (by decide) (.inl (Nat.mul_le_mul_left n (by decide)))
  · have hq := hu'.2 (by omega)
    generalize hsd : (((k : Nat) : Int) + max A (-((1074 : Nat) : Int))).toNat = s at hq
    have hnear := (C17.rneDiv_nearest n s (by omega)).2.1
    refine lower_of_scaled hq (by decide) ?_
    generalize rneDiv n s * 2 ^ s = W at hnear ⊢
    by_cases hA' : A ≥ -1074
    · -- normal range: half an ulp is 2^s/2 and 2^s · 2^52 = 2^(log2 n) ≤ n
      have h2 : 2 ^ s * 4503599627370496 ≤ n := by
        rw [show 4503599627370496 = 2 ^ 52 by decide, ← Nat.pow_add, show s + 52 = n.log2 by omega]
        exact Nat.log2_self_le hn
      exact .inl (keyA n W _ 4503599627370496 _ _ (by decide) (by decide) hnear h2)
    · -- subnormal range: the ulp is 2^-1074, 2^k = 2^s · 2^1074
      have hk : (2 : Nat) ^ k = 2 ^ s * 2 ^ 1074 := by rw [← Nat.pow_add, show s + 1074 = k by omega]
      refine .inr ?_
      calc n * 2 ^ 1075 = 2 * n * 2 ^ 1074 := by rw [Nat.pow_succ]; ac_rfl
        _ ≤ (2 * W + 2 ^ s) * 2 ^ 1074 := Nat.mul_le_mul_right _ hnear
        _ = W * 2 ^ 1075 + 2 ^ k := by rw [Nat.add_mul, hk, Nat.pow_succ 2 1074]; ac_rfl

/-- If `MultipleOf(v, d)` holds for finite `v = a/2^k` and
    finite non-zero `d = b/2^l`, then with `r = |fmod(v, d)|` (numerator `R` over `2^(k+l)`),
    `|d|` (numerator `D`) and `ε = e/2^m` the float the code computes:
    `r < ε`, or `r < |d|` and `(|d| − r)·(2^53 − 1)/2^53 < ε + 2^-1075`.
    `heps` only names ε: it is finite unless `|d|·1e-6` rounds to +Inf, which no binary64 `d` does. -/
theorem c16_float_multiple_sound_bound (a b : Int) (k l : Nat) (hb : b ≠ 0) (e : Int) (m : Nat)
    (heps : epsOf (.fin b l) = .fin e m) (h : floatMultipleOf (.fin a k) (.fin b l) = true) :
    0 < e ∧
    ((Int.tmod (a * 2 ^ l) (b * 2 ^ k)).natAbs * 2 ^ m < e.toNat * 2 ^ (k + l) ∨
     ((Int.tmod (a * 2 ^ l) (b * 2 ^ k)).natAbs < b.natAbs * 2 ^ k ∧
      (b.natAbs * 2 ^ k - (Int.tmod (a * 2 ^ l) (b * 2 ^ k)).natAbs) * 2 ^ m * 9007199254740991 * 2 ^ 1075 <
        (e.toNat * 2 ^ 1075 + 2 ^ m) * 9007199254740992 * 2 ^ (k + l))) := by
  have hepos := epsOf_pos b l e m heps
  refine ⟨hepos, ?_⟩
  obtain ⟨en, rfl⟩ := Int.eq_ofNat_of_zero_le (Int.le_of_lt hepos)
  simp only [Int.toNat_natCast]
  rw [floatMultipleOf_fin a b k l hb, heps, Bool.or_eq_true] at h
  generalize hR : (Int.tmod (a * 2 ^ l) (b * 2 ^ k)).natAbs = R at h ⊢
  have hD : R < b.natAbs * 2 ^ k := by
    rw [← hR, Int.natAbs_tmod, Int.natAbs_mul b, Int.natAbs_pow]
    apply Nat.mod_lt
    exact Nat.mul_pos (by omega) (Nat.pow_pos (by decide))
  rcases h with h | h
  · left
    rw [flt_fin] at h
    exact_mod_cast h
  · right
    refine ⟨hD, ?_⟩
    generalize hDd : b.natAbs * 2 ^ k = D at hD ⊢
    -- the subtraction r − |d|, rounded
    have hN : (R : Int) * 2 ^ l - (b.natAbs : Int) * 2 ^ (k + l) = -(((D - R) * 2 ^ l : Nat) : Int) := by
      rw [Int.natCast_mul, Int.natCast_sub (Nat.le_of_lt hD), ← hDd, Int.natCast_mul, Int.natCast_pow, Int.natCast_pow,
        Int.pow_add, Int.sub_mul, Int.neg_sub, Int.mul_assoc]
      rfl
    have hM : (D - R) * 2 ^ l ≠ 0 := Nat.mul_ne_zero (by omega) (Nat.pos_iff_ne_zero.mp (Nat.pow_pos (by decide)))
    simp only [fsub, rnd, hN] at h
    have hneg : -(((D - R) * 2 ^ l : Nat) : Int) < 0 := by
      have : 0 < (D - R) * 2 ^ l := Nat.pos_of_ne_zero hM
      omega
    have hlow := roundMag_lower ((D - R) * 2 ^ l) (k + l + l) hM
    obtain ⟨m', k', hrm, e | ⟨_, e⟩⟩ := C17.roundFin_cases 53 1074 1024 (-(((D - R) * 2 ^ l : Nat) : Int)) (k + l + l) <;>
      rw [e, if_pos hneg] at h
    · rw [Int.natAbs_neg, Int.natAbs_natCast] at hrm
      rw [hrm] at hlow
      simp only [fabs, Int.natAbs_neg, Int.natAbs_natCast] at h hlow
      rw [flt_fin] at h
      have V : m' * 2 ^ m < en * 2 ^ k' := by exact_mod_cast h
      have hC := arithC ((D - R) * 2 ^ l) m' en (2 ^ k') (2 ^ m) (2 ^ (k + l + l)) (2 ^ 1075)
        9007199254740991 9007199254740992 (Nat.pow_pos (by decide)) (Nat.pow_pos (by decide)) (by decide) hlow V
      -- cancel 2^l
      apply Nat.lt_of_mul_lt_mul_right (a := 2 ^ l)
      calc (D - R) * 2 ^ m * 9007199254740991 * 2 ^ 1075 * 2 ^ l
          = (D - R) * 2 ^ l * 2 ^ m * 9007199254740991 * 2 ^ 1075 := by ac_rfl
        _ < (en * 2 ^ 1075 + 2 ^ m) * 9007199254740992 * 2 ^ (k + l + l) := hC
        _ = (en * 2 ^ 1075 + 2 ^ m) * 9007199254740992 * 2 ^ (k + l) * 2 ^ l := by
            rw [Nat.pow_add 2 (k + l) l]; ac_rfl
    · -- the difference overflowed to -Inf: |-Inf| < ε is false
      simp [fabs, flt, F.cmp] at h

theorem natAbs_toward (r y : Int) (hlt : r.natAbs < y.natAbs) :
    (r - y).natAbs = y.natAbs - r.natAbs ∨ (r + y).natAbs = y.natAbs - r.natAbs := by
  obtain ⟨a, rfl | rfl⟩ := Int.eq_nat_or_neg r <;> obtain ⟨b, rfl | rfl⟩ := Int.eq_nat_or_neg y <;>
    simp only [Int.natAbs_neg, Int.natAbs_natCast] at hlt ⊢
  · left; omega
  · right; omega
  · right; omega
  · left; omega

/-- `r` and `|d| − r` are the distances from `v` to the two multiples of `d` enclosing it:
    with `x = a·2^l`, `y = b·2^k` (so `v/d = x/y`), `n₀ = trunc(x/y)`:
    `|x − n₀·y| = |x tmod y|`, and for one of `n₁ = n₀ + 1`, `n₁ = n₀ − 1` (the one away from zero;
    the statement does not say which), `|x − n₁·y| = |y| − |x tmod y|`. -/
theorem remainder_is_distance (x y : Int) (hy : y ≠ 0) :
    (x - Int.tdiv x y * y).natAbs = (Int.tmod x y).natAbs ∧
    ∃ n1 : Int, (n1 = Int.tdiv x y + 1 ∨ n1 = Int.tdiv x y - 1) ∧
      (x - n1 * y).natAbs = y.natAbs - (Int.tmod x y).natAbs := by
  have hdm : Int.tdiv x y * y + Int.tmod x y = x := by rw [Int.mul_comm]; exact Int.mul_tdiv_add_tmod x y
  have hlt : (Int.tmod x y).natAbs < y.natAbs := by
    rw [Int.natAbs_tmod]; exact Nat.mod_lt _ (Int.natAbs_pos.mpr hy)
  generalize Int.tdiv x y = q at hdm ⊢
  generalize Int.tmod x y = r at hdm hlt ⊢
  subst hdm
  refine ⟨congrArg Int.natAbs (by omega), ?_⟩
  rcases natAbs_toward r y hlt with h | h
  · exact ⟨q + 1, .inl rfl, by rw [← h, Int.add_mul, Int.one_mul]; congr 1; omega⟩
  · exact ⟨q - 1, .inr rfl, by rw [← h, Int.sub_mul, Int.one_mul]; congr 1; omega⟩

/-- The hypothesis of the bound is met: 0.3 against 0.1 (`fmod(0.3, 0.1)` is within ε of 0.1, the
    case the second test exists for) and 10000005 against 10^7. -/
example : floatMultipleOf (F.ofBits 0x3FD3333333333333) (F.ofBits 0x3FB999999999999A) = true ∧
    floatMultipleOf (.fin 10000005 0) (.fin 10000000 0) = true := by decide +kernel

end Gozod.C16F
