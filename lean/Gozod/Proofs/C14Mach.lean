/-
  C14 — the code model as a machine, over ALL interleavings.

  `Conc.stepC` is the code of the registry and of the configuration as atomic steps: a registry call, Config() and
  SetConfig(nil) are one step; SetConfig(cfg) is a Load and then CompareAndSwaps until one succeeds.

  For EVERY schedule of such steps (any number of threads, any interleaving, failed swaps included; no legacy `store`)
  the shared state at the end and the results the calls returned are those of the sequential specification `apply` run
  over the operations that took effect, in the order they took effect (`runC_refines_apply`; `effOps`: an atomic call at
  its step, a SetConfig at its successful swap).  Hence no update is lost (`setconfig_no_lost_update`; the witness for
  the legacy Load/Store is `C14.setconfig_lost_update`).
  `Conc.replay` — which the driver RUNS on every recorded history — finds only genuine executions of the machine within
  the recorded invocation/response windows, and every such execution is linearizable against `apply`
  (`replay_linearizable`).
-/
import Gozod.Model.Conc
import Gozod.Proofs.C14Lin

namespace Gozod.C14
open Gozod.Conc

theorem run_cons (σ : St) (o : Op) (r : List Op) : run σ (o :: r) = run (apply σ o).1 r := rfl

theorem run_append (a b : List Op) (σ : St) : run σ (a ++ b) = run (run σ a) b :=
  List.foldl_append

theorem results_append : ∀ (a b : List Op) (σ : St), results σ (a ++ b) = results σ a ++ results (run σ a) b
  | [], _, _ => rfl
  | o :: a, b, σ => congrArg ((apply σ o).2 :: ·) (results_append a b (apply σ o).1)

theorem runC_cons (s : CState) (a : Act) (r : List Act) :
    runC s (a :: r) = ((runC (stepC s a).1 r).1, (stepC s a).2 :: (runC (stepC s a).1 r).2) := rfl

theorem outputs_cons (o : Option Res) (os : List (Option Res)) : outputs (o :: os) = o.toList ++ outputs os := by
  cases o <;> rfl

/-- the operation that takes effect at one step of the machine -/
def took (s : CState) : Act → Option Op
  | .atomic _ op => some op
  | .casStore tid c l => if loadedOf tid s.loaded = (s.σ.custom, s.σ.locale) then some (.cfgSet c l) else none
  | _ => none

theorem effOps_cons (s : CState) (a : Act) (r : List Act) :
    effOps s (a :: r) = (took s a).toList ++ effOps (stepC s a).1 r := by
  cases a with
  | casStore tid c l => simp only [effOps, took]; split <;> rfl
  | _ => rfl

theorem stepC_took (s : CState) (a : Act) (h : a.isStore = false) :
    (stepC s a).1.σ = run s.σ (took s a).toList ∧ (stepC s a).2 = (took s a).map fun op => (apply s.σ op).2 := by
  cases a with
  | atomic tid op => exact ⟨rfl, rfl⟩
  | load tid => exact ⟨rfl, rfl⟩
  | store tid c l => cases h
  | casStore tid c l =>
    by_cases hc : loadedOf tid s.loaded = (s.σ.custom, s.σ.locale)
    · have e := Prod.mk.inj (cas_success_is_atomic s tid c l hc)
      simp only [took, hc, if_true]
      exact e
    · simp only [took, hc, if_false]
      exact cas_failure_no_effect s tid c l hc

theorem runC_refines_apply : ∀ (acts : List Act) (s : CState), (∀ a ∈ acts, a.isStore = false) →
    (runC s acts).1.σ = run s.σ (effOps s acts) ∧ outputs (runC s acts).2 = results s.σ (effOps s acts)
  | [], _, _ => ⟨rfl, rfl⟩
  | a :: r, s, h => by
    obtain ⟨ih1, ih2⟩ := runC_refines_apply r (stepC s a).1 fun x hx => h x (List.mem_cons_of_mem _ hx)
    obtain ⟨e1, e2⟩ := stepC_took s a (h a List.mem_cons_self)
    rw [runC_cons, effOps_cons, run_append, results_append, outputs_cons, ih1, ih2, e1, e2]
    cases took s a <;> exact ⟨rfl, rfl⟩

/-- inhabited: the CompareAndSwap interleaving of the lost-update witness; three operations take effect, in the
    order 1, 2, 3 -/
example : effOps ⟨St.init, []⟩ [.load 1, .load 2, .casStore 1 7 0, .casStore 2 0 9, .casStore 2 0 9, .atomic 3 .cfgGet]
    = [.cfgSet 7 0, .cfgSet 0 9, .cfgGet] := by decide +kernel

def keepsCustom : Op → Bool
  | .cfgReset => false
  | .cfgSet c _ => c == 0
  | _ => true

def keepsLocale : Op → Bool
  | .cfgReset => false
  | .cfgSet _ l => l == 0
  | _ => true

theorem apply_keeps_custom (o : Op) (h : keepsCustom o = true) (σ : St) : (apply σ o).1.custom = σ.custom := by
  cases o with
  | cfgReset => cases h
  | cfgSet c l => simp only [apply, merge, if_pos (beq_iff_eq.1 h)]
  | _ => rfl

theorem apply_keeps_locale (o : Op) (h : keepsLocale o = true) (σ : St) : (apply σ o).1.locale = σ.locale := by
  cases o with
  | cfgReset => cases h
  | cfgSet c l => simp only [apply, merge, if_pos (beq_iff_eq.1 h)]
  | _ => rfl

/-- sequentially: what a SetConfig set stays set until a later SetConfig sets that field again or a reset happens. -/
theorem cfgSet_persists (pre post : List Op) (σ : St) (c l : Nat) :
    (c ≠ 0 → (∀ o ∈ post, keepsCustom o = true) → (run σ (pre ++ .cfgSet c l :: post)).custom = c) ∧
    (l ≠ 0 → (∀ o ∈ post, keepsLocale o = true) → (run σ (pre ++ .cfgSet c l :: post)).locale = l) := by
  rw [run_append, run_cons]
  constructor
  · intro hc hp
    rw [run_keeps (·.custom) post _ fun o ho => apply_keeps_custom o (hp o ho)]
    simp only [apply, merge, if_neg hc]
  · intro hl hp
    rw [run_keeps (·.locale) post _ fun o ho => apply_keeps_locale o (hp o ho)]
    simp only [apply, merge, if_neg hl]

/-- over EVERY schedule of the machine (any interleaving of loads, failed and successful swaps of any number of
    threads): if a SetConfig setting CustomError = c took effect and every operation that took effect after it leaves
    CustomError alone, the final configuration has CustomError = c (likewise LocaleError). -/
theorem setconfig_no_lost_update (acts : List Act) (s : CState) (hs : ∀ a ∈ acts, a.isStore = false)
    (pre post : List Op) (c l : Nat) (he : effOps s acts = pre ++ .cfgSet c l :: post) :
    (c ≠ 0 → (∀ o ∈ post, keepsCustom o = true) → (runC s acts).1.σ.custom = c) ∧
    (l ≠ 0 → (∀ o ∈ post, keepsLocale o = true) → (runC s acts).1.σ.locale = l) := by
  rw [(runC_refines_apply acts s hs).1, he]
  exact cfgSet_persists pre post s.σ c l

/-- inhabited: in the CompareAndSwap interleaving of the witness both updates survive -/
example : (runC ⟨St.init, []⟩ [.load 1, .load 2, .casStore 1 7 0, .casStore 2 0 9, .casStore 2 0 9]).1.σ.custom = 7 :=
  (setconfig_no_lost_update _ _ (by decide +kernel) [] [.cfgSet 0 9] 7 0 (by decide +kernel)).1 (by decide +kernel) (by decide +kernel)

/-- an execution of the machine that completes the pending calls with the recorded results, every step taken by a call
    that no unfinished call precedes in real time -/
inductive Exec : CState → List PCall → Prop
  | done (s) : Exec s []
  | ret (s : CState) (ps : List PCall) (p : PCall) (r : Res) : p ∈ ps → (∀ d ∈ ps, precedes d.c p.c = false) →
      (stepC s p.act).2 = some r → r = p.c.res → Exec (stepC s p.act).1 (ps.erase p) → Exec s ps
  | cont (s : CState) (ps : List PCall) (p : PCall) : p ∈ ps → (∀ d ∈ ps, precedes d.c p.c = false) →
      (stepC s p.act).2 = none → Exec (stepC s p.act).1 (ps.erase p ++ [{ p with loaded := true }]) → Exec s ps

/-- what the driver's search accepts is an execution of the machine. -/
theorem replay_sound : ∀ (fuel : Nat) (s : CState) (ps : List PCall), replay fuel s ps = true → Exec s ps
  | _, s, [], _ => Exec.done s
  | 0, _, _ :: _, h => by simp [replay] at h
  | fuel + 1, s, q :: qs, h => by
    simp only [replay, List.any_eq_true, Bool.and_eq_true, List.all_eq_true, Bool.not_eq_true'] at h
    obtain ⟨p, hp, hpre, hstep⟩ := h
    cases hr : (stepC s p.act).2 with
    | some r =>
      rw [hr] at hstep
      simp only [Bool.and_eq_true, beq_iff_eq] at hstep
      exact Exec.ret s _ p r hp hpre hr hstep.1 (replay_sound fuel _ _ hstep.2)
    | none =>
      rw [hr] at hstep
      exact Exec.cont s _ p hp hpre hr (replay_sound fuel _ _ hstep)

theorem took_act (s : CState) (p : PCall) :
    p.act.isStore = false ∧ (took s p.act = none ∨ took s p.act = some p.c.op) := by
  unfold PCall.act
  split
  · rename_i c l hop
    rw [hop]
    by_cases hl : p.loaded = true
    · simp only [hl, if_true, took]
      split
      · exact ⟨rfl, Or.inr rfl⟩
      · exact ⟨rfl, Or.inl rfl⟩
    · simp only [hl]
      exact ⟨rfl, Or.inl rfl⟩
  · exact ⟨rfl, Or.inr rfl⟩

theorem pcall_step (s : CState) (p : PCall) :
    ((stepC s p.act).2 = none ∧ (stepC s p.act).1.σ = s.σ) ∨
    ((stepC s p.act).2 = some (apply s.σ p.c.op).2 ∧ (stepC s p.act).1.σ = (apply s.σ p.c.op).1) := by
  obtain ⟨hs, ht⟩ := took_act s p
  obtain ⟨e1, e2⟩ := stepC_took s p.act hs
  rw [e1, e2]
  rcases ht with ht | ht <;> rw [ht]
  · exact .inl ⟨rfl, rfl⟩
  · exact .inr ⟨rfl, rfl⟩

/-- every execution of the machine — any interleaving of the atomic steps of the pending calls within their recorded
    windows, loads and failed swaps included — yields a linearizable history (the conclusion is `Linearizable s.σ (ps.map (·.c))`,
    unfolded): the order in which the calls returned is a linearization. -/
theorem exec_linearizable {s : CState} {ps : List PCall} (h : Exec s ps) :
    ∃ l : List Call, l.Perm (ps.map (·.c)) ∧ rtOrdered l = true ∧ seqValid s.σ l = true := by
  show Linearizable s.σ (ps.map (·.c))
  induction h with
  | done s => exact .nil s.σ
  | ret s ps p r hp hpre hstep hres _ ih =>
    -- the step that returns is the call's operation taking effect: the call goes first
    obtain ⟨e2, e1⟩ := (pcall_step s p).resolve_left fun h => by rw [h.1] at hstep; cases hstep
    refine .cons ((List.perm_cons_erase hp).map PCall.c) (fun d hd => ?_)
      ((Option.some.inj (e2.symm.trans hstep)).trans hres) (e1 ▸ ih)
    obtain ⟨q, hq, rfl⟩ := List.mem_map.1 hd
    exact hpre q (List.mem_of_mem_erase hq)
  | cont s ps p hp hpre hstep _ ih =>
    -- a load or a failed swap: the shared state is as before and the same calls are pending
    obtain ⟨l, hperm, hrt, hsv⟩ := ((pcall_step s p).resolve_right fun h => by rw [h.1] at hstep; cases hstep).2 ▸ ih
    refine ⟨l, ?_, hrt, hsv⟩
    rw [List.map_append] at hperm
    exact hperm.trans ((List.perm_append_singleton p.c _).trans ((List.perm_cons_erase hp).map PCall.c).symm)

theorem replay_linearizable (σ : St) (h : List Call) (hr : replayable σ h = true) : Linearizable σ h := by
  obtain ⟨l, hperm, hrt, hsv⟩ := exec_linearizable (replay_sound _ _ _ hr)
  refine ⟨l, ?_, hrt, hsv⟩
  simpa only [List.map_map, Function.comp_def, List.map_id'] using hperm

/-- inhabited: the machine produces the CompareAndSwap history of the witness's interleaving, and cannot produce the
    lost-update history of the legacy code -/
example : replayable St.init [⟨1, .cfgSet 7 0, .cfg 7 0, 0, 5⟩, ⟨2, .cfgSet 0 9, .cfg 7 9, 1, 6⟩, ⟨3, .cfgGet, .cfg 7 9, 7, 8⟩] = true ∧
    replayable St.init lostHist = false := by decide +kernel

end Gozod.C14
