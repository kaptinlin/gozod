/-
  C11 — the structured fragment `J1` of documents (Model/FromJson.lean): on a `good` document `fromJS` (= jsonschema/from.go)
  returns `fromJ1` (`conv`), and that schema accepts exactly the instances valid against the document (`equivJ`); for the
  round trip, `fromJ1` of an `rt` document lies in C07's fragment (`reprJ`).  `.fmt name gd` carries its strings on both
  sides: what a format means is Proofs/C11Format.lean.
-/
import Gozod.Proofs.C07
import Gozod.Model.FromJson
namespace Gozod.C11
open Gozod.Jsc Gozod.C07

variable {fx : Fx}

theorem collect_ofList (T : Str → Bool) (st : Bool) (l : List Kw) (p : Parts) :
    collect fx T st (KwList.ofList l) p = l.foldl (fun p k => addKw fx T st k p) p := by
  induction l generalizing p with
  | nil => rfl
  | cons k ks ih => simp only [KwList.ofList, collect, ih, List.foldl_cons]

theorem fromJS_node (T : Str → Bool) (st : Bool) (l : List Kw) :
    fromJS fx T st (.node (KwList.ofList l)) = assemble fx T st (l.foldl (fun p k => addKw fx T st k p) {}) := by
  simp only [fromJS, collect_ofList]

theorem assemble_byType (T : Str → Bool) (st : Bool) (p : Parts) (h0 : p.ref = none) (h1 : p.others = [])
    (h2 : p.allOf = none) (h3 : p.anyOf = none) (h4 : p.oneOf = none) (h5 : p.const = none) (h6 : p.enum = none) :
    assemble fx T st p = convByType fx (fx.strictProp && st) p := by
  simp only [assemble, h0, h1, h2, h3, h4, h5, h6, List.find?_nil, ite_self]

theorem fromJS_const (T : Str → Bool) (st : Bool) (p : Prim) : fromJS fx T st (.node (.ofList [.const p])) = litOf p := by
  simp only [fromJS_node, List.foldl_cons, List.foldl_nil, addKw, assemble, List.find?_nil, ite_self]

theorem fromJS_enum (T : Str → Bool) (st : Bool) (ps : List Prim) (h : ps ≠ []) :
    fromJS fx T st (.node (.ofList [.enum ps]))
      = match allStrs ps with
        | some strs => .ok (.enum strs)
        | none => match seqR (ps.map litOf) with
            | .error e => .error e
            | .ok ss => .ok (unionOf fx ss) := by
  obtain ⟨v, vs, rfl⟩ := List.exists_cons_of_ne_nil h
  simp only [fromJS_node, List.foldl_cons, List.foldl_nil, addKw, assemble, List.find?_nil, ite_self]
  rfl

/-- an optional keyword whose clause of `addKw` stores its value in a field that is still empty stores the option there
    (`set` = the field update).  With it the canonical documents with optional keywords need no case split, which would
    carry the 24-field record through every case. -/
theorem foldl_optKw {α : Type} {T : Str → Bool} {st : Bool} (f : α → Kw) (set : Option α → Parts → Parts)
    (hf : ∀ a p, addKw fx T st (f a) p = set (some a) p) (o : Option α) (p : Parts) (hp : set none p = p) :
    (optKw o f).foldl (fun p k => addKw fx T st k p) p = set o p := by
  cases o
  · exact hp.symm
  · exact hf _ p

/-! the list companions of `fromJ1` as plain lists (`okList` / `okProps`: what `fromList` / `fromProps` return) -/

def okList (fx : Fx) : J1List → List R
  | .nil => []
  | .cons d ds => .ok (fromJ1 fx d) :: okList fx ds

def sList (fx : Fx) : J1List → List S
  | .nil => []
  | .cons d ds => fromJ1 fx d :: sList fx ds

def okProps (fx : Fx) : J1Props → List (Str × R)
  | .nil => []
  | .cons k d r => (k, .ok (fromJ1 fx d)) :: okProps fx r

def sProps (fx : Fx) : J1Props → List (Str × S)
  | .nil => []
  | .cons k d r => (k, fromJ1 fx d) :: sProps fx r

theorem seqR_okList : (ds : J1List) → seqR (okList fx ds) = .ok (sList fx ds)
  | .nil => rfl
  | .cons d ds => by simp only [okList, sList, seqR, seqR_okList ds]

theorem slistOf_sList : (ds : J1List) → slistOf (sList fx ds) = fromJ1L fx ds
  | .nil => rfl
  | .cons d ds => by simp only [sList, slistOf, fromJ1L, slistOf_sList ds]

theorem shapeOf_sProps : (ps : J1Props) → shapeOf (sProps fx ps) = fromJ1P fx ps
  | .nil => rfl
  | .cons k d r => by simp only [sProps, shapeOf, fromJ1P, shapeOf_sProps r]

theorem sProps_keys : (ps : J1Props) → (sProps fx ps).map (·.1) = ps.keys
  | .nil => rfl
  | .cons k d r => by simp only [sProps, J1Props.keys, List.map_cons, sProps_keys r]

theorem sList_length : (ds : J1List) → (sList fx ds).length = ds.length
  | .nil => rfl
  | .cons d ds => by simp only [sList, J1List.length, List.length_cons, sList_length ds]

theorem convProps_ok (se : Bool) (req : List Str) : (ps : J1Props) → (∀ k ∈ ps.keys, k ∈ req) →
    convProps se req (okProps fx ps) = .ok (sProps fx ps)
  | .nil, _ => rfl
  | .cons k d r, h => by
    simp only [J1Props.keys, List.forall_mem_cons] at h
    simp only [okProps, sProps, convProps, convProps_ok se req r h.2, List.contains_iff_mem, h.1, if_true]

theorem addRequired_self (v : S) (ps : J1Props) : addRequired v ps.keys (sProps fx ps) = sProps fx ps := by
  have : ps.keys.filter (fun k => !((sProps fx ps).map (·.1)).contains k) = [] := by
    simp [sProps_keys, List.filter_eq_nil_iff]
  simp only [addRequired, this, List.eraseDups_nil, List.map_nil, List.append_nil]

theorem goodM_goodL : (ds : J1List) → goodM fx ds = true → goodL fx ds = true
  | .nil, _ => rfl
  | .cons d ds, h => by
    simp only [goodM, Bool.and_eq_true] at h
    simp only [goodL, h.1.1, goodM_goodL ds h.2, Bool.and_self]

theorem allStrs_map (vs : List Str) : allStrs (vs.map Prim.str) = some vs := by
  induction vs with
  | nil => rfl
  | cons v vs ih => simp only [List.map_cons, allStrs, ih, Option.map_some]

/-! #### the nil tests of `unionOf` / `xorOf` / `andOf` (`admitsNil` = `ParseAny(nil)` succeeds) never fire on the fragment -/

theorem null_rejected : (d : J1) → (fromJ1 fx d).acceptsNull = false → admitsNil (fromJ1 fx d) = false
  | .ref d, hn => by
    simp only [fromJ1] at hn ⊢; exact null_rejected d hn
  | .const p, hn => by
    cases p with
    | null => simp [fromJ1, S.acceptsNull] at hn
    | _ => simp only [fromJ1, admitsNil, accepts, List.any_cons, List.any_nil, Json.isPrim, Bool.or_false]
  | .null, hn | .any, hn | .tru, hn => by simp [fromJ1, S.acceptsNull] at hn
  | .str _ _ _, _ | .num _ _ _ _ _, _ | .bool, _ | .fls, _ | .arr _ _ _, _ | .tup _, _ | .obj _ _, _ | .objC _ _, _
  | .rcd _, _ | .enumS _, _ | .enumP _, _ | .anyOf _, _ | .oneOf _, _ | .allOf2 _ _, _ | .fmt _ _, _ => rfl

theorem members_noNil : (ds : J1List) → goodM fx ds = true → ∀ s ∈ sList fx ds, admitsNil s = false
  | .nil, _ => by simp [sList]
  | .cons d ds, h => by
    simp only [goodM, Bool.and_eq_true, Bool.not_eq_true'] at h
    simp only [sList, List.forall_mem_cons]
    exact ⟨null_rejected d h.1.2, members_noNil ds h.2⟩

theorem sList_noNil : (ds : J1List) → goodM fx ds = true → (sList fx ds).any admitsNil = false :=
  fun ds h => List.any_eq_false.2 (fun s hs => by simp [members_noNil ds h s hs])

theorem sList_countNil : (ds : J1List) → goodM fx ds = true → (sList fx ds).countP admitsNil = 0 :=
  fun ds h => List.countP_eq_zero.2 (fun s hs => by simp [members_noNil ds h s hs])

theorem isPrim_null (p : Prim) : Json.null.isPrim p = (Prim.null == p) := by cases p <;> rfl

theorem lits_admitNil (ps : List Prim) : (ps.map (fun p => S.lit [p])).any admitsNil = ps.contains .null := by
  simp only [List.any_map, Function.comp_def, admitsNil, accepts, List.any_cons, List.any_nil, Bool.or_false, isPrim_null,
    List.contains_eq_any_beq]

theorem lits_noNil (ps : List Prim) (h : ps.contains .null = false) :
    (ps.map (fun p => S.lit [p])).any admitsNil = false :=
  (lits_admitNil ps).trans h

theorem nilIf_false (s : S) : nilIf false s = s := rfl

theorem tupRest_closed (n : Nat) : tupRest fx (some n) n = .none := by
  simp [tupRest]

theorem litOf_ne_null (p : Prim) (h : (Prim.null == p) = false) : litOf p = .ok (.lit [p]) := by
  cases p with
  | null => exact absurd h (by decide)
  | _ => rfl

theorem seqR_lits (ps : List Prim) (h : ps.contains .null = false) :
    seqR (ps.map litOf) = .ok (ps.map (fun p => S.lit [p])) := by
  induction ps with
  | nil => rfl
  | cons p ps ih =>
    simp only [List.contains_cons, Bool.or_eq_false_iff] at h
    simp only [List.map_cons, seqR, litOf_ne_null p h.1, ih h.2]

theorem slistOf_lits (ps : List Prim) : slistOf (ps.map (fun p => S.lit [p])) = litsOf ps := by
  induction ps with
  | nil => rfl
  | cons p ps ih => simp only [List.map_cons, slistOf, litsOf, ih]

theorem unionOf_noNil (ss : List S) (h : ss.any admitsNil = false) : unionOf fx ss = .union (slistOf ss) := by
  simp only [unionOf, h, Bool.and_false, nilIf_false]

theorem xorOf_noNil (ss : List S) (h : ss.countP admitsNil = 0) : xorOf fx ss = .xor (slistOf ss) := by
  simp [xorOf, h, nilIf_false]

theorem boolOf_doc (d : J1) (h : isBoolDoc d = false) : boolOf d.doc = none := by
  cases d with
  | tru | fls => exact absurd h (by decide)
  | _ => rfl

theorem convObject_props (se : Bool) (p : Parts) (ps : J1Props) (hne : ps.keys ≠ [])
    (hp : p.properties = some (okProps fx ps)) (hr : p.required = ps.keys) :
    convObject fx se p = objOf fx se p (sProps fx ps) := by
  cases ps with
  | nil => exact absurd rfl hne
  | cons k d r =>
    have hc := convProps_ok (fx := fx) se p.required (.cons k d r) (by simp [hr])
    simp only [okProps] at hp hc
    simp only [convObject, hp, hc]

mutual
theorem conv (T : Str → Bool) (st : Bool) : (d : J1) → good fx d = true → fromJS fx T st d.doc = .ok (fromJ1 fx d)
  | .str mn mx pat, _ => by
    simp only [J1.doc, fromJS_node, List.foldl_append, List.foldl_cons, List.foldl_nil, addKw,
      foldl_optKw Kw.minLength (fun v p => { p with minLength := v }) (fun _ _ => rfl),
      foldl_optKw Kw.maxLength (fun v p => { p with maxLength := v }) (fun _ _ => rfl),
      foldl_optKw Kw.pattern (fun v p => { p with pattern := v }) (fun _ _ => rfl),
      assemble_byType, convByType, convOneType, convString, strCks, fromJ1]
  | .num mn mx emn emx mul, _ => by
    simp only [J1.doc, fromJS_node, List.foldl_append, List.foldl_cons, List.foldl_nil, addKw,
      foldl_optKw Kw.minimum (fun v p => { p with minimum := v }) (fun _ _ => rfl),
      foldl_optKw Kw.maximum (fun v p => { p with maximum := v }) (fun _ _ => rfl),
      foldl_optKw Kw.exclusiveMinimum (fun v p => { p with exMin := v }) (fun _ _ => rfl),
      foldl_optKw Kw.exclusiveMaximum (fun v p => { p with exMax := v }) (fun _ _ => rfl),
      foldl_optKw Kw.multipleOf (fun v p => { p with mul := v }) (fun _ _ => rfl),
      assemble_byType, convByType, convOneType, convNumber, fromJ1]
  | .bool, _ | .null, _ => by
    simp only [J1.doc, fromJS_node, List.foldl_cons, List.foldl_nil, addKw, assemble_byType, convByType, convOneType, fromJ1]
  | .any, _ => by simp only [J1.doc, fromJS, collect, assemble_byType, convByType, fromJ1]
  | .tru, _ | .fls, _ => by simp only [J1.doc, fromJS, fromJ1]
  | .arr it mn mx, h => by
    simp only [good] at h
    simp only [J1.doc, fromJS_node, List.foldl_append, List.foldl_cons, List.foldl_nil, addKw,
      foldl_optKw Kw.minItems (fun v p => { p with minItems := v }) (fun _ _ => rfl),
      foldl_optKw Kw.maxItems (fun v p => { p with maxItems := v }) (fun _ _ => rfl),
      assemble_byType, convByType, convOneType, convArray, conv T st it h, fromJ1]
  | .tup .nil, h => by simp [good, J1List.length] at h
  | .tup (.cons d ds), h => by
    simp only [good, Bool.and_eq_true] at h
    simp only [J1.doc, fromJS_node, List.foldl_cons, List.foldl_nil, addKw, assemble_byType, convByType, convOneType,
      convArray, convL T st (.cons d ds) h.1, okList, seqR, seqR_okList ds, slistOf, slistOf_sList, List.length_cons,
      sList_length, J1List.length, tupRest_closed, fromJ1, fromJ1L]
  | .obj props closed, h => by
    simp only [good, Bool.and_eq_true, Bool.not_eq_true', List.isEmpty_eq_false_iff] at h
    cases closed <;>
      simp only [J1.doc, fromJS_node, List.foldl_cons, List.foldl_nil, List.append_nil, List.cons_append, List.nil_append,
        if_true, Bool.false_eq_true, if_false, addKw, assemble_byType, convByType, convOneType, convP T st props h.1,
        convObject_props (ps := props) (hne := h.2), objOf, addRequired_self, shapeOf_sProps, fromJS, boolOf, fromJ1]
  | .objC props ca, h => by
    simp only [good, Bool.and_eq_true, Bool.not_eq_true', List.isEmpty_eq_false_iff] at h
    obtain ⟨⟨⟨hp, hk⟩, hca⟩, hnb⟩ := h
    simp only [J1.doc, fromJS_node, List.foldl_cons, List.foldl_nil, addKw, assemble_byType, convByType, convOneType,
      convP T st props hp, conv T st ca hca, boolOf_doc ca hnb, convObject_props (ps := props) (hne := hk), objOf,
      addRequired_self, shapeOf_sProps, fromJ1]
  | .rcd v, h => by
    simp only [good] at h
    simp only [J1.doc, fromJS_node, List.foldl_cons, List.foldl_nil, addKw, assemble_byType, convByType, convOneType,
      convObject, conv T st v h, fromJ1, List.isEmpty_nil, Bool.not_true, Bool.and_false, Bool.false_eq_true, if_false]
  | .const p, _ => by
    rw [J1.doc, fromJS_const]
    cases p <;> rfl
  | .enumS vs, h => by
    simp only [good, Bool.not_eq_true', List.isEmpty_eq_false_iff] at h
    rw [J1.doc, fromJS_enum T st _ (mt List.map_eq_nil_iff.1 h), allStrs_map, fromJ1]
  | .enumP ps, h => by
    simp only [good, Bool.and_eq_true, Bool.not_eq_true', List.isEmpty_eq_false_iff, Option.isNone_iff_eq_none] at h
    rw [J1.doc, fromJS_enum T st ps h.1.1, h.1.2]
    simp only [seqR_lits _ h.2, unionOf_noNil _ (lits_noNil _ h.2), slistOf_lits, fromJ1]
  | .anyOf .nil, h | .anyOf (.cons _ .nil), h | .oneOf .nil, h | .oneOf (.cons _ .nil), h => by
    simp [good, J1List.length] at h
  | .anyOf (.cons a (.cons b ms)), h => by
    simp only [good, Bool.and_eq_true] at h
    have hn := sList_noNil _ h.1
    simp only [sList] at hn
    simp only [J1.doc, fromJS_node, List.foldl_cons, List.foldl_nil, addKw, assemble, convL T st _ (goodM_goodL _ h.1),
      okList, seqR, seqR_okList ms, unionOf_noNil _ hn, slistOf, slistOf_sList, fromJ1, fromJ1L, List.find?_nil, ite_self]
  | .oneOf (.cons a (.cons b ms)), h => by
    simp only [good, Bool.and_eq_true] at h
    have hn := sList_countNil _ h.1
    simp only [sList] at hn
    simp only [J1.doc, fromJS_node, List.foldl_cons, List.foldl_nil, addKw, assemble, convL T st _ (goodM_goodL _ h.1),
      okList, seqR, seqR_okList ms, xorOf_noNil _ hn, slistOf, slistOf_sList, fromJ1, fromJ1L, List.find?_nil, ite_self]
  | .allOf2 a b, h => by
    simp only [good, Bool.and_eq_true, Bool.not_eq_true'] at h
    obtain ⟨⟨⟨⟨⟨ha, hb⟩, hna⟩, _⟩, _⟩, _⟩ := h
    simp only [J1.doc, fromJS_node, List.foldl_cons, List.foldl_nil, addKw, assemble, fromList, conv T st a ha,
      conv T st b hb, seqR, chainAnd, andOf, List.all_cons, null_rejected a hna, Bool.false_and, Bool.and_false,
      nilIf_false, fromJ1, List.find?_nil, ite_self]
  | .ref d, h => by
    simp only [good] at h
    simp only [J1.doc, fromJS_node, List.foldl_cons, List.foldl_nil, addKw, assemble, conv T st d h, fromJ1]
  | .fmt name gd, h => by
    simp only [good, Bool.and_eq_true] at h
    simp only [J1.doc, fromJS_node, List.foldl_cons, List.foldl_nil, addKw, assemble_byType, convByType, convOneType,
      convString, h.1, if_true, strCks, optL, List.append_nil, List.isEmpty_nil, Bool.not_true, Bool.and_false,
      Bool.false_eq_true, if_false, fromJ1]

theorem convL (T : Str → Bool) (st : Bool) : (ds : J1List) → goodL fx ds = true → fromList fx T st (docList ds) = okList fx ds
  | .nil, _ => rfl
  | .cons d ds, h => by
    simp only [goodL, Bool.and_eq_true] at h
    simp only [docList, fromList, okList, conv T st d h.1, convL T st ds h.2]

theorem convP (T : Str → Bool) (st : Bool) : (ps : J1Props) → goodP fx ps = true → fromProps fx T st (docProps ps) = okProps fx ps
  | .nil, _ => rfl
  | .cons k d r, h => by
    simp only [goodP, Bool.and_eq_true] at h
    simp only [docProps, fromProps, okProps, conv T st d h.1, convP T st r h.2]
end

theorem all_optL {α β : Type} (o : Option α) (f : α → β) (p : β → Bool) : (optL o f).all p = o.all (fun a => p (f a)) := by
  cases o <;> simp [optL]

theorem isSome_ite {α : Type} (b : Bool) (a : α) : (if b = true then some a else none).isSome = b := by
  cases b <;> rfl

theorem patCk_holds (p : Pat) (s : Str) : (patCk p).holds s = p.holds s := by
  cases p <;> rfl

theorem sholds_min (n : Nat) (s : Str) : (StrCk.min n).holds s = decide (n ≤ byteLen s) := rfl
theorem sholds_max (n : Nat) (s : Str) : (StrCk.max n).holds s = decide (byteLen s ≤ n) := rfl

/-- the string checks of `fromJ1` are in the order the document can express: lengths first, no `Trim`. -/
theorem strCks_fromJ1 (mn mx : Option Nat) (pat : Option Pat) :
    strLenOK (optL mn StrCk.min ++ optL mx StrCk.max ++ optL pat patCk) = true
      ∧ noTrim (optL mn StrCk.min ++ optL mx StrCk.max ++ optL pat patCk) = true := by
  cases pat with
  | none => cases mn <;> cases mx <;> exact ⟨rfl, rfl⟩
  | some p => cases p <;> cases mn <;> cases mx <;> exact ⟨rfl, rfl⟩

theorem fromJ1_notOpt : (d : J1) → (fromJ1 fx d).isOpt = false
  | .ref d => by simpa only [fromJ1] using fromJ1_notOpt d
  | .const p => by cases p <;> rfl
  | .str _ _ _ | .num _ _ _ _ _ | .bool | .null | .any | .tru | .fls | .arr _ _ _ | .tup _ | .obj _ _ | .objC _ _ | .rcd _
  | .enumS _ | .enumP _ | .anyOf _ | .oneOf _ | .allOf2 _ _ | .fmt _ _ => rfl

theorem reqCount_fromJ1L : (ds : J1List) → reqCount (fromJ1L fx ds) = ds.length
  | .nil => rfl
  | .cons d ds => by
    simp only [fromJ1L, reqCount, reqCount_fromJ1L ds, fromJ1_notOpt d, J1List.length]
    split <;> simp_all

theorem fromJ1L_length : (ds : J1List) → (fromJ1L fx ds).length = ds.length
  | .nil => rfl
  | .cons d ds => by simp only [fromJ1L, SList.length, J1List.length, fromJ1L_length ds]

theorem docList_length : (ds : J1List) → (docList ds).length = ds.length
  | .nil => rfl
  | .cons d ds => by simp only [docList, JSList.length, J1List.length, docList_length ds]

theorem docProps_keys : (ps : J1Props) → (docProps ps).keys = ps.keys
  | .nil => rfl
  | .cons k d r => by simp only [docProps, JSProps.keys, J1Props.keys, docProps_keys r]

theorem fromJ1P_keys : (ps : J1Props) → (fromJ1P fx ps).keys = ps.keys
  | .nil => rfl
  | .cons k d r => by simp only [fromJ1P, Shape.keys, J1Props.keys, fromJ1P_keys r]

theorem anyAccepts_slistOf (x : Json) : (l : List S) → anyAccepts (slistOf l) x = l.any (fun s => accepts s x)
  | [] => rfl
  | s :: l => by simp only [slistOf, anyAccepts, List.any_cons, anyAccepts_slistOf x l]

theorem countAccepts_slistOf (x : Json) : (l : List S) → countAccepts (slistOf l) x = l.countP (fun s => accepts s x)
  | [] => rfl
  | s :: l => by
    simp only [slistOf, countAccepts, List.countP_cons, countAccepts_slistOf x l]; omega

theorem anyAccepts_lits (ps : List Prim) (x : Json) : anyAccepts (litsOf ps) x = ps.any (fun p => x.isPrim p) := by
  simp only [← slistOf_lits, anyAccepts_slistOf, List.any_map, Function.comp_def, accepts, List.any_cons, List.any_nil,
    Bool.or_false]

theorem fromJ1L_null (ds : J1List) (h : goodM fx ds = true) :
    anyAccepts (fromJ1L fx ds) .null = false ∧ countAccepts (fromJ1L fx ds) .null = 0 := by
  rw [← slistOf_sList]
  exact ⟨(anyAccepts_slistOf .null _).trans (sList_noNil ds h), (countAccepts_slistOf .null _).trans (sList_countNil ds h)⟩

theorem propKeys_obj (ps : JSProps) (l : List Kw) :
    (KwList.ofList (.type .object :: .properties ps :: l)).propKeys = ps.keys := rfl

mutual
theorem equivJ : (d : J1) → (x : Json) → good fx d = true → instOK x = true → jsValid d.doc x = accepts (fromJ1 fx d) x
  | .str mn mx pat, x, _, hx => by
    cases x with
    | str s =>
      have hb := byteLen_ascii s hx
      simp only [J1.doc, fromJ1, jsValid_node, accepts, runStr_noTrim _ s (strCks_fromJ1 mn mx pat).2, List.all_append,
        List.all_cons, List.all_nil, all_optKw, all_optL, kwValid, typeOk, sholds_min, sholds_max, patCk_holds, hb,
        Bool.true_and, Bool.and_true, isSome_ite]
    | _ => rfl
  | .num mn mx emn emx mul, x, _, _ => by
    cases x with
    | num q =>
      simp only [J1.doc, fromJ1, jsValid_node, accepts, List.all_append, List.all_cons, List.all_nil, all_optKw, all_optL,
        kwValid, typeOk, NumCk.holds, Int.one_mul, Bool.true_and, Bool.and_true]
    | _ => rfl
  | .bool, x, _, _ | .null, x, _, _ => by cases x <;> rfl
  | .any, _, _, _ | .tru, _, _, _ | .fls, _, _, _ => rfl
  | .arr it mn mx, x, h, hx => by
    simp only [good] at h
    cases x with
    | arr xs =>
      have ih := all_congr_list _ _ (fun v hv => equivJ it v h hv) xs hx
      have hp : (KwList.ofList ([.type .array, .items it.doc] ++ optKw mn .minItems ++ optKw mx .maxItems)).nPrefix = 0 := by
        cases mn <;> cases mx <;> rfl
      simp only [J1.doc, fromJ1, jsValid_node, hp, accepts, szOk, List.all_append, all_optKw, all_optL, List.all_cons,
        List.all_nil, kwValid, typeOk, JsonList.drop, ih, SzCk.holds, Bool.true_and, Bool.and_assoc]
      rw [Bool.and_comm, Bool.and_assoc]
    | _ => rfl
  | .tup items, x, h, hx => by
    simp only [good, Bool.and_eq_true, decide_eq_true_eq] at h
    cases x with
    | arr xs =>
      simp only [J1.doc, jsValid_node, List.all_cons, List.all_nil, kwValid, typeOk, equivItems items xs h.1 hx, fromJ1,
        accepts, reqCount_fromJ1L, fromJ1L_length, restAccepts, szOk_nil, Bool.and_true, Bool.true_and]
      rw [Bool.and_comm, Bool.and_assoc]
    | _ => rfl
  | .obj props closed, x, h, hx => by
    simp only [good, Bool.and_eq_true] at h
    cases x with
    | obj fs =>
      have ih := equivProps props fs h.1 hx
      cases closed
      · simp only [J1.doc, Bool.false_eq_true, if_false, List.append_nil, jsValid_node, List.all_cons, List.all_nil, kwValid,
          typeOk, Bool.true_and, Bool.and_true, fromJ1, accepts, szOk_nil, ← ih]
        cases hfo : fx.openObj <;> simp [openMode, hfo, catchAccepts]
      · simp only [J1.doc, if_true, List.cons_append, List.nil_append, jsValid_node, propKeys_obj, List.all_cons,
          List.all_nil, kwValid, typeOk, Bool.true_and, Bool.and_true, fromJ1, accepts, szOk_nil, jsValid, Bool.or_false,
          docProps_keys, fromJ1P_keys, ← ih, Bool.and_assoc]
    | _ => cases closed <;> rfl
  | .objC props ca, x, h, hx => by
    simp only [good, Bool.and_eq_true] at h
    cases x with
    | obj fs =>
      have ihc := all_congr_fields
        (fun k v => props.keys.contains k || jsValid ca.doc v) (fun k v => props.keys.contains k || accepts (fromJ1 fx ca) v)
        (fun k v _ hv => by simp only [equivJ ca v h.1.2 hv]) fs hx
      simp only [J1.doc, jsValid_node, propKeys_obj, List.all_cons, List.all_nil, kwValid, typeOk, Bool.true_and,
        Bool.and_true, fromJ1, accepts, szOk_nil, docProps_keys, fromJ1P_keys, catchAccepts, ihc,
        ← equivProps props fs h.1.1.1 hx, Bool.and_assoc]
    | _ => rfl
  | .rcd v, x, h, hx => by
    simp only [good] at h
    exact recordNode_equiv (jk := none) (kcks := []) (hk := fun _ _ => rfl) (hv := fun w => equivJ v w h) (cks := [])
      (hsz := rfl) x hx
  | .const p, x, _, _ => by
    cases p with
    | null => cases x <;> rfl
    | _ => simp only [J1.doc, jsValid_node, List.all_cons, List.all_nil, kwValid, fromJ1, accepts, List.any_cons,
        List.any_nil, Bool.and_true, Bool.or_false]
  | .enumS vs, x, _, _ => by
    simp only [J1.doc, jsValid_node, List.all_cons, List.all_nil, kwValid, Bool.and_true, List.any_map, fromJ1, accepts]
    cases x with
    | str s => simp only [Function.comp_def, Json.isPrim, List.contains_eq_any_beq]
    | _ => exact List.any_eq_false.2 (fun _ _ => Bool.false_ne_true)
  | .enumP ps, x, h, _ => by
    simp only [good, Bool.and_eq_true, Bool.not_eq_true'] at h
    have hn : ps.any (fun p => Json.null.isPrim p) = false := by
      simp only [isPrim_null, ← List.contains_eq_any_beq, h.2]
    simp only [J1.doc, jsValid_node, List.all_cons, List.all_nil, kwValid, Bool.and_true, fromJ1, accepts, anyAccepts_lits]
    -- a gozod Union / Xor / Intersection rejects nil before its members are asked, JSON Schema has no such step: `good`
    -- makes the members reject nil too (here and in the three cases below)
    exact (and_notNull (f := fun x => ps.any (fun p => x.isPrim p)) x hn).symm
  | .anyOf ms, x, h, hx => by
    simp only [good, Bool.and_eq_true] at h
    simp only [J1.doc, jsValid_node, List.all_cons, List.all_nil, kwValid, Bool.and_true, fromJ1, accepts,
      equivAny ms x h.1 hx]
    exact (and_notNull (f := anyAccepts (fromJ1L fx ms)) x (fromJ1L_null ms h.1).1).symm
  | .oneOf ms, x, h, hx => by
    simp only [good, Bool.and_eq_true] at h
    simp only [J1.doc, jsValid_node, List.all_cons, List.all_nil, kwValid, Bool.and_true, fromJ1, accepts,
      equivCount ms x h.1 hx]
    exact (and_notNull (f := fun x => countAccepts (fromJ1L fx ms) x == 1) x (by rw [(fromJ1L_null ms h.1).2]; rfl)).symm
  | .allOf2 a b, x, h, hx => by
    simp only [good, Bool.and_eq_true, Bool.not_eq_true'] at h
    obtain ⟨⟨⟨⟨⟨ha, hb⟩, hna⟩, _⟩, _⟩, _⟩ := h
    simp only [J1.doc, jsValid_node, List.all_cons, List.all_nil, kwValid, Bool.and_true, allValid, fromJ1, accepts,
      equivJ a x ha hx, equivJ b x hb hx, Bool.and_assoc]
    exact (and_notNull (f := fun x => accepts (fromJ1 fx a) x && accepts (fromJ1 fx b) x) x
      (by rw [show accepts (fromJ1 fx a) .null = false from null_rejected a hna]; rfl)).symm
  | .ref d, x, h, hx => by
    simp only [good] at h
    simp only [J1.doc, jsValid_node, List.all_cons, List.all_nil, kwValid, Bool.and_true, fromJ1, equivJ d x h hx]
  | .fmt name gd, x, h, _ => by
    simp only [good, Bool.and_eq_true] at h
    cases x with
    | str s => simp only [J1.doc, jsValid_node, List.all_cons, List.all_nil, kwValid, typeOk, h.1, fromJ1, accepts,
        Bool.not_true, Bool.false_or, Bool.true_and, Bool.and_true]
    | _ => rfl

theorem equivItems : (ds : J1List) → (xs : JsonList) → goodL fx ds = true → instListOK xs = true →
    prefixValid (docList ds) xs = itemsAccept (fromJ1L fx ds) xs
  | .nil, _, _, _ | .cons _ _, .nil, _, _ => rfl
  | .cons d ds, .cons x xs, h, hx => by
    simp only [goodL, Bool.and_eq_true] at h
    simp only [instListOK, Bool.and_eq_true] at hx
    simp only [docList, fromJ1L, prefixValid, itemsAccept, equivJ d x h.1 hx.1, equivItems ds xs h.2 hx.2]

theorem equivAny : (ds : J1List) → (x : Json) → goodM fx ds = true → instOK x = true →
    anyValid (docList ds) x = anyAccepts (fromJ1L fx ds) x
  | .nil, _, _, _ => rfl
  | .cons d ds, x, h, hx => by
    simp only [goodM, Bool.and_eq_true] at h
    simp only [docList, fromJ1L, anyValid, anyAccepts, equivJ d x h.1.1 hx, equivAny ds x h.2 hx]

theorem equivCount : (ds : J1List) → (x : Json) → goodM fx ds = true → instOK x = true →
    countValid (docList ds) x = countAccepts (fromJ1L fx ds) x
  | .nil, _, _, _ => rfl
  | .cons d ds, x, h, hx => by
    simp only [goodM, Bool.and_eq_true] at h
    simp only [docList, fromJ1L, countValid, countAccepts, equivJ d x h.1.1 hx, equivCount ds x h.2 hx]

theorem equivProps : (ps : J1Props) → (fs : JsonFields) → goodP fx ps = true → instFieldsOK fs = true →
    (propsValid (docProps ps) fs && ps.keys.all (fun k => fs.hasKey k)) = shapeAccepts false (fromJ1P fx ps) fs
  | .nil, _, _, _ => rfl
  | .cons k d r, fs, h, hfs => by
    simp only [goodP, Bool.and_eq_true] at h
    simp only [docProps, fromJ1P, propsValid, shapeAccepts, J1Props.keys, List.all_cons, Bool.false_or, fromJ1_notOpt d,
      ← equivProps r fs h.2 hfs, JsonFields.hasKey]
    cases hf : fs.find k with
    | none => simp
    | some v =>
      simp only [equivJ d v h.1 (find_instOK k v fs hfs hf), Option.isSome_some, Bool.true_and]
      cases accepts (fromJ1 fx d) v <;> cases propsValid (docProps r) fs <;> rfl
end

theorem congrArg₂ {α β γ : Type} (f : α → β → γ) {a a' : α} {b b' : β} (ha : a = a') (hb : b = b') : f a b = f a' b' := by
  rw [ha, hb]

theorem plainify_lits : (ps : List Prim) → plainifyL (litsOf ps) = litsOf ps
  | [] => rfl
  | p :: ps => congrArg (SList.cons (.lit [p])) (plainify_lits ps)

/- `plainify` rewrites integer schemas only and `fromJ1` produces none: each case is the constructor applied to the
   induction hypotheses. -/
mutual
theorem plainJ : (d : J1) → plainify (fromJ1 fx d) = fromJ1 fx d
  | .str _ _ _ | .num _ _ _ _ _ | .bool | .null | .any | .tru | .fls | .enumS _ | .fmt _ _ => rfl
  | .arr it _ _ => congrArg (S.slice · _) (plainJ it)
  | .tup items => congrArg (S.tup _ _) (plainJL items)
  | .obj props _ => congrArg (S.obj _ _ _ _) (plainJP props)
  | .objC props ca => congrArg₂ (fun c sh => S.obj _ (.some c) _ _ sh) (plainJ ca) (plainJP props)
  | .rcd v => congrArg (S.record _ · _) (plainJ v)
  | .const p => by cases p <;> rfl
  | .enumP ps => congrArg S.union (plainify_lits ps)
  | .anyOf ms => congrArg S.union (plainJL ms)
  | .oneOf ms => congrArg S.xor (plainJL ms)
  | .allOf2 a b => congrArg₂ S.and (plainJ a) (plainJ b)
  | .ref d => plainJ d
theorem plainJL : (ds : J1List) → plainifyL (fromJ1L fx ds) = fromJ1L fx ds
  | .nil => rfl
  | .cons d ds => congrArg₂ SList.cons (plainJ d) (plainJL ds)
theorem plainJP : (ps : J1Props) → plainifySh (fromJ1P fx ps) = fromJ1P fx ps
  | .nil => rfl
  | .cons _ d r => congrArg₂ (Shape.cons _) (plainJ d) (plainJP r)
end

mutual
/-- the part of `good` whose produced schema lies in C07's value-preserving representable fragment
    (an open object only with C11-open-object: before that patch it comes back with `additionalProperties: false`;
    no formats: ToJSONSchema of the dedicated format schemas is outside C07's model). -/
def rt (fx : Fx) : J1 → Bool
  | .arr it _ _ => rt fx it
  | .tup items => rtL fx items
  | .obj props closed => (closed || fx.openObj) && rtP fx props    -- legacy: an open object came back closed (strip)
  | .objC props ca => rtP fx props && rt fx ca
  | .rcd v => rt fx v
  | .anyOf ms => rtL fx ms
  | .oneOf ms => rtL fx ms
  | .allOf2 a b => rt fx a && rt fx b
  | .ref d => rt fx d
  | .fmt _ _ => false            -- format documents: Proofs/C11Format.lean (`c11_format_roundtrip_*`)
  | _ => true
def rtL (fx : Fx) : J1List → Bool
  | .nil => true
  | .cons d ds => rt fx d && rtL fx ds
def rtP (fx : Fx) : J1Props → Bool
  | .nil => true
  | .cons _ d r => rt fx d && rtP fx r
end

theorem sameKind_self (p : Prim) : p.sameKind p = !(Prim.null == p) := by cases p <;> rfl

theorem reprMembers_lits : (ps : List Prim) → ps.contains .null = false → reprMembers (litsOf ps) = true
  | [], _ => rfl
  | p :: ps, h => by
    simp only [List.contains_cons, Bool.or_eq_false_iff] at h
    simp only [litsOf, reprMembers, reprP, S.acceptsNull, litHomog, sameKind_self, h.1, reprMembers_lits ps h.2, List.all_nil,
      Bool.not_false, Bool.and_self]

theorem litsOf_length (ps : List Prim) : (litsOf ps).length = ps.length := by
  induction ps with
  | nil => rfl
  | cons p ps ih => simp only [litsOf, SList.length, ih, List.length_cons]

/-- the numeric checks of `fromJ1` come in an order in which no Bag entry overwrites another. -/
theorem numFoldOK_fromJ1 (mn mx emn emx mul : Option Int) (h : ∀ m, mul = some m → 0 < m) :
    numFoldOK {} (optL mn .gte ++ optL mx .lte ++ optL emn .gt ++ optL emx .lt ++ optL mul .mul) = true := by
  cases mul with
  | none => cases mn <;> cases mx <;> cases emn <;> cases emx <;> rfl
  | some m =>
    have := h m rfl
    cases mn <;> cases mx <;> cases emn <;> cases emx <;> simp [optL, numFoldOK, NumBag.stepOK, NumBag.step, this]

mutual
theorem reprJ : (d : J1) → (top : Bool) → good fx d = true → rt fx d = true → reprP top (fromJ1 fx d) = true
  | .str mn mx pat, _, _, _ => by
    simp only [fromJ1, reprP, strCks_fromJ1, Bool.and_self]
  | .num mn mx emn emx mul, _, h, _ => by
    simp only [fromJ1, reprP]
    exact numFoldOK_fromJ1 mn mx emn emx mul (fun m e => by subst e; simpa [good] using h)
  | .bool, _, _, _ | .null, _, _, _ | .any, _, _, _ | .tru, _, _, _ | .fls, _, _, _ => rfl
  | .arr it mn mx, _, h, hr => by
    simp only [good] at h
    cases mn <;> cases mx <;> simp [fromJ1, reprP, optL, szSimple, reprJ it false h hr]
  | .tup items, _, h, hr => by
    simp only [good, Bool.and_eq_true] at h
    simp [fromJ1, reprP, reprCa, reprJL items h.1 hr]
  | .obj props closed, _, h, hr => by
    simp only [good, Bool.and_eq_true] at h
    have hr := Bool.and_eq_true_iff.1 hr
    cases closed with
    | true => simp [fromJ1, reprP, Mode.isStrip, Mode.isStrict, SOpt.isSome, szSimple, reprCa, reprJP props h.1 hr.2]
    | false =>
      have ho : fx.openObj = true := by simpa using hr.1
      simp [fromJ1, reprP, openMode, ho, Mode.isStrip, Mode.isStrict, SOpt.isSome, szSimple, reprCa, reprJP props h.1 hr.2]
  | .objC props ca, _, h, hr => by
    simp only [good, Bool.and_eq_true] at h
    have hr := Bool.and_eq_true_iff.1 hr
    simp [fromJ1, reprP, Mode.isStrip, Mode.isStrict, szSimple, reprCa, reprJP props h.1.1.1 hr.1, reprJ ca false h.1.2 hr.2]
  | .rcd v, _, h, hr => by
    simp only [good] at h
    simp [fromJ1, reprP, S.isStrSchema, strLenOK, noTrim, szSimple, reprJ v false h hr]
  | .const p, _, _, _ => by cases p <;> rfl
  | .enumS vs, _, h, _ => by simpa [good, fromJ1, reprP] using h
  | .enumP ps, _, h, _ => by
    simp only [good, Bool.and_eq_true, Bool.not_eq_true', List.isEmpty_eq_false_iff] at h
    have hl : ((litsOf ps).length == 0) = false := by
      rw [litsOf_length]; cases ps <;> simp_all
    simp [fromJ1, reprP, hl, reprMembers_lits ps h.2]
  | .anyOf ms, _, h, hr | .oneOf ms, _, h, hr => by
    simp only [good, Bool.and_eq_true, decide_eq_true_eq] at h
    have hl : ((fromJ1L fx ms).length == 0) = false := by rw [fromJ1L_length]; simp; omega
    simp [fromJ1, reprP, hl, reprJM ms h.1 hr]
  | .allOf2 a b, _, h, hr => by
    simp only [good, Bool.and_eq_true, Bool.not_eq_true'] at h
    have hr := Bool.and_eq_true_iff.1 hr
    obtain ⟨⟨⟨⟨⟨ha, hb⟩, hna⟩, hnb⟩, hsa⟩, hsb⟩ := h
    simp [fromJ1, reprP, hna, hnb, hsa, hsb, reprJ a false ha hr.1, reprJ b false hb hr.2]
  | .ref d, top, h, hr => by
    simp only [good] at h
    simpa [fromJ1] using reprJ d top h hr
  | .fmt _ _, _, _, hr => nomatch hr

theorem reprJL : (ds : J1List) → goodL fx ds = true → rtL fx ds = true → reprList (fromJ1L fx ds) = true
  | .nil, _, _ => rfl
  | .cons d ds, h, hr => by
    simp only [goodL, Bool.and_eq_true] at h
    have hr := Bool.and_eq_true_iff.1 hr
    simp [fromJ1L, reprList, reprJ d false h.1 hr.1, reprJL ds h.2 hr.2]

theorem reprJM : (ds : J1List) → goodM fx ds = true → rtL fx ds = true → reprMembers (fromJ1L fx ds) = true
  | .nil, _, _ => rfl
  | .cons d ds, h, hr => by
    simp only [goodM, Bool.and_eq_true, Bool.not_eq_true'] at h
    have hr := Bool.and_eq_true_iff.1 hr
    simp [fromJ1L, reprMembers, h.1.2, reprJ d false h.1.1 hr.1, reprJM ds h.2 hr.2]

theorem reprJP : (ps : J1Props) → goodP fx ps = true → rtP fx ps = true → reprShape (fromJ1P fx ps) = true
  | .nil, _, _ => rfl
  | .cons k d r, h, hr => by
    simp only [goodP, Bool.and_eq_true] at h
    have hr := Bool.and_eq_true_iff.1 hr
    simp [fromJ1P, reprShape, reprJ d false h.1 hr.1, reprJP r h.2 hr.2]
end

end Gozod.C11
