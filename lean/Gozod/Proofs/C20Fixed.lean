/-
  C20 — formats of a fixed length (MAC, UUID, GUID): every byte in a class that depends on its position only.

  Pattern side, once: a pattern that is a sequence of classes (`classesOf r = some classes`, checked by unfolding) matches
  position by position (`accepts_fixed`, from `Re.accepts_cls_seq`).  Definition side, per automaton: the step automaton
  counts the position, so its run from position `i` is the same positional predicate `matchPos` (`uuid_runFrom`,
  `guid_runFrom`, `mac_runFrom` with the two letter cases side by side).  No certificate is needed for these formats.
-/
import Gozod.Proofs.C20Lang
import Gozod.Proofs.C20Run
namespace Gozod.Re

def matchPos (f : Nat → List (Nat × Nat)) (n : Nat) : Nat → List Nat → Bool
  | i, [] => i == n
  | i, b :: s => decide (i < n) && inRanges b (f i) && matchPos f n (i + 1) s

def classesOf : Re → Option (List (List (Nat × Nat)))
  | cls c => some [c]
  | seq (cls c) r => (classesOf r).map (c :: ·)
  | _ => none

theorem matchPos_end (f : Nat → List (Nat × Nat)) (n : Nat) (s : List Nat) : matchPos f n n s = s.isEmpty := by
  cases s with
  | nil => simp [matchPos]
  | cons b s => simp [matchPos]

theorem matchPos_mono {f g : Nat → List (Nat × Nat)} {n : Nat} (h : ∀ i c, inRanges c (f i) = true → inRanges c (g i) = true) :
    ∀ (s : List Nat) (i : Nat), matchPos f n i s = true → matchPos g n i s = true
  | [], _, hm => hm
  | b :: s, i, hm => by
    simp only [matchPos, Bool.and_eq_true] at hm ⊢
    exact ⟨⟨hm.1.1, h i b hm.1.2⟩, matchPos_mono h s (i + 1) hm.2⟩

theorem accepts_classes (f : Nat → List (Nat × Nat)) : ∀ (r : Re) (i k : Nat), classesOf r = some ((List.range' i k).map f) →
    ∀ s, accepts r s = matchPos f (i + k) i s
  | cls c, i, k, h, s => by
    obtain ⟨rfl, hc⟩ : k = 1 ∧ c = f i := by
      rcases k with _ | _ | k <;> simp [classesOf, List.range'] at h
      exact ⟨rfl, h⟩
    cases s with
    | nil => simp [matchPos, accepts_nil, nullable]
    | cons b s => rw [accepts_cls, matchPos, matchPos_end, hc]; simp
  | seq (cls c) r, i, k, h, s => by
    obtain ⟨k', rfl, hc, hr⟩ : ∃ k', k = k' + 1 ∧ c = f i ∧ classesOf r = some ((List.range' (i + 1) k').map f) := by
      cases k with
      | zero => simp [classesOf] at h
      | succ k' =>
        simp only [classesOf, List.range', List.map_cons, Option.map_eq_some_iff] at h
        obtain ⟨l, hl, e⟩ := h
        cases e
        exact ⟨k', rfl, rfl, hl⟩
    cases s with
    | nil => simp [matchPos, accepts_nil, nullable]
    | cons b s =>
      rw [accepts_cls_seq, matchPos, accepts_classes f r (i + 1) k' hr, hc]
      simp [show i + 1 + k' = i + (k' + 1) by omega]
  | eps, _, _, h, _ => nomatch h
  | alt _ _, _, _, h, _ => nomatch h
  | star _, _, _, h, _ => nomatch h
  | seq eps _, _, _, h, _ => nomatch h
  | seq (seq _ _) _, _, _, h, _ => nomatch h
  | seq (alt _ _) _, _, _, h, _ => nomatch h
  | seq (star _) _, _, _, h, _ => nomatch h

theorem accepts_fixed (f : Nat → List (Nat × Nat)) (n : Nat) {r : Re} (h : classesOf r = some ((List.range n).map f)) (s : List Nat) :
    accepts r s = matchPos f n 0 s := by
  rw [List.range_eq_range'] at h
  simpa using accepts_classes f r 0 n h s

end Gozod.Re

namespace Gozod.C20
open Gozod Gozod.Re Gozod.Fmt

def hexC : List (Nat × Nat) := [(48, 57), (65, 70), (97, 102)]
def dashC : List (Nat × Nat) := [(45, 45)]

theorem inRanges_hexC (c : Nat) : inRanges c hexC = isHex c := by
  simp [hexC, inRanges, isHex, isDigit, isUpperHex, isLowerHex, Bool.or_assoc]

theorem inRanges_dashC (c : Nat) : inRanges c dashC = decide (c = 45) := inRanges_byte c 45

/-- 8-4-4-4-12 -/
def isDashPos (i : Nat) : Prop := i = 8 ∨ i = 13 ∨ i = 18 ∨ i = 23
instance (i : Nat) : Decidable (isDashPos i) := by unfold isDashPos; infer_instance

def layoutCls (i : Nat) : List (Nat × Nat) := if isDashPos i then dashC else hexC

/-- `none`: any version 1–8; the version nibble at 14, the variant at 19 -/
def uuidCls (ver : Option Nat) (i : Nat) : List (Nat × Nat) :=
  if isDashPos i then dashC
  else if i = 14 then (match ver with | none => [(49, 56)] | some v => [(48 + v, 48 + v)])
  else if i = 19 then [(56, 57), (65, 66), (97, 98)]
  else hexC

def nilCls (i : Nat) : List (Nat × Nat) := if isDashPos i then dashC else [(48, 48)]

theorem support_dash_hex (c : Nat) : (45 :: hexDigits).elem c = true ↔ c = 45 ∨ isHex c = true := by
  rw [elem_cons_iff, hexDigits_elem]

theorem uuid_gstep (ver : Option Nat) (i : Nat) (zero ok : Bool) (c : Nat) :
    (uuid ver).gstep (some ⟨i, zero, ok⟩) c = if i < 36 ∧ inRanges c (layoutCls i) = true then
      some ⟨i + 1, zero && inRanges c (nilCls i), ok && inRanges c (uuidCls ver i)⟩ else none := by
  show (if (45 :: hexDigits).elem c then uuidStep ver ⟨i, zero, ok⟩ c else none) = _
  have h45 : isHex 45 = false := by decide
  by_cases h36 : i < 36
  · by_cases hd : isDashPos i
    · have hd' : i = 8 ∨ i = 13 ∨ i = 18 ∨ i = 23 := hd
      simp only [layoutCls, nilCls, uuidCls, if_pos hd, inRanges_dashC, uuidStep, if_neg (Nat.not_le.2 h36), if_pos hd', h36, true_and,
        decide_eq_true_eq]
      by_cases hc : c = 45
      · simp [hc]; rfl
      · simp [hc]; rfl
    · have hd' : ¬ (i = 8 ∨ i = 13 ∨ i = 18 ∨ i = 23) := hd
      simp only [layoutCls, nilCls, uuidCls, if_neg hd, inRanges_hexC, uuidStep, if_neg (Nat.not_le.2 h36), if_neg hd', h36, true_and]
      by_cases hx : isHex c = true
      · have hc : c ≠ 45 := fun e => by rw [e, h45] at hx; cases hx
        rw [if_pos ((support_dash_hex c).2 (Or.inr hx)), if_neg hc, if_pos hx, inRanges_byte]
        by_cases h14 : i = 14
        · subst h14
          cases ver with
          | none => simp [inRanges]; rfl
          | some v => simp [inRanges_byte]; rfl
        · by_cases h19 : i = 19
          · subst h19
            have evar : inRanges c [(56, 57), (65, 66), (97, 98)] = isVariant c := by
              rw [Bool.eq_iff_iff]; simp [inRanges, isVariant]; omega
            simp [evar]; rfl
          · have b14 : (i != 14) = true := by simp [h14]
            have b19 : (i != 19) = true := by simp [h19]
            simp only [if_neg h14, if_neg h19, inRanges_hexC, hx, b14, b19, Bool.true_or, Bool.and_true]; rfl
      · rw [if_neg hx]
        by_cases hc : c = 45
        · simp [hc]; rfl
        · rw [if_neg (fun h => ((support_dash_hex c).1 h).elim hc hx)]; rfl
  · have : ¬ (i < 36 ∧ inRanges c (layoutCls i) = true) := fun h => h36 h.1
    rw [if_neg this]
    simp only [uuidStep, if_pos (Nat.not_lt.1 h36), ite_self]; rfl

theorem uuidCls_layout {ver : Option Nat} (hv : ∀ v, ver = some v → v ≤ 9) {i c : Nat} (h : inRanges c (uuidCls ver i) = true) :
    inRanges c (layoutCls i) = true := by
  unfold uuidCls at h; unfold layoutCls
  split
  · next hd => rwa [if_pos hd] at h
  · next hd =>
    rw [if_neg hd] at h
    rw [inRanges_hexC, isHex_iff]
    split at h
    · cases ver with
      | none => simp [inRanges] at h; omega
      | some v => have := hv v rfl; simp [inRanges] at h; omega
    · split at h
      · simp [inRanges] at h; omega
      · rwa [inRanges_hexC, isHex_iff] at h

theorem nilCls_layout {i c : Nat} (h : inRanges c (nilCls i) = true) : inRanges c (layoutCls i) = true := by
  unfold nilCls at h; unfold layoutCls
  split
  · next hd => rwa [if_pos hd] at h
  · next hd =>
    rw [if_neg hd] at h
    rw [inRanges_hexC, isHex_iff]
    simp [inRanges] at h; omega

/-- `v ≤ 9`: the version byte `48 + v` must be a digit, so that the class at position 14 lies inside the hex class -/
theorem uuid_runFrom (ver : Option Nat) (hv : ∀ v, ver = some v → v ≤ 9) : ∀ (s : List Nat) (i : Nat) (zero ok : Bool),
    (uuid ver).runFrom (some ⟨i, zero, ok⟩) s =
      ((ok && matchPos (uuidCls ver) 36 i s) || (ver.isNone && zero && matchPos nilCls 36 i s))
  | [], i, zero, ok => by
    show (decide (i = 36) && (ok || (ver.isNone && zero))) = _
    simp only [matchPos]
    cases ok <;> cases zero <;> cases ver.isNone <;> by_cases h : i = 36 <;> simp [h]
  | c :: s, i, zero, ok => by
    rw [Spec.runFrom_cons, uuid_gstep]
    split
    · next h =>
      rw [uuid_runFrom ver hv s]
      simp only [matchPos, h.1, decide_true, Bool.true_and, Bool.and_assoc]
    · next h =>
      rw [Spec.runFrom_none]
      simp only [matchPos]
      by_cases h36 : i < 36
      · -- outside the layout class, so outside the two narrower ones
        have hl : ¬ inRanges c (layoutCls i) = true := fun hl => h ⟨h36, hl⟩
        have hu : inRanges c (uuidCls ver i) = false := Bool.eq_false_iff.2 fun hu => hl (uuidCls_layout hv hu)
        have hn : inRanges c (nilCls i) = false := Bool.eq_false_iff.2 fun hn => hl (nilCls_layout hn)
        simp [hu, hn]
      · simp [h36]

theorem uuid_run (ver : Option Nat) (hv : ∀ v, ver = some v → v ≤ 9) (s : List Nat) :
    (uuid ver).run s = (matchPos (uuidCls ver) 36 0 s || (ver.isNone && matchPos nilCls 36 0 s)) := by
  rw [Spec.run_eq_runFrom]
  exact (uuid_runFrom ver hv s 0 true true).trans (by simp)

theorem uuid_of_classes (v : Nat) (hv : v ≤ 9) {r : Re} (hr : classesOf r = some ((List.range 36).map (uuidCls (some v)))) :
    ∀ s, accepts r s = (uuid (some v)).run s := fun s => by
  rw [uuid_run (some v) (fun _ h => by cases h; exact hv), accepts_fixed _ 36 hr]; simp

theorem uuid_any_of_classes {r n : Re} (hr : classesOf r = some ((List.range 36).map (uuidCls none)))
    (hn : classesOf n = some ((List.range 36).map nilCls)) : ∀ s, accepts (alt r n) s = (uuid none).run s := fun s => by
  rw [uuid_run none (fun _ h => nomatch h), accepts_alt_eq, accepts_fixed _ 36 hr, accepts_fixed _ 36 hn]; simp

theorem guid_gstep (i c : Nat) :
    guid.gstep (some ⟨i⟩) c = if i < 36 ∧ inRanges c (layoutCls i) = true then some ⟨i + 1⟩ else none := by
  show (if (45 :: hexDigits).elem c then (if i ≥ 36 then none
    else if i = 8 ∨ i = 13 ∨ i = 18 ∨ i = 23 then (if c = 45 then some (⟨i + 1⟩ : CountSt) else none)
    else if c = 45 then none else some ⟨i + 1⟩) else none) = _
  have h45 : isHex 45 = false := by decide
  have hsup : (45 :: hexDigits).elem c = (decide (c = 45) || isHex c) := by
    rw [Bool.eq_iff_iff, support_dash_hex]; simp
  rw [hsup]
  by_cases h36 : i < 36
  · by_cases hd : i = 8 ∨ i = 13 ∨ i = 18 ∨ i = 23
    · have hl : layoutCls i = dashC := if_pos hd
      by_cases hc : c = 45
      · simp [hl, inRanges_dashC, hc, h36, hd, Nat.not_le.2 h36]; rfl
      · simp [hl, inRanges_dashC, hc, hd]; rfl
    · have hl : layoutCls i = hexC := if_neg hd
      by_cases hx : isHex c = true
      · have hc : c ≠ 45 := fun e => by rw [e, h45] at hx; cases hx
        simp [hl, inRanges_hexC, hx, hc, h36, hd, Nat.not_le.2 h36]; rfl
      · by_cases hc : c = 45
        · simp [hl, inRanges_hexC, hc, h45, hd]; rfl
        · simp [hl, inRanges_hexC, hx, hc]; rfl
  · simp [h36, Nat.not_lt.1 h36]; rfl

theorem guid_runFrom : ∀ (s : List Nat) (i : Nat), guid.runFrom (some ⟨i⟩) s = matchPos layoutCls 36 i s
  | [], i => by show decide (i = 36) = (i == 36); by_cases h : i = 36 <;> simp [h]
  | c :: s, i => by
    rw [Spec.runFrom_cons, guid_gstep, matchPos]
    split
    · next h => rw [guid_runFrom s, decide_eq_true h.1, h.2]; rfl
    · next h =>
      rw [Spec.runFrom_none]
      by_cases h36 : i < 36
      · have : inRanges c (layoutCls i) = false := Bool.eq_false_iff.2 fun hl => h ⟨h36, hl⟩
        simp [this]
      · simp [h36]

theorem guid_of_classes {r : Re} (hr : classesOf r = some ((List.range 36).map layoutCls)) : ∀ s, accepts r s = guid.run s :=
  fun s => by rw [accepts_fixed _ 36 hr, Spec.run_eq_runFrom]; exact (guid_runFrom s 0).symm

def macUpC (d i : Nat) : List (Nat × Nat) := if i % 3 = 2 then [(d, d)] else [(48, 57), (65, 70)]
def macLoC (d i : Nat) : List (Nat × Nat) := if i % 3 = 2 then [(d, d)] else [(48, 57), (97, 102)]

theorem mac_gstep (d : Nat) (q : MacSt) (c : Nat) : (mac d).gstep (some q) c = macStep d q c := by
  show (if (d :: hexDigits).elem c then macStep d q c else none) = _
  split
  · rfl
  · next h =>
    have hn : ¬ (c = d ∨ isHex c = true) := fun hc => h (by rw [elem_cons_iff, hexDigits_elem]; exact hc)
    simp only [not_or, isHex, Bool.or_eq_true] at hn
    obtain ⟨h1, ⟨h2, h3⟩, h4⟩ := hn
    simp [macStep, h1, h2, h3, h4]

theorem mac_runFrom (d : Nat) : ∀ (s : List Nat) (i cas : Nat), cas ≤ 2 →
    (mac d).runFrom (some ⟨i, cas⟩) s =
      ((decide (cas ≠ 2) && matchPos (macUpC d) 17 i s) || (decide (cas ≠ 1) && matchPos (macLoC d) 17 i s))
  | [], i, cas, hc => by
    show decide (i = 17) = _
    simp only [matchPos]
    by_cases h : i = 17 <;> simp [h] <;> omega
  | c :: s, i, cas, hc => by
    rw [Spec.runFrom_cons, mac_gstep]
    simp only [matchPos, macStep]
    have dead : ∀ b : Bool, b = false → (mac d).runFrom none s = b := fun b hb => (Spec.runFrom_none _ s).trans hb.symm
    by_cases h17 : i < 17
    · rw [if_neg (Nat.not_le.2 h17), decide_eq_true h17]
      by_cases h3 : i % 3 = 2
      · simp only [macUpC, macLoC, if_pos h3, inRanges_byte]
        by_cases hd : c = d
        · rw [if_pos hd]
          refine (mac_runFrom d s (i + 1) cas hc).trans ?_
          simp [hd]
        · rw [if_neg hd]
          exact dead _ (by simp [hd])
      · have eU : inRanges c [(48, 57), (65, 70)] = (isDigit c || isUpperHex c) := by simp [inRanges, isDigit, isUpperHex]
        have eL : inRanges c [(48, 57), (97, 102)] = (isDigit c || isLowerHex c) := by simp [inRanges, isDigit, isLowerHex]
        simp only [macUpC, macLoC, if_neg h3, eU, eL]
        by_cases hdg : isDigit c = true
        · rw [if_pos hdg]
          refine (mac_runFrom d s (i + 1) cas hc).trans ?_
          simp [hdg]
        · rw [if_neg hdg]
          by_cases hu : isUpperHex c = true
          · have hl : isLowerHex c = false := by
              rw [Bool.eq_false_iff]; intro hl; simp [isUpperHex, isLowerHex] at hu hl; omega
            rw [if_pos hu]
            by_cases h2 : cas = 2
            · rw [if_pos h2]; exact dead _ (by simp [h2, hdg, hl])
            · rw [if_neg h2]
              refine (mac_runFrom d s (i + 1) 1 (by decide)).trans ?_
              simp [hdg, hu, hl, h2]
          · rw [if_neg hu]
            by_cases hl : isLowerHex c = true
            · rw [if_pos hl]
              by_cases h1 : cas = 1
              · rw [if_pos h1]; exact dead _ (by simp [h1, hdg, hu])
              · rw [if_neg h1]
                refine (mac_runFrom d s (i + 1) 2 (by decide)).trans ?_
                simp [hdg, hu, hl, h1]
            · rw [if_neg hl]; exact dead _ (by simp [hdg, hu, hl])
    · rw [if_pos (Nat.not_lt.1 h17)]; exact dead _ (by simp [h17])

theorem mac_of_classes (d : Nat) {u l : Re} (hu : classesOf u = some ((List.range 17).map (macUpC d)))
    (hl : classesOf l = some ((List.range 17).map (macLoC d))) : ∀ s, accepts (alt u l) s = (mac d).run s := fun s => by
  rw [accepts_alt_eq, accepts_fixed _ 17 hu, accepts_fixed _ 17 hl, Spec.run_eq_runFrom]
  exact ((mac_runFrom d s 0 0 (by decide)).trans (by simp)).symm

end Gozod.C20
