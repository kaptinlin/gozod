/-
  C19 — "for EVERY ZodError": Go-level errors (Model/IssuesGo.lean).

  A Go path is `[]any`; the library itself files map keys and set elements of any comparable type
  there, users build paths freely, and a `*ZodError` can be nil.

  * Refinement: on every Go-level error the formatters as they stand (since c65f4c0 / 6ff3a13 / e8b2b50) compute what the
    position-level model (Model/Issues.lean) computes on the positions the elements denote,
    so the count theorems, Treeify's placement and non-emptiness lift (`c19_go_…`) — FULL statements, for all element types
    and nil.  Prettify's empty-report region is proved beside them, not lifted (`prettifyWith_eq_empty_iff`; the partial
    `prettifyGo_eq` is in C19Pretty); Flatten's and Format's placement theorems are stated on positions only.
  * The code before those commits (`treeInsertOld`, `segDotOld`, `Cfg.head`), in one equation
    (`treeInsertOld_eq`): it panics exactly when a path holds a negative int, ignores elements of
    other types, and agrees with the fixed code on plain paths (string / non-negative int).
    `…Old` / `Cfg.head` (the OLD state) / `Cfg.fixed`: see the legend at the head of Proofs/C19.lean.
-/
import Gozod.Model.IssuesGo
import Gozod.Model.IssuesGoSpec
import Gozod.Proofs.C19
namespace Gozod.C19
open Gozod.Issues

theorem El.render_pos (e : El) : (El.pos e).render = e.render := by
  cases e with
  | str s => rfl
  | int z => cases z <;> rfl
  | other r => rfl

theorem map_render_pos (p : List El) : (p.map El.pos).map Seg.render = p.map El.render := by
  simp [El.render_pos]

theorem norm_path (i : IssueGo) : i.norm.path = i.path.map El.pos := by cases i; rfl

theorem norm_msg (i : IssueGo) : i.norm.msg = i.msg := by cases i; rfl

theorem normList_eq_map (is : List IssueGo) : normList is = is.map IssueGo.norm := by
  induction is <;> simp [normList, *]

theorem normList_length (is : List IssueGo) : (normList is).length = is.length := by
  simp [normList_eq_map]

theorem flattenStepGo_eq (f : Flat) (i : IssueGo) : flattenStepGo f i = flattenStep f i.norm := by
  unfold flattenStepGo flattenStep
  rw [norm_path, norm_msg]
  cases i.path <;> simp [El.render_pos]

theorem flattenGo_eq (is : List IssueGo) : flattenGo is = flatten (normList is) := by
  have : flattenStepGo = fun f i => flattenStep f i.norm := funext fun f => funext (flattenStepGo_eq f)
  rw [flattenGo, flatten, normList_eq_map, List.foldl_map, this]

/-- Flatten loses nothing, whatever the path elements are -/
theorem c19_go_flatten_count (is : List IssueGo) : (flattenGo is).count = is.length := by
  rw [flattenGo_eq, c19_flatten_count, normList_length]

theorem anyNonEmptyGo_eq (es : List (List IssueGo)) : anyNonEmptyGo es = anyNonEmpty (normBranches es) := by
  induction es with
  | nil => rfl
  | cons b r ih => cases b <;> simp [anyNonEmptyGo, normBranches, normList, anyNonEmpty, ih]

mutual
theorem fmtIssueGo_eq : ∀ (i : IssueGo) (pre : List El) (t : Fmt),
    fmtIssueGo pre i t = fmtIssue (pre.map El.pos) i.norm t
  | .mk code path msg errors issues, pre, t => by
    have hr : (pre.map El.pos ++ path.map El.pos).map Seg.render = (pre ++ path).map El.render := by
      rw [← List.map_append, map_render_pos]
    unfold fmtIssueGo IssueGo.norm fmtIssue
    -- the match on the code: `h_1` invalid_union, `h_2` / `h_3` invalid_key / invalid_element, `h_4` the rest
    split
    case h_1 => simp only [anyNonEmptyGo_eq, fmtBranchesGo_eq errors, List.map_append, hr]
    case h_2 | h_3 =>
      cases issues with
      | nil => simp only [normList, hr]
      | cons i r => simpa only [normList, List.map_append] using fmtIssuesGo_eq (i :: r) (pre ++ path) t
    case h_4 => simp [hr]
theorem fmtIssuesGo_eq : ∀ (is : List IssueGo) (pre : List El) (t : Fmt),
    fmtIssuesGo pre is t = fmtIssues (pre.map El.pos) (normList is) t
  | [], pre, t => rfl
  | i :: r, pre, t => by rw [fmtIssuesGo, normList, fmtIssues, fmtIssueGo_eq i, fmtIssuesGo_eq r]
theorem fmtBranchesGo_eq : ∀ (bs : List (List IssueGo)) (pre : List El) (t : Fmt),
    fmtBranchesGo pre bs t = fmtBranches (pre.map El.pos) (normBranches bs) t
  | [], pre, t => rfl
  | b :: r, pre, t => by rw [fmtBranchesGo, normBranches, fmtBranches, fmtIssuesGo_eq b, fmtBranchesGo_eq r]
end

theorem formatGo_eq (is : List IssueGo) : formatGo is = formatError (normList is) := by
  exact fmtIssuesGo_eq is [] Fmt.empty

/-- FormatError loses nothing, whatever the path elements are: one message per leaf -/
theorem c19_go_format_count (is : List IssueGo) : (formatGo is).count = leafCountIssues (normList is) := by
  rw [formatGo_eq, c19_format_count]

theorem treeInsertGo_eq (p : List El) (m : String) (t : Tree) :
    treeInsertGo p m t = t.insert (p.map El.pos) m := by
  induction p generalizing t with
  | nil => rfl
  | cons e r ih =>
    have hf : treeInsertGo r m = Tree.insert (r.map El.pos) m := funext ih
    obtain ⟨es, ps, ts⟩ := t
    rcases e with k | (n | n) | s <;> simp [treeInsertGo, Tree.insert, El.pos, hf]

theorem treeifyGo_eq (is : List IssueGo) : treeifyGo is = treeify (normList is) := by
  simp [treeifyGo, treeify, normList_eq_map, List.foldl_map, treeInsertGo_eq, norm_path, norm_msg]

theorem c19_go_tree_count (is : List IssueGo) : (treeifyGo is).count = is.length := by
  rw [treeifyGo_eq, c19_tree_count, normList_length]

/-- Treeify files every message at the position its path denotes, whatever the path elements are: the node at position
    `p` holds exactly the messages of the issues whose elements denote `p`, in order -/
theorem c19_go_tree_place (p : List Seg) (is : List IssueGo) :
    (treeifyGo is).at p = (is.filter (fun i => i.path.map El.pos == p)).map IssueGo.msg := by
  simp [treeifyGo_eq, c19_tree_place, normList_eq_map, List.filter_map, Function.comp_def, norm_path, norm_msg]

example : (treeifyGo [.mk .custom [.int (-1)] "m1" [] [], .mk .custom [.str "a", .other "1.5"] "m2" [] [],
    .mk .custom [.str "a"] "m3" [] []]).at [.key "a", .key "1.5"] = ["m2"] := by decide +kernel

theorem updPropM_ite (k : String) (c : Bool) (g : Tree → Tree) (ps : List (String × Tree)) :
    updPropM k (fun t => if c then none else some (g t)) ps = if c then none else some (updProp k g ps) := by
  induction ps with
  | nil => cases c <;> rfl
  | cons hd r ih => by_cases hk : hd.1 = k <;> cases c <;> simp_all [updPropM, updProp]

theorem updItemM_ite (c : Bool) (g : Tree → Tree) (n : Nat) (ts : List Tree) :
    updItemM (fun t => if c then none else some (g t)) n ts = if c then none else some (updItem g n ts) := by
  induction n generalizing ts with
  | zero => cases ts <;> cases c <;> rfl
  | succ n ih => cases ts <;> cases c <;> simp_all [updItemM, updItem]

/-- the code before c65f4c0 panics when the path holds a negative int (`current.Items[element]`
    with element < 0); otherwise it walks the path as the present code does with the elements of
    other types REMOVED (the message lands on the enclosing node) -/
theorem treeInsertOld_eq (p : List El) (m : String) (t : Tree) :
    treeInsertOld p m t = if p.any El.isNeg then none else some (treeInsertGo (dropOther p) m t) := by
  induction p generalizing t with
  | nil => rfl
  | cons e r ih =>
    have hf := funext (ih ·)
    obtain ⟨es, ps, ts⟩ := t
    rcases e with k | (n | n) | s
    · simp only [treeInsertOld, hf, updPropM_ite, List.any_cons, El.isNeg, Bool.false_or, dropOther, treeInsertGo]
      cases r.any El.isNeg <;> rfl
    · simp only [treeInsertOld, hf, updItemM_ite, List.any_cons, El.isNeg, Bool.false_or, dropOther, treeInsertGo]
      cases r.any El.isNeg <;> rfl
    · rfl
    · simp only [treeInsertOld, ih, List.any_cons, El.isNeg, Bool.false_or, dropOther]

theorem treeInsertOld_eq_dropOther (p : List El) (hp : p.any El.isNeg = false) (m : String) (t : Tree) :
    treeInsertOld p m t = some (treeInsertGo (dropOther p) m t) := by
  rw [treeInsertOld_eq, hp]; rfl

theorem treeInsertOld_none_iff (p : List El) (m : String) (t : Tree) :
    treeInsertOld p m t = none ↔ p.any El.isNeg = true := by
  rw [treeInsertOld_eq]; cases p.any El.isNeg <;> simp

theorem dropOther_plain (p : List El) (hp : p.all El.plain = true) : dropOther p = p := by
  induction p with
  | nil => rfl
  | cons e r ih =>
    simp only [List.all_cons, Bool.and_eq_true] at hp
    cases e with
    | other s => simp [El.plain] at hp
    | str k | int z => simp [dropOther, ih hp.2]

theorem plain_no_neg (p : List El) (hp : p.all El.plain = true) : p.any El.isNeg = false := by
  rw [List.any_eq_false]
  intro e he
  have := List.all_eq_true.mp hp e he
  cases e with
  | int z =>
    cases z with
    | ofNat n => simp [El.isNeg]
    | negSucc n => cases this
  | str k | other s => simp [El.isNeg]

theorem treeInsertOld_plain (p : List El) (hp : p.all El.plain = true) (m : String) (t : Tree) :
    treeInsertOld p m t = some (treeInsertGo p m t) := by
  rw [treeInsertOld_eq_dropOther p (plain_no_neg p hp), dropOther_plain p hp]

/-- the region of the partial theorem: every top-level path is plain -/
def plainErr (is : List IssueGo) : Bool := is.all (fun i => i.path.all El.plain)

theorem treeifyOldFrom_plain (is : List IssueGo) (h : plainErr is = true) (t : Tree) :
    treeifyOldFrom is t = some (is.foldl (fun t i => treeInsertGo i.path i.msg t) t) := by
  induction is generalizing t with
  | nil => rfl
  | cons i r ih =>
    simp only [plainErr, List.all_cons, Bool.and_eq_true] at h
    simp [treeifyOldFrom, treeInsertOld_plain i.path h.1, ih (by simpa [plainErr] using h.2)]

/-- TreeifyError before c65f4c0, PARTIAL: on errors whose paths hold strings and non-negative
    ints only it does not panic, carries one message per issue and files it at its position -/
theorem c19_old_tree_partial (is : List IssueGo) (h : plainErr is = true) :
    ∃ t, treeifyOld is = some t ∧ t.count = is.length ∧
      ∀ p, t.at p = (is.filter (fun i => i.path.map El.pos == p)).map IssueGo.msg :=
  ⟨treeifyGo is, treeifyOldFrom_plain is h _, c19_go_tree_count is, fun p => c19_go_tree_place p is⟩

example : plainErr [.mk .custom [.str "a", .int 3, .str "0"] "m" [] []] = true := by decide +kernel

/-- the full statement, for the code before c65f4c0 (false: `c19_old_tree_full_false`) -/
def c19_old_tree_full : Prop :=
  ∀ is : List IssueGo, ∃ t, treeifyOld is = some t ∧ t.count = is.length ∧
    ∀ p, t.at p = (is.filter (fun i => i.path.map El.pos == p)).map IssueGo.msg

/-- witness 1: `Map(Int(), String()).Parse(map[any]any{-1: 5})` → path `[-1]` → TreeifyError panics -/
theorem old_tree_panics_negative : treeifyOld [.mk .invalidType [.int (-1)] "m1" [] []] = none := by decide +kernel

/-- witness 2: `Map(Float64(), String()).Parse(map[any]any{1.5: 5})` → path `[1.5]` → the message is
    filed at the ROOT, the position of the empty path -/
theorem old_tree_misfiles_other :
    (treeifyOld [.mk .invalidType [.other "1.5"] "m1" [] []]).map (fun t => (t.at [], t.at [.key "1.5"]))
      = some (["m1"], []) := by decide +kernel

theorem c19_old_tree_full_false : ¬ c19_old_tree_full := by
  intro h
  obtain ⟨t, ht, _⟩ := h [.mk .invalidType [.int (-1)] "m1" [] []]
  rw [old_tree_panics_negative] at ht
  exact absurd ht (by simp)

theorem negAsKey_dnorm_pos (p : List El) : (negAsKey (p.map El.dnorm)).map El.pos = p.map El.pos := by
  induction p with
  | nil => rfl
  | cons e r ih => rcases e with k | (n | n) | s <;> simp [El.dnorm, negAsKey, El.pos, ih]

theorem negAsKey_dnorm_plain (p : List El) : (negAsKey (p.map El.dnorm)).all El.plain = true := by
  induction p with
  | nil => rfl
  | cons e r ih => rcases e with k | (n | n) | s <;> simp [El.dnorm, negAsKey, El.plain, ih]

theorem treeInsertOld_fixed (p : List El) (m : String) (t : Tree) :
    treeInsertOld (treePathFor Cfg.fixed p) m t = some (treeInsertGo p m t) := by
  simp only [treePathFor, Cfg.fixed, if_true]
  rw [treeInsertOld_plain _ (negAsKey_dnorm_plain p), treeInsertGo_eq, treeInsertGo_eq, negAsKey_dnorm_pos]

theorem treeifyCfgFrom_fixed (is : List IssueGo) (t : Tree) :
    treeifyCfgFrom Cfg.fixed is t = some (is.foldl (fun t i => treeInsertGo i.path i.msg t) t) := by
  induction is generalizing t with
  | nil => rfl
  | cons i r ih => simp [treeifyCfgFrom, treeInsertOld_fixed, ih]

/-- with all fixes in, the driver's TreeifyError is the transcription of the fixed code -/
theorem treeifyCfg_fixed (is : List IssueGo) : treeifyCfg Cfg.fixed is = some (treeifyGo is) :=
  treeifyCfgFrom_fixed is _

theorem treeifyCfgFrom_head (is : List IssueGo) (t : Tree) :
    treeifyCfgFrom Cfg.head is t = treeifyOldFrom is t := by
  induction is generalizing t with
  | nil => rfl
  | cons i r ih =>
    have : treeifyCfgFrom ⟨false, false, false, false⟩ r = treeifyOldFrom r := funext ih
    simp [treeifyCfgFrom, treeifyOldFrom, treePathFor, Cfg.head, this]

theorem treeifyCfg_head (is : List IssueGo) : treeifyCfg Cfg.head is = treeifyOld is :=
  treeifyCfgFrom_head is _

/-- the reports are the fixed transcriptions; a nil error reports like an error without issues -/
theorem reportsCfg_fixed (e : Err) :
    reportsCfg Cfg.fixed e =
      ⟨some (flattenGo (Spec.issuesOf e)), some (treeifyGo (Spec.issuesOf e)),
       some (formatGo (Spec.issuesOf e)), some (prettifyGo (Spec.issuesOf e))⟩ := by
  cases e with
  | none => rfl
  | some is =>
    have := treeifyCfg_fixed is
    simp only [Cfg.fixed] at this
    simp [reportsCfg, this, Spec.issuesOf, prettifyCfg, Cfg.fixed]

/-- no formatter panics, on any error — nil included.  For Flatten, Format and Prettify this is how
    `reportsCfg` is defined at `Cfg.fixed` (total functions); the conjunct with content is `.tree`,
    where the driver's definition goes through `treeInsertOld`, which can panic: `treeifyCfg_fixed`. -/
theorem c19_go_never_panics (e : Err) :
    (reportsCfg Cfg.fixed e).flat.isSome ∧ (reportsCfg Cfg.fixed e).tree.isSome ∧
    (reportsCfg Cfg.fixed e).fmt.isSome ∧ (reportsCfg Cfg.fixed e).pretty.isSome := by
  rw [reportsCfg_fixed]; exact ⟨rfl, rfl, rfl, rfl⟩

/-- witness: before e8b2b50 the four entry points dereference a nil `*ZodError` -/
theorem old_nil_panics : (reportsCfg Cfg.head none).flat = none ∧ (reportsCfg Cfg.head none).tree = none ∧
    (reportsCfg Cfg.head none).fmt = none ∧ (reportsCfg Cfg.head none).pretty = none :=
  ⟨rfl, rfl, rfl, rfl⟩

theorem prettifyWith_ne_empty_segs (dot : List El → String) (is : List IssueGo) (h : is ≠ []) :
    prettifyWith dot is = "; ".intercalate (is.map (prettySegWith dot)) := by
  cases is with
  | nil => exact absurd rfl h
  | cons i r => rfl

theorem prettySegWith_eq_empty_iff (dot : List El → String) (i : IssueGo) :
    prettySegWith dot i = "" ↔ i.path = [] ∧ i.msg = "" := by
  unfold prettySegWith
  cases i.path <;> simp

theorem prettySegGo_eq_empty_iff (i : IssueGo) :
    prettySegWith dotPathGo i = "" ↔ i.path = [] ∧ i.msg = "" :=
  prettySegWith_eq_empty_iff dotPathGo i

theorem prettifyWith_eq_empty_iff (dot : List El → String) (is : List IssueGo) :
    prettifyWith dot is = "" ↔ ∃ i, is = [i] ∧ i.path = [] ∧ i.msg = "" := by
  cases is with
  | nil => simp [prettifyWith]
  | cons i r =>
    simpa [prettifyWith, prettySegWith_eq_empty_iff] using
      semi_intercalate_map_eq_empty_iff (prettySegWith dot) (i :: r) (by simp)

/-- the exact region in which PrettifyError's report is the empty string — for every element type:
    one issue, filed at the root, whose message (what the mapper / formatter returned for it) is empty -/
theorem c19_go_prettify_empty_iff (is : List IssueGo) :
    prettifyGo is = "" ↔ ∃ i, is = [i] ∧ i.path = [] ∧ i.msg = "" :=
  prettifyWith_eq_empty_iff dotPathGo is

/-- a non-empty error never formats to an empty report — for every element type: Flatten, Treeify
    and FormatError for every error; PrettifyError (the definition the driver runs) when no message is
    the empty string (hypothesis; without it: `c19_go_prettify_nonempty_full_false`) -/
theorem c19_go_nonempty (is : List IssueGo) (h : is ≠ []) :
    0 < (flattenGo is).count ∧ 0 < (treeifyGo is).count ∧ 0 < (formatGo is).count ∧
    ((∀ i ∈ is, i.msg ≠ "") → prettifyGo is ≠ "") := by
  have hl : 0 < is.length := List.length_pos_iff.mpr h
  refine ⟨by rwa [c19_go_flatten_count], by rwa [c19_go_tree_count], ?_, fun hm he => ?_⟩
  · rw [formatGo_eq]
    exact (c19_nonempty (normList is) (by simpa [normList_eq_map] using h)).2.2.2
  · obtain ⟨j, rfl, _, hmsg⟩ := (c19_go_prettify_empty_iff _).mp he
    exact hm j (by simp) hmsg

example : (∀ i ∈ [IssueGo.mk .tooBig [.str "a", .int (-1), .other "1.5"] "m1" [] [], .mk .custom [] "m2" [] []], i.msg ≠ "") := by
  intro i hi; simp at hi; rcases hi with rfl | rfl <;> decide

def c19_go_prettify_nonempty_full : Prop := ∀ is : List IssueGo, is ≠ [] → prettifyGo is ≠ ""

/-- witness (the run re-derives it on the real code, entry-point variant `blank-formatter`) -/
theorem c19_go_prettify_nonempty_full_false : ¬ c19_go_prettify_nonempty_full :=
  fun h => h [.mk .custom [] "" [] []] (by simp) ((c19_go_prettify_empty_iff _).mpr ⟨_, rfl, rfl, rfl⟩)

end Gozod.C19
