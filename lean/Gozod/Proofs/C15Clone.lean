/-
  C15: the clone handed out for Parse(nil), with its depth limit explicit (`Gozod.Model.Clone`).

  Two witnesses for `Graph.copy`, the clone with a depth limit (fuel made small; which clone is the code: header of
  C15Agg.lean): a chain deeper than the fuel and a self-referential default, whose copies end in the schema's own cell.
  The memoised clone `cloneIso` writes nothing that existed, and EVERY cell reachable from its result, to any depth, on any
  graph, is a new cell: no fuel hypothesis.  That the clone also LOOKS like the original is Proofs/C15Iso.lean.
-/
import Gozod.Model.Clone
import Gozod.Proofs.C15Agg

namespace Gozod.C15
open Gozod.Graph

/-- default `[7, [8, [9]]]`: cell 3 → cell 2 → cell 1 -/
def σchain : GStore :=
  { heap := gupd (gupd (gupd (fun _ => none) 1 [(0, .scalar 9)]) 2 [(0, .scalar 8), (1, .ref 1)]) 3 [(0, .scalar 7), (1, .ref 2)],
    next := 4 }

/-- Witness (a default deeper than the clone's limit; fuel 2 stands for maxCloneDepth): two levels are copied, the third
    is the schema's own cell 1; the caller's store into it changes what the default looks like. With fuel 3 nothing is shared. -/
theorem legacy_clone_shares_below_fuel :
    let r := copy true 2 σchain (.ref 3)
    1 ∈ reach 8 r.1.heap r.2 ∧
    ser 8 (assign r.1 1 [(0, .scalar 99)]).heap (.ref 3) ≠ ser 8 σchain.heap (.ref 3) ∧
    (reach 8 (copy true 3 σchain (.ref 3)).1.heap (copy true 3 σchain (.ref 3)).2).all (fun x => x ≥ 4) = true := by decide +kernel

/-- default `m = {a: 7, self: m}` -/
def σself : GStore := { heap := gupd (fun _ => none) 1 [(0, .scalar 7), (1, .ref 1)], next := 2 }

/-- Witness (a self-referential default): whatever the fuel (here 5), the unrolled copy ends in the schema's own cell 1;
    following `self` five times from the result and storing there changes the default. -/
theorem legacy_clone_cyclic_shares :
    let r := copy true 5 σself (.ref 1)
    1 ∈ reach 8 r.1.heap r.2 ∧
    (match spineAt r.1.heap 5 r.2 with | .ref x => x == 1 | _ => false) = true ∧
    ser 8 (mutateCell r.1 (spineAt r.1.heap 5 r.2)).heap (.ref 1) ≠ ser 8 σself.heap (.ref 1) := by
  refine ⟨by decide +kernel, by decide +kernel, by decide +kernel⟩

theorem cloneIso_heap (F : Nat) (σ : GStore) (v : GVal) : (cloneIso F σ v).1.heap =
    overlay ((reach F σ.heap v).map (fun l => (l + σ.next, shiftCell σ.next (readG σ.heap l)))) σ.heap := rfl

theorem overlay_miss (cs : List (Loc × Entries)) (h : GHeap) (x : Loc) (hm : ∀ p ∈ cs, p.1 ≠ x) : overlay cs h x = h x := by
  unfold overlay
  rw [List.find?_eq_none.2 (fun p hp => by simp [hm p hp])]

theorem overlay_cases (cs : List (Loc × Entries)) (h : GHeap) (y : Loc) :
    (∃ p ∈ cs, overlay cs h y = some p.2) ∨ overlay cs h y = h y := by
  unfold overlay
  cases hf : cs.find? (fun p => p.1 == y) with
  | none => right; rfl
  | some p => left; exact ⟨p, List.mem_of_find?_eq_some hf, rfl⟩

theorem cloneIso_ext (F : Nat) (σ : GStore) (v : GVal) : GExt σ.next σ (cloneIso F σ v).1 := by
  refine ⟨Nat.le_add_right _ _, fun l hl => ?_⟩
  rw [cloneIso_heap]
  -- every new cell lies at or above the offset
  refine overlay_miss _ _ l (fun p hp heq => ?_)
  obtain ⟨x, _, rfl⟩ := List.mem_map.1 hp
  exact Nat.not_le_of_lt hl (heq ▸ Nat.le_add_left _ _)

/-- `cloneIso` lays the copy of cell `l` at `l + σ.next`, so it needs the locations from `σ.next` on to be free; `copy`, which
    allocates one cell at a time at `σ.next`, needs nothing of the kind -/
def Wf (σ : GStore) : Prop := ∀ x, σ.next ≤ x → σ.heap x = none

theorem cloneIso_read (F : Nat) (σ : GStore) (v : GVal) (hw : Wf σ) (y : Loc) (hy : σ.next ≤ y) :
    readG (cloneIso F σ v).1.heap y = [] ∨ ∃ l, readG (cloneIso F σ v).1.heap y = shiftCell σ.next (readG σ.heap l) := by
  rw [readG, cloneIso_heap]
  rcases overlay_cases _ σ.heap y with ⟨p, hp, he⟩ | he
  · obtain ⟨l, _, rfl⟩ := List.mem_map.1 hp
    exact .inr ⟨l, by rw [he]⟩
  · exact .inl (by rw [he, hw y hy])

/-- every cell reachable — to ANY depth `G` — from (a shifted image of) any value lies at or above the offset: nothing of
    the original graph is reachable from the clone, whatever its depth or shape (cycles included). -/
theorem cloneIso_fresh (F : Nat) (σ : GStore) (v : GVal) (hw : Wf σ) (G : Nat) :
    ∀ (A : Nat) (w : GVal), ∀ x ∈ reach G (cloneIso F σ v).1.heap (shift σ.next A w), σ.next ≤ x := by
  induction G with
  | zero => intro A w x hx; exact nomatch hx
  | succ G ih =>
    intro A w x hx
    cases A with
    | zero => exact nomatch hx
    | succ A =>
      cases w with
      | scalar k => exact nomatch hx
      | nil => exact nomatch hx
      | agg fs =>
        obtain ⟨p, hp, hx⟩ := mem_reach_agg.1 hx
        obtain ⟨q, _, rfl⟩ := List.mem_map.1 hp
        exact ih A q.2 x hx
      | ref l =>
        rcases mem_reach_ref.1 hx with rfl | ⟨p, hp, hx⟩
        · exact Nat.le_add_left _ _
        · -- the cell at `l + σ.next` is empty or the shifted image of a cell: its entries are shifted values again
          rcases cloneIso_read F σ v hw (l + σ.next) (Nat.le_add_left _ _) with h | ⟨l', h⟩
          · rw [h] at hp
            cases hp
          · rw [h] at hp
            obtain ⟨q, _, rfl⟩ := List.mem_map.1 hp
            exact ih gdepth q.2 x hx

theorem cloneIso_result_fresh (F : Nat) (σ : GStore) (v : GVal) (hw : Wf σ) (G : Nat) :
    ∀ x ∈ reach G (cloneIso F σ v).1.heap (cloneIso F σ v).2, σ.next ≤ x :=
  cloneIso_fresh F σ v hw G gdepth v

/-- Parse(nil) with the memoised clone, then the caller stores ANY contents into ANY cell it can reach from the result, at
    any depth: the default — however deep, cyclic or not — consists of the same cells and looks the same. -/
theorem cloneIso_parse_mutate (F G D : Nat) (σ : GStore) (d : GVal) (hw : Wf σ) (hd : ∀ x ∈ reach D σ.heap d, x < σ.next)
    (l : Loc) (c : Entries) (hl : l ∈ reach G (cloneIso F σ d).1.heap (cloneIso F σ d).2) :
    reach D (assign (cloneIso F σ d).1 l c).heap d = reach D σ.heap d ∧
    ser D (assign (cloneIso F σ d).1 l c).heap d = ser D σ.heap d := by
  have hfresh := cloneIso_result_fresh F σ d hw G l hl
  have e : GExt σ.next σ (assign (cloneIso F σ d).1 l c) :=
    (cloneIso_ext F σ d).trans (assign_ext σ.next _ l c hfresh)
  exact g_graph_frame D σ.next σ _ d e hd

/-- the self-referential default through the memoised clone: the copy is a self-referential value of its own (cell 3 refers
    to cell 3), it looks like the default, and mutating it on its spine leaves the default alone -/
example :
    let r := cloneIso 8 σself (.ref 1)
    (reach 8 r.1.heap r.2).all (fun x => x ≥ 2) = true ∧
    ser 8 r.1.heap r.2 = ser 8 σself.heap (.ref 1) ∧
    ser 8 (mutateCell r.1 (spineAt r.1.heap 5 r.2)).heap (.ref 1) = ser 8 σself.heap (.ref 1) := by decide +kernel

example : Wf σself := by
  intro x hx
  have hx' : 2 ≤ x := hx
  have : x ≠ 1 := fun h => by rw [h] at hx'; exact absurd hx' (by decide)
  simp [σself, gupd, this]

end Gozod.C15
