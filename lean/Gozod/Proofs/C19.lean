/-
  C19 — error formatters lose nothing: every issue appears once at its own path.
  Theorems about the model in Gozod/Model/Issues.lean (reading decisions: notes/C19.md), on position
  paths (keys and indices); Proofs/C19Go.lean carries the count, tree-placement and non-emptiness theorems over to Go paths.

  The reports of FlattenError and TreeifyError are association lists filled by a fold over the issues: `alGet_alUpd` /
  `alSum_alUpd` say what one insertion does to a lookup / a total, `foldl_count` / `foldl_collect` carry that along the fold
  to every `_count` / `_place` theorem (`fileAll` is a fold so that they apply to FormatError too).
  FormatError recurses into wrapper issues: `formatError_eq` says it files the leaves
  `Spec.leavesIssues` one by one; the reserved key `_errors` of `Fmt.fileAt` makes the place
  statement partial (`reservedFree`).

  WHICH DEFINITION IS WHICH STATE OF THE CODE.  The model keeps one definition per state of a repaired place in the
  library's history, and the unsuffixed names are not always the code as it stands:
  utils.ToDotPath over position paths `List Seg` (Model/Issues.lean)
    `dotPathLegacy` — before ba66c69: segment 0 written raw;
    `dotPath`       — between ba66c69 and c7ce73a: bracketed keys copied verbatim, the empty key bare;
    `dotPathEsc`    — AS IT STANDS (since c7ce73a): a bracketed key is a string literal with `\` and `"` escaped, and the
                      empty key is bracketed.
  utils.ToDotPath over Go paths `List El` (elements of any type; Model/IssuesGo.lean)
    `dotPathOld`    — before 6ff3a13: an element that is neither string nor int written `[%v]`;
    `dotPathGo`     — AS IT STANDS: such an element written as the key of its text; on position paths it is `dotPathEsc`
                      (`segDotGo_ofSeg`).
  FormatError: `formatError` as it stands, `formatLegacy` before 34fe188; `Fmt.fileAt` as it stands, `Fmt.fileAtLegacy`
  before cef00ff.  processIssueInTree: `treeInsertGo` as it stands, `treeInsertOld` before c65f4c0.  `Cfg.fixed` is the four
  repaired places of Model/IssuesGo.lean as they stand, `Cfg.head` the same four BEFORE their fixes.
-/
import Gozod.Model.Issues
import Gozod.Model.IssuesSpec

namespace Gozod.C19
open Gozod.Issues

section
variable {β : Type}

/-- the common form of `fieldAt`, `propAt`, `kidAt` -/
def alGet (k : String) : List (String × β) → Option β
  | [] => none
  | (k', b) :: r => if k' = k then some b else alGet k r

/-- the common form of `addField`, `updProp`, `updKid`: Go's `m[k] = f(m[k])`, a missing key reading `d` -/
def alUpd (k : String) (f : β → β) (d : β) : List (String × β) → List (String × β)
  | [] => [(k, f d)]
  | (k', b) :: r => if k' = k then (k', f b) :: r else (k', b) :: alUpd k f d r

/-- the common form of `fieldTotal`, `countProps`, `countKids` -/
def alSum (w : β → Nat) : List (String × β) → Nat
  | [] => 0
  | (_, b) :: r => w b + alSum w r

theorem alGet_alUpd (k' k : String) (f : β → β) (d : β) (ps : List (String × β)) :
    (alGet k' (alUpd k f d ps)).getD d
      = if k' = k then f ((alGet k ps).getD d) else (alGet k' ps).getD d := by
  induction ps with
  | nil => by_cases h : k = k' <;> simp [alUpd, alGet, h, eq_comm (a := k')]
  | cons hd r ih =>
    by_cases h0 : hd.1 = k <;> by_cases h1 : hd.1 = k' <;> simp_all [alUpd, alGet, eq_comm (a := k')]

theorem alSum_alUpd (w : β → Nat) (k : String) (f : β → β) (d : β) (hf : ∀ b, w (f b) = w b + 1)
    (hd : w d = 0) (ps : List (String × β)) : alSum w (alUpd k f d ps) = alSum w ps + 1 := by
  induction ps with
  | nil => simp [alUpd, alSum, hf, hd]
  | cons p r ih => by_cases h : p.1 = k <;> simp [alUpd, alSum, h, hf, ih, Nat.add_assoc, Nat.add_comm 1]

end

theorem foldl_count {σ α : Type} (step : σ → α → σ) (cnt : σ → Nat) (h : ∀ s x, cnt (step s x) = cnt s + 1)
    (xs : List α) (s : σ) : cnt (xs.foldl step s) = cnt s + xs.length := by
  induction xs generalizing s with
  | nil => rfl
  | cons x r ih => rw [List.foldl_cons, ih, h, List.length_cons]; omega

theorem foldl_collect {σ α γ : Type} (step : σ → α → σ) (obs : σ → List γ) (P : α → Bool) (g : α → γ)
    (h : ∀ s x, obs (step s x) = if P x then obs s ++ [g x] else obs s) (xs : List α) (s : σ) :
    obs (xs.foldl step s) = obs s ++ (xs.filter P).map g := by
  induction xs generalizing s with
  | nil => simp
  | cons x r ih => rw [List.foldl_cons, ih, h, List.filter_cons]; cases P x <;> simp

open Gozod.Issues.Spec (headKey)

theorem addField_eq (k m : String) (fs : List (String × List String)) :
    addField k m fs = alUpd k (· ++ [m]) [] fs := by
  induction fs <;> simp [addField, alUpd, *]

theorem fieldAt_eq (k : String) (fs : List (String × List String)) : fieldAt k fs = (alGet k fs).getD [] := by
  induction fs with
  | nil => rfl
  | cons p r ih => by_cases h : p.1 = k <;> simp [fieldAt, alGet, h, ih]

theorem fieldTotal_eq (fs : List (String × List String)) : fieldTotal fs = alSum List.length fs := by
  induction fs <;> simp [fieldTotal, alSum, *]

theorem fieldTotal_addField (k m : String) (fs : List (String × List String)) :
    fieldTotal (addField k m fs) = fieldTotal fs + 1 := by
  rw [fieldTotal_eq, addField_eq, alSum_alUpd List.length k _ [] (by simp) rfl, fieldTotal_eq]

theorem fieldAt_addField (k' k m : String) (fs : List (String × List String)) :
    fieldAt k' (addField k m fs) = if k' = k then fieldAt k fs ++ [m] else fieldAt k' fs := by
  simp only [fieldAt_eq, addField_eq, alGet_alUpd]

theorem flattenStep_count (f : Flat) (i : Issue) : (flattenStep f i).count = f.count + 1 := by
  unfold flattenStep
  split <;> simp [Flat.count, fieldTotal_addField] <;> omega

/-- Flatten loses nothing: formErrors plus all fieldErrors lists hold exactly one message per issue. -/
theorem c19_flatten_count (is : List Issue) : (flatten is).count = is.length := by
  simpa [flatten, Flat.count, fieldTotal] using foldl_count flattenStep Flat.count flattenStep_count is ⟨[], []⟩

/-- Flatten files every message where its path says (and nothing else): formErrors is exactly
    the messages of the issues with an empty path, in order … -/
theorem c19_flatten_form (is : List Issue) :
    (flatten is).form = (is.filter (fun i => i.path.isEmpty)).map Issue.msg := by
  have step : ∀ (f : Flat) (i : Issue),
      (flattenStep f i).form = if i.path.isEmpty then f.form ++ [i.msg] else f.form := by
    intro f i; unfold flattenStep; cases i.path <;> simp
  simpa [flatten] using foldl_collect flattenStep Flat.form _ Issue.msg step is ⟨[], []⟩

/-- … and `fieldErrors[k]` is exactly the messages of the issues whose first path element renders to `k`. -/
theorem c19_flatten_field (k : String) (is : List Issue) :
    fieldAt k (flatten is).fields = (is.filter (fun i => headKey i == some k)).map Issue.msg := by
  have step : ∀ (f : Flat) (i : Issue), fieldAt k (flattenStep f i).fields
      = if headKey i == some k then fieldAt k f.fields ++ [i.msg] else fieldAt k f.fields := by
    intro f i; unfold flattenStep headKey
    cases i.path with
    | nil => simp
    | cons s t => by_cases h : k = s.render <;> simp [fieldAt_addField, h, eq_comm (a := s.render)]
  simpa [flatten, fieldAt] using foldl_collect flattenStep (fun f => fieldAt k f.fields) _ Issue.msg step is ⟨[], []⟩

theorem c19_flatten_place (is : List Issue) (i : Issue) (hi : i ∈ is) :
    match i.path with
    | [] => i.msg ∈ (flatten is).form
    | s :: _ => i.msg ∈ fieldAt s.render (flatten is).fields := by
  cases hp : i.path with
  | nil =>
    simp only [c19_flatten_form]
    exact List.mem_map.mpr ⟨i, List.mem_filter.mpr ⟨hi, by simp [hp]⟩, rfl⟩
  | cons s t =>
    simp only [c19_flatten_field]
    exact List.mem_map.mpr ⟨i, List.mem_filter.mpr ⟨hi, by simp [headKey, hp]⟩, rfl⟩

example : (flatten [.mk .custom [.key "a", .idx 1] "m1" [] [], .mk .invalidUnion [] "m2" [] [],
    .mk .tooBig [.key "a"] "m3" [] []]) = ⟨["m2"], [("a", ["m1", "m3"])]⟩ := by decide +kernel

theorem Tree.count_empty : Tree.empty.count = 0 := by
  simp [Tree.empty, Tree.count, countProps, countItems]

theorem Tree.count_addErr (m : String) (t : Tree) : (t.addErr m).count = t.count + 1 := by
  cases t; simp [Tree.addErr, Tree.count]; omega

theorem updProp_eq (k : String) (f : Tree → Tree) (ps : List (String × Tree)) :
    updProp k f ps = alUpd k f Tree.empty ps := by
  induction ps <;> simp [updProp, alUpd, *]

theorem propAt_eq (k : String) (ps : List (String × Tree)) : propAt k ps = alGet k ps := by
  induction ps <;> simp [propAt, alGet, *]

theorem countProps_eq (ps : List (String × Tree)) : countProps ps = alSum Tree.count ps := by
  induction ps <;> simp [countProps, alSum, *]

theorem countProps_updProp (k : String) (f : Tree → Tree) (hf : ∀ t, (f t).count = t.count + 1)
    (ps : List (String × Tree)) : countProps (updProp k f ps) = countProps ps + 1 := by
  rw [countProps_eq, updProp_eq, alSum_alUpd _ _ _ _ hf Tree.count_empty, countProps_eq]

theorem propAt_updProp (k' k : String) (f : Tree → Tree) (ps : List (String × Tree)) :
    (propAt k' (updProp k f ps)).getD Tree.empty
      = if k' = k then f ((propAt k ps).getD Tree.empty) else (propAt k' ps).getD Tree.empty := by
  simp only [propAt_eq, updProp_eq, alGet_alUpd]

theorem countItems_updItem (f : Tree → Tree) (hf : ∀ t, (f t).count = t.count + 1)
    (n : Nat) (ts : List Tree) : countItems (updItem f n ts) = countItems ts + 1 := by
  induction n generalizing ts with
  | zero => cases ts <;> simp [updItem, countItems, hf, Tree.count_empty, Nat.add_right_comm]
  | succ n ih => cases ts <;> simp [updItem, countItems, ih, Tree.count_empty, Nat.add_assoc]

theorem Tree.count_insert (p : List Seg) (m : String) (t : Tree) :
    (t.insert p m).count = t.count + 1 := by
  induction p generalizing t with
  | nil => exact Tree.count_addErr m t
  | cons s r ih =>
    obtain ⟨e, ps, ts⟩ := t
    cases s with
    | key k => simp [Tree.insert, Tree.count, countProps_updProp k _ ih]; omega
    | idx n => simp [Tree.insert, Tree.count, countItems_updItem _ ih]; omega

/-- Treeify loses nothing: the tree holds exactly one message per issue. -/
theorem c19_tree_count (is : List Issue) : (treeify is).count = is.length := by
  simpa [treeify, Tree.count_empty] using
    foldl_count _ Tree.count (fun t i => Tree.count_insert i.path i.msg t) is Tree.empty

theorem Tree.at_empty (p : List Seg) : Tree.empty.at p = [] := by
  induction p with
  | nil => rfl
  | cons s r ih => cases s <;> simpa [Tree.at, Tree.empty, propAt] using ih

theorem getD_updItem (f : Tree → Tree) (n j : Nat) (ts : List Tree) :
    (updItem f n ts).getD j Tree.empty
      = if j = n then f (ts.getD n Tree.empty) else ts.getD j Tree.empty := by
  induction n generalizing j ts with
  | zero => cases ts <;> cases j <;> simp [updItem]
  | succ n ih => cases ts <;> cases j <;> simp [updItem, ih, -List.getD_eq_getElem?_getD, List.getD_cons_zero, List.getD_cons_succ]

theorem Tree.at_insert (q : List Seg) (m : String) (p : List Seg) (t : Tree) :
    (t.insert q m).at p = if p = q then t.at p ++ [m] else t.at p := by
  induction q generalizing p t with
  | nil =>
    obtain ⟨e, ps, ts⟩ := t
    rcases p with _ | ⟨s, r⟩
    · simp [Tree.insert, Tree.addErr, Tree.at]
    · cases s <;> simp [Tree.insert, Tree.addErr, Tree.at]
  | cons s q' ih =>
    obtain ⟨e, ps, ts⟩ := t
    rcases p with _ | ⟨s', p'⟩
    · cases s <;> simp [Tree.insert, Tree.at]
    · cases s with
      | key k =>
        cases s' with
        | key k' =>
          simp only [Tree.insert, Tree.at, propAt_updProp]
          by_cases hk : k' = k <;> simp [ih, hk]
        | idx n' => simp [Tree.insert, Tree.at]
      | idx n =>
        cases s' with
        | key k' => simp [Tree.insert, Tree.at]
        | idx n' =>
          simp only [Tree.insert, Tree.at, getD_updItem]
          by_cases hn : n' = n <;> simp [ih, hn]

/-- Treeify files every message at the node its typed path denotes (string key → Properties,
    int → Items), and nothing else. -/
theorem c19_tree_place (p : List Seg) (is : List Issue) :
    (treeify is).at p = (is.filter (fun i => i.path == p)).map Issue.msg := by
  have step : ∀ (t : Tree) (i : Issue),
      (t.insert i.path i.msg).at p = if i.path == p then t.at p ++ [i.msg] else t.at p := by
    intro t i; simp [Tree.at_insert, eq_comm (a := p)]
  simpa [treeify, Tree.at_empty] using foldl_collect _ (Tree.at p) _ Issue.msg step is Tree.empty

/-- in particular typed segments are not conflated: the key "0" and the index 0 are different nodes -/
example : (treeify [.mk .custom [.key "0"] "m1" [] [], .mk .custom [.idx 0] "m2" [] []]).at [.idx 0] = ["m2"] := by
  decide +kernel
example : (treeify [.mk .custom [.idx 3, .key "_errors"] "m1" [] []]).count = 1 := by decide +kernel

open Gozod.Issues.Spec (Entry leavesIssue leavesIssues leavesBranches)

mutual
/-- the number of messages FormatError carries for an issue: one, or — for a wrapper issue with
    nested issues (invalid_union with branch errors, invalid_key / invalid_element with
    sub-issues) — one per nested leaf -/
def leafCount : Issue → Nat
  | .mk code _ _ errors issues =>
    match code with
    | .invalidUnion => if anyNonEmpty errors then leafCountBranches errors else 1
    | .invalidKey => match issues with | [] => 1 | i :: r => leafCountIssues (i :: r)
    | .invalidElement => match issues with | [] => 1 | i :: r => leafCountIssues (i :: r)
    | _ => 1
def leafCountIssues : List Issue → Nat
  | [] => 0
  | i :: r => leafCount i + leafCountIssues r
def leafCountBranches : List (List Issue) → Nat
  | [] => 0
  | b :: bs => leafCountIssues b + leafCountBranches bs
end

def fileAll (es : List Entry) (t : Fmt) : Fmt :=
  es.foldl (fun t e => Fmt.fileAt (e.1.map Seg.render) e.2 t) t

theorem fileAll_append (a b : List Entry) (t : Fmt) : fileAll (a ++ b) t = fileAll b (fileAll a t) :=
  List.foldl_append

theorem fileAll_singleton (e : Entry) (t : Fmt) : fileAll [e] t = Fmt.fileAt (e.1.map Seg.render) e.2 t := rfl

theorem leavesIssue_ne_nil (pre : List Seg) (i : Issue) : leavesIssue pre i ≠ [] := by
  have orOwn : ∀ own ls : List Entry, own ≠ [] → (if ls.isEmpty then own else ls) ≠ [] := by
    intro own ls h; split <;> simp_all
  obtain ⟨code, path, msg, errors, issues⟩ := i
  unfold leavesIssue
  -- the match on the code, here and below: `h_1` invalid_union, `h_2` / `h_3` invalid_key /
  -- invalid_element (wrappers, which may have nested leaves), `h_4` every other code
  split
  case h_4 => simp
  all_goals exact orOwn _ _ (List.cons_ne_nil _ _)

theorem leavesIssues_eq_nil (pre : List Seg) (is : List Issue) : leavesIssues pre is = [] ↔ is = [] := by
  cases is <;> simp [leavesIssues, leavesIssue_ne_nil]

theorem leavesBranches_isEmpty (pre : List Seg) (bs : List (List Issue)) :
    (leavesBranches pre bs).isEmpty = !anyNonEmpty bs := by
  induction bs with
  | nil => rfl
  | cons b r ih => cases b <;> simp_all [leavesBranches, anyNonEmpty, leavesIssues, leavesIssue_ne_nil]

mutual
theorem fmtIssue_eq : ∀ (i : Issue) (pre : List Seg) (t : Fmt),
    fmtIssue pre i t = fileAll (leavesIssue pre i) t
  | .mk code path msg errors issues, pre, t => by
    unfold fmtIssue leavesIssue
    split
    case h_1 =>
      cases h : anyNonEmpty errors <;> simp [leavesBranches_isEmpty, h, fmtBranches_eq errors, fileAll_singleton]
    case h_2 | h_3 =>
      cases issues <;> simp [leavesIssues_eq_nil, fmtIssues_eq (_ :: _), fileAll_singleton]
    case h_4 => simp [fileAll_singleton]
theorem fmtIssues_eq : ∀ (is : List Issue) (pre : List Seg) (t : Fmt),
    fmtIssues pre is t = fileAll (leavesIssues pre is) t
  | [], pre, t => rfl
  | i :: r, pre, t => by
    rw [fmtIssues, leavesIssues, fileAll_append, fmtIssue_eq i, fmtIssues_eq r]
theorem fmtBranches_eq : ∀ (bs : List (List Issue)) (pre : List Seg) (t : Fmt),
    fmtBranches pre bs t = fileAll (leavesBranches pre bs) t
  | [], pre, t => rfl
  | b :: r, pre, t => by
    rw [fmtBranches, leavesBranches, fileAll_append, fmtIssues_eq b, fmtBranches_eq r]
end

mutual
theorem leavesIssue_length : ∀ (i : Issue) (pre : List Seg), (leavesIssue pre i).length = leafCount i
  | .mk code path msg errors issues, pre => by
    unfold leavesIssue leafCount
    split
    case h_1 => cases h : anyNonEmpty errors <;> simp [leavesBranches_isEmpty, h, leavesBranches_length errors]
    case h_2 | h_3 => cases issues <;> simp [leavesIssues_eq_nil, leavesIssues_length (_ :: _)]
    case h_4 => simp
theorem leavesIssues_length : ∀ (is : List Issue) (pre : List Seg), (leavesIssues pre is).length = leafCountIssues is
  | [], pre => rfl
  | i :: r, pre => by
    rw [leavesIssues, leafCountIssues, List.length_append, leavesIssue_length i, leavesIssues_length r]
theorem leavesBranches_length : ∀ (bs : List (List Issue)) (pre : List Seg), (leavesBranches pre bs).length = leafCountBranches bs
  | [], pre => rfl
  | b :: r, pre => by
    rw [leavesBranches, leafCountBranches, List.length_append, leavesIssues_length b, leavesBranches_length r]
end

/-- FormatError is "file every leaf": one message per leaf issue, in order, at prefix ++ path
    (`leavesIssues`: the specification's leaves of an error, IssuesSpec.lean). -/
theorem formatError_eq (is : List Issue) : formatError is = fileAll (leavesIssues [] is) Fmt.empty :=
  fmtIssues_eq is [] Fmt.empty

theorem Fmt.count_empty : Fmt.empty.count = 0 := by simp [Fmt.empty, Fmt.count, countKids]

theorem Fmt.count_addErr (m : String) (t : Fmt) : (t.addErr m).count = t.count + 1 := by
  cases t; simp [Fmt.addErr, Fmt.count]; omega

theorem updKid_eq (k : String) (f : Fmt → Fmt) (ks : List (String × Fmt)) :
    updKid k f ks = alUpd k f Fmt.empty ks := by
  induction ks <;> simp [updKid, alUpd, *]

theorem kidAt_eq (k : String) (ks : List (String × Fmt)) : kidAt k ks = alGet k ks := by
  induction ks <;> simp [kidAt, alGet, *]

theorem countKids_eq (ks : List (String × Fmt)) : countKids ks = alSum Fmt.count ks := by
  induction ks <;> simp [countKids, alSum, *]

theorem countKids_updKid (k : String) (f : Fmt → Fmt) (hf : ∀ t, (f t).count = t.count + 1)
    (ks : List (String × Fmt)) : countKids (updKid k f ks) = countKids ks + 1 := by
  rw [countKids_eq, updKid_eq, alSum_alUpd _ _ _ _ hf Fmt.count_empty, countKids_eq]

theorem kidAt_updKid (k' k : String) (f : Fmt → Fmt) (ps : List (String × Fmt)) :
    (kidAt k' (updKid k f ps)).getD Fmt.empty
      = if k' = k then f ((kidAt k ps).getD Fmt.empty) else (kidAt k' ps).getD Fmt.empty := by
  simp only [kidAt_eq, updKid_eq, alGet_alUpd]

theorem Fmt.count_fileAt_all (ks : List String) (m : String) (t : Fmt) :
    (t.fileAt ks m).count = t.count + 1 := by
  induction ks generalizing t with
  | nil => exact Fmt.count_addErr m t
  | cons k r ih =>
    obtain ⟨e, kids⟩ := t
    by_cases hk : k = errorsKey
    · simp [Fmt.fileAt, hk, ih]
    · simp [Fmt.fileAt, hk, Fmt.count, countKids_updKid k _ ih]; omega

theorem Fmt.at_empty (p : List String) : Fmt.empty.at p = [] := by
  induction p with
  | nil => rfl
  | cons s r ih => simpa [Fmt.at, Fmt.empty, kidAt] using ih

theorem Fmt.at_fileAt_strip (q : List String) (m : String) (p : List String) (t : Fmt) :
    (t.fileAt q m).at p = if p = stripReserved q then t.at p ++ [m] else t.at p := by
  induction q generalizing p t with
  | nil => obtain ⟨e, kids⟩ := t; cases p <;> simp [Fmt.fileAt, Fmt.addErr, Fmt.at, stripReserved]
  | cons k q' ih =>
    obtain ⟨e, kids⟩ := t
    by_cases hk : k = errorsKey
    · simpa only [Fmt.fileAt, hk, if_true, stripReserved] using ih p _
    · rcases p with _ | ⟨k', p'⟩
      · simp [Fmt.fileAt, hk, Fmt.at, stripReserved]
      · simp only [Fmt.fileAt, hk, if_false, Fmt.at, kidAt_updKid, stripReserved]
        by_cases hkk : k' = k <;> simp [ih, hkk]

theorem stripReserved_eq_self (q : List String) (h : errorsKey ∉ q) : stripReserved q = q := by
  induction q with
  | nil => rfl
  | cons k r ih =>
    simp only [List.mem_cons, not_or] at h
    simp [stripReserved, Ne.symm h.1, ih h.2]

theorem fileAll_count_all (es : List Entry) (t : Fmt) : (fileAll es t).count = t.count + es.length :=
  foldl_count _ Fmt.count (fun t (e : Entry) => Fmt.count_fileAt_all (e.1.map Seg.render) e.2 t) es t

theorem fileAll_at_strip (es : List Entry) (p : List String) (t : Fmt) :
    (fileAll es t).at p
      = t.at p ++ (es.filter (fun e => stripReserved (e.1.map Seg.render) == p)).map (·.2) :=
  foldl_collect (fun t (e : Entry) => Fmt.fileAt (e.1.map Seg.render) e.2 t) (Fmt.at p) _ (·.2)
    (fun t e => by simp [Fmt.at_fileAt_strip, eq_comm (a := p)]) es t

/-- FormatError loses nothing — FULL statement: whatever the paths (reserved segments included),
    the report carries exactly one message per issue, or per nested leaf issue for wrapper issues. -/
theorem c19_format_count (is : List Issue) : (formatError is).count = leafCountIssues is := by
  rw [formatError_eq, fileAll_count_all, Fmt.count_empty, leavesIssues_length, Nat.zero_add]

theorem leafCount_pos (i : Issue) : 0 < leafCount i := by
  rw [← leavesIssue_length i []]
  exact List.length_pos_iff.mpr (leavesIssue_ne_nil [] i)

theorem length_le_leafCountIssues (is : List Issue) : is.length ≤ leafCountIssues is := by
  induction is with
  | nil => exact Nat.le_refl 0
  | cons i r ih =>
    have := leafCount_pos i
    simp only [List.length_cons, leafCountIssues]
    omega

/-- FormatError never carries fewer messages than there are issues, however the wrapper issues
    are nested -/
theorem c19_format_accounts_every_issue (is : List Issue) : is.length ≤ (formatError is).count := by
  rw [c19_format_count]; exact length_le_leafCountIssues is

/-- union inside union inside element: the two leaves, filed at element ++ union ++ leaf path -/
example :
    let e : List Issue := [.mk .invalidElement [.idx 0] "e" [] [.mk .invalidUnion [.key "u"] "u1"
      [[.mk .invalidUnion [] "u2" [[.mk .tooBig [.key "x"] "l1" [] []], [.mk .tooSmall [.key "y"] "l2" [] []]] []], []] []]]
    (formatError e).count = 2 ∧ (formatError e).at ["0", "u", "x"] = ["l1"] ∧ (formatError e).at ["0", "u", "y"] = ["l2"]
      ∧ (treeify e).count = 1 ∧ (flatten e).count = 1 := by decide +kernel

/-- FormatError files every message at the node its rendered path denotes once reserved segments
    are dropped: the node reached by a chain of keys `p` holds exactly the messages of the leaves
    whose rendered prefix ++ path, reserved segments skipped, is `p`
    (none when `p` itself has a reserved segment: there is no such node). -/
theorem c19_format_place (is : List Issue) (p : List String) :
    (formatError is).at p
      = ((leavesIssues [] is).filter (fun e => stripReserved (e.1.map Seg.render) == p)).map (·.2) := by
  rw [formatError_eq, fileAll_at_strip, Fmt.at_empty, List.nil_append]

/-- no effective path of the error (prefix ++ path of a leaf) has a segment that renders to
    `"_errors"` — the region in which FormatError is proved to lose nothing -/
def reservedFree (is : List Issue) : Bool :=
  (leavesIssues [] is).all (fun e => !(e.1.map Seg.render).contains errorsKey)

set_option linter.unusedVariables false in
/-- `fileAll_count_all` with an unused hypothesis -/
theorem fileAll_count (es : List Entry) (h : ∀ e ∈ es, errorsKey ∉ e.1.map Seg.render) (t : Fmt) :
    (fileAll es t).count = t.count + es.length :=
  fileAll_count_all es t

/-- legacy witness: before cef00ff a reserved last segment drops the only message of the error -/
theorem legacy_fileAt_drops_reserved :
    (Fmt.fileAtLegacy ["a", "_errors"] "m1" Fmt.empty).count = 0 ∧
    (Fmt.fileAt ["a", "_errors"] "m1" Fmt.empty).at ["a"] = ["m1"] := by decide +kernel

/-- outside the reserved-key region FormatError files every message at the node its rendered path
    denotes, and nothing else: the node reached by the chain of keys `p` holds exactly the
    messages of the leaves whose prefix ++ path renders to `p`, in order. -/
theorem c19_format_place_partial (is : List Issue) (h : reservedFree is = true) (p : List String) :
    (formatError is).at p
      = ((leavesIssues [] is).filter (fun e => e.1.map Seg.render == p)).map (·.2) := by
  rw [c19_format_place]
  congr 1
  refine List.filter_congr fun e he => ?_
  rw [stripReserved_eq_self]
  simpa using List.all_eq_true.mp h e he

set_option linter.unusedVariables false in
/-- `c19_format_place` with an unused hypothesis -/
theorem c19_format_place_strip (is : List Issue) (p : List String) (hp : errorsKey ∉ p) :
    (formatError is).at p
      = ((leavesIssues [] is).filter (fun e => stripReserved (e.1.map Seg.render) == p)).map (·.2) :=
  c19_format_place is p

/-- witness: a reserved segment in the middle is skipped, so the message is filed one level up -/
theorem c19_format_place_full_false :
    (formatError [.mk .custom [.key "_errors", .key "z"] "m1" [] []]).at ["z"] = ["m1"] ∧
    (formatError [.mk .custom [.key "_errors", .key "z"] "m1" [] []]).at ["_errors", "z"] = [] := by
  decide +kernel

example : reservedFree [.mk .invalidUnion [.key "u"] "m0" [[.mk .tooBig [.idx 1] "m1" [] []], []] [],
    .mk .invalidElement [.idx 0] "m2" [] []] = true := by decide +kernel
example : (formatError [.mk .invalidUnion [.key "u"] "m0" [[.mk .tooBig [.idx 1] "m1" [] []], []] [],
    .mk .invalidElement [.idx 0] "m2" [] []]).at ["u", "1"] = ["m1"] := by decide +kernel

/-- a real `Union([String(),Int()]).Parse(true)` error: one invalid_union issue, no branch errors -/
theorem legacy_format_drops_union : (formatLegacy [.mk .invalidUnion [] "m1" [] []]).count = 0 := by decide +kernel
/-- a real `Array(String()).Parse([]any{1})`-shaped issue without sub-issues -/
theorem legacy_format_drops_element : (formatLegacy [.mk .invalidElement [.idx 0] "m1" [] []]).count = 0 := by decide +kernel
theorem legacy_format_drops_unknown_code : (formatLegacy [.mk (.other "my_code") [.key "a"] "m1" [] []]).count = 0 := by decide +kernel
/-- the sub-issue of element 1 is filed at the root instead of under "1" -/
theorem legacy_format_misfiles_nested :
    (formatLegacy [.mk .invalidElement [.idx 1] "m0" [] [.mk .invalidType [] "m1" [] []]]).at [] = ["m1"] ∧
    (formatError [.mk .invalidElement [.idx 1] "m0" [] [.mk .invalidType [] "m1" [] []]]).at ["1"] = ["m1"] := by decide +kernel

/-- before 34fe188 the error of a real failed `Union([String(),Int()]).Parse(true)` formats to `{"_errors":[]}` -/
theorem legacy_nonempty_false :
    ∃ is : List Issue, is ≠ [] ∧ reservedFree is = true ∧ (formatLegacy is).count = 0 :=
  ⟨[.mk .invalidUnion [] "m1" [] []], by simp, by decide +kernel, by decide +kernel⟩

/-- Prettify loses nothing: the report is the "; "-join of exactly one segment per issue (the first
    conjunct unfolds `prettify` on a non-empty list, the second is `List.length_map`) … -/
theorem c19_prettify_count (is : List Issue) (h : is ≠ []) :
    prettify is = "; ".intercalate (is.map prettySeg) ∧ (is.map prettySeg).length = is.length := by
  cases is with
  | nil => exact absurd rfl h
  | cons i r => exact ⟨rfl, List.length_map _⟩

/-- … and the segment of an issue is its message, preceded by its path in dot notation when the
    path is not empty. -/
theorem c19_prettify_place (i : Issue) :
    prettySeg i = if i.path = [] then i.msg else dotPathEsc i.path ++ ": " ++ i.msg := by
  unfold prettySeg
  cases i.path <;> simp

example : prettify [.mk .tooBig [.key "users", .idx 0, .key "first-name"] "m1" [] [], .mk .custom [] "m2" [] []]
    = "users[0][\"first-name\"]: m1; m2" := by decide +kernel

theorem intercalate_eq_nil_iff (sep : List Char) (hs : sep ≠ []) (xs : List (List Char)) :
    sep.intercalate xs = [] ↔ xs = [] ∨ xs = [[]] := by
  match xs with
  | [] => simp [List.intercalate]
  | [a] => simp [List.intercalate]
  | a :: b :: r => rw [List.intercalate_cons_cons]; simp [hs]

theorem semi_intercalate_eq_empty_iff (xs : List String) :
    "; ".intercalate xs = "" ↔ xs = [] ∨ xs = [""] := by
  rw [← String.toList_inj, String.toList_intercalate, String.toList_empty,
    intercalate_eq_nil_iff _ (by decide)]
  match xs with
  | [] | [x] | x :: y :: r => simp

theorem semi_intercalate_map_eq_empty_iff {ι : Type} (f : ι → String) (xs : List ι) (h : xs ≠ []) :
    "; ".intercalate (xs.map f) = "" ↔ ∃ i, xs = [i] ∧ f i = "" := by
  rw [semi_intercalate_eq_empty_iff]
  match xs with
  | [] => exact absurd rfl h
  | [i] => simp
  | i :: j :: r => simp

theorem prettySeg_eq_empty_iff (i : Issue) : prettySeg i = "" ↔ i.path = [] ∧ i.msg = "" := by
  unfold prettySeg
  cases i.path <;> simp

/-- the exact region in which PrettifyError's report is the empty string: one issue, at the root,
    whose message (what the mapper / formatter returned) is empty.  Never with the library's own
    formatter (its messages are non-empty: Proofs/C04Creators.lean `default_message_nonempty`, and
    the run asks for every report of the default mapper to be non-empty). -/
theorem c19_prettify_empty_iff (is : List Issue) :
    prettify is = "" ↔ ∃ i, is = [i] ∧ i.path = [] ∧ i.msg = "" := by
  cases is with
  | nil => simp [prettify, prettySegs]
  | cons i r =>
    simpa [prettify, prettySegs, prettySeg_eq_empty_iff] using
      semi_intercalate_map_eq_empty_iff prettySeg (i :: r) (by simp)

/-- a non-empty error never formats to an empty report: Flatten, Treeify and FormatError carry at
    least one message; PrettifyError's report is not the empty string when no message is
    (HYPOTHESIS `msg ≠ ""`: `Issue.msg` stands for mapper(issue), and a user-supplied formatter may
    return ""; without it the statement is false: `c19_prettify_nonempty_full_false`; the exact
    region is `c19_prettify_empty_iff`). -/
theorem c19_nonempty (is : List Issue) (h : is ≠ []) :
    0 < (flatten is).count ∧ 0 < (treeify is).count ∧ ((∀ i ∈ is, i.msg ≠ "") → prettify is ≠ "") ∧
    0 < (formatError is).count := by
  have hl : 0 < is.length := List.length_pos_iff.mpr h
  refine ⟨by rwa [c19_flatten_count], by rwa [c19_tree_count], fun hm he => ?_,
    Nat.lt_of_lt_of_le hl (c19_format_accounts_every_issue is)⟩
  obtain ⟨j, rfl, _, hmsg⟩ := (c19_prettify_empty_iff _).mp he
  exact hm j (by simp) hmsg

example : (∀ i ∈ [Issue.mk .tooBig [.key "a"] "m1" [] [], .mk .custom [] "m2" [] []], i.msg ≠ "") := by
  intro i hi; simp at hi; rcases hi with rfl | rfl <;> decide

def c19_prettify_nonempty_full : Prop := ∀ is : List Issue, is ≠ [] → prettify is ≠ ""

/-- witness: `PrettifyErrorWithFormatter(&ZodError{Issues: {{Code: custom}}}, f)` with `f` returning ""
    is the empty string (re-derived on the real code by the run: entry-point variant `blank-formatter`) -/
theorem c19_prettify_nonempty_full_false : ¬ c19_prettify_nonempty_full :=
  fun h => h [.mk .custom [] "" [] []] (by simp) ((c19_prettify_empty_iff _).mpr ⟨_, rfl, rfl, rfl⟩)

end Gozod.C19
