/-
  C16 — numeric bounds and multiples are decided exactly over each type's whole range.

  Model: `Gozod.Model.Num` (transcription of `pkg/validate.compareNumeric`, `cmpInts`,
  `cmpIntFloat`, `multipleOfInts`).  Here: the shared vocabulary (`Num.wf`, `isInt`, `ival`) and the
  two exactness results all C16 statements come from, `cmpNum_exact` and `multipleOfInts_exact`.

  Namespaces of the C16 modules: `C16` this file, `C16A` C16Arms, `C16B` C16Big, `C16D` C16Dispatch,
  `C16F` C16Float and C16FloatBound, `C16M` C16Methods.
-/
import Gozod.Model.Num

namespace Gozod.C16
open Gozod

/-- The payload fits its holder (`toNum` builds no other).  It is declared in the proofs' namespace, not in `Num`'s,
    so `n.wf` does not resolve: write `Num.wf n` (likewise `C16B.Opnd.wf`, `C17.F.finite`, `FloatMul.F.rep`). -/
def Num.wf : Num → Prop
  | .i v => IntTy.i64.inRange v
  | .u v => IntTy.u64.inRange v
  | .f _ => True

theorem wf_i {v : Int} : Num.wf (.i v) ↔ -(2 ^ 63) ≤ v ∧ v ≤ 2 ^ 63 - 1 := Iff.rfl

theorem wf_u {v : Int} : Num.wf (.u v) ↔ 0 ≤ v ∧ v ≤ 2 ^ 64 - 1 := Iff.rfl

theorem ofInt_wf (t : IntTy) (v : Int) (h : t.inRange v) : Num.wf (Num.ofInt t v) := by
  cases t <;> exact And.intro (Int.le_trans (by decide) h.1) (Int.le_trans h.2 (by decide))

theorem ofInt_toF (t : IntTy) (v : Int) : (Num.ofInt t v).toF = F.ofInt v := by
  unfold Num.ofInt; split <;> rfl

def ival : Num → Int
  | .i v => v | .u v => v | .f _ => 0

def isInt : Num → Bool
  | .f _ => false | _ => true

theorem isInt_cases {n : Num} (h : isInt n = true) : ∃ v, n = .i v ∨ n = .u v := by
  cases n with
  | f _ => cases h
  | i v => exact ⟨v, .inl rfl⟩
  | u v => exact ⟨v, .inr rfl⟩

theorem ofInt_isInt (t : IntTy) (v : Int) : isInt (Num.ofInt t v) = true := by
  unfold Num.ofInt; split <;> rfl

theorem ofInt_ival (t : IntTy) (v : Int) : ival (Num.ofInt t v) = v := by
  unfold Num.ofInt; split <;> rfl

theorem castU64_id (a : Int) (h0 : 0 ≤ a) (h1 : a < 2 ^ 64) : castU64 a = a :=
  Int.emod_eq_of_lt h0 h1

theorem cmpInts_exact (a b : Num) (ha : Num.wf a) (hb : Num.wf b)
    (hfa : isInt a = true) (hfb : isInt b = true) :
    cmpInts a b = compare (ival a) (ival b) := by
  obtain ⟨va, rfl | rfl⟩ := isInt_cases hfa <;> obtain ⟨vb, rfl | rfl⟩ := isInt_cases hfb
  · rfl
  -- mixed holders: a negative int64 is below every uint64, otherwise `uint64(·)` changes nothing
  · have := wf_i.mp ha; have := wf_u.mp hb
    show (if va < 0 then _ else _) = compare va vb
    split
    · exact (Int.compare_eq_lt.mpr (by omega)).symm
    · rw [castU64_id va (by omega) (by omega)]
  · have := wf_u.mp ha; have := wf_i.mp hb
    show (if vb < 0 then _ else _) = compare va vb
    split
    · exact (Int.compare_eq_gt.mpr (by omega)).symm
    · rw [castU64_id vb (by omega) (by omega)]
  · rfl

theorem ofOrdering_compare (op : CmpOp) (v b : Int) :
    op.ofOrdering (compare v b) = op.holdsInt v b := by
  rcases Int.lt_trichotomy v b with h | rfl | h
  · rw [Int.compare_eq_lt.mpr h]; cases op <;> simp [CmpOp.ofOrdering, CmpOp.holdsInt] <;> omega
  · rw [Int.compare_eq_eq.mpr rfl]; cases op <;> simp [CmpOp.ofOrdering, CmpOp.holdsInt]
  · rw [Int.compare_eq_gt.mpr h]; cases op <;> simp [CmpOp.ofOrdering, CmpOp.holdsInt] <;> omega

theorem cmp_fin0 (x y : Int) : F.cmp (.fin x 0) (.fin y 0) = some (compare x y) := by
  simp only [F.cmp, Int.pow_zero, Int.mul_one]

theorem toF_of_isInt {n : Num} (h : isInt n = true) : n.toF = .fin (ival n) 0 := by
  cases n with
  | f _ => cases h
  | _ => rfl

/-- No range hypothesis: `Num.toF` of an integer is exact. -/
theorem specCmp_ints (op : CmpOp) (a b : Num) (ha : isInt a = true) (hb : isInt b = true) :
    specCmp op a b = op.holdsInt (ival a) (ival b) := by
  unfold specCmp
  rw [toF_of_isInt ha, toF_of_isInt hb, cmp_fin0]
  exact ofOrdering_compare op _ _

/-- C16 (floats). Definitional in the model: Go's `<`/`>` on float64 are the IEEE order,
    which is what `F.cmp` is; the NaN guard of `cmpFloats` makes every relation false. -/
theorem c16_float_cmp (op : CmpOp) (x y : F) :
    implCmp op (.f x) (.f y) = specCmp op (.f x) (.f y) := rfl

theorem c16_nan_left (op : CmpOp) (b : Num) : implCmp op (.f .nan) b = false := by
  cases b <;> rfl

theorem c16_nan_right (op : CmpOp) (v : Num) : implCmp op v (.f .nan) = false := by
  cases v with
  | f x => cases x <;> rfl
  | _ => rfl

/-- −0 (sign bit alone) and +0 decode to the same value. -/
theorem c16_neg_zero : F.ofBits (2 ^ 63) = F.fin 0 1074 ∧ F.ofBits 0 = F.fin 0 1074 := by
  constructor <;> rfl

theorem c16_zero_eq (k l : Nat) : F.cmp (F.fin 0 k) (F.fin 0 l) = some .eq := by
  simp [F.cmp]

theorem tdiv_sandwich (a : Int) {d : Int} (hd : 0 < d) :
    (a.tdiv d - 1) * d < a ∧ a < (a.tdiv d + 1) * d := by
  have h := Int.mul_tdiv_add_tmod a d
  have h1 := Int.lt_tmod_of_pos a hd
  have h2 := Int.tmod_lt_of_pos a hd
  rw [Int.mul_comm] at h
  rw [Int.sub_mul, Int.add_mul, Int.one_mul]
  omega

theorem cmpWithTrunc_lt {v t : Int} (a : Int) (k : Nat) (h : v < t) : cmpWithTrunc v t a k = .lt := by
  unfold cmpWithTrunc; rw [Int.compare_eq_lt.mpr h]

theorem cmpWithTrunc_gt {v t : Int} (a : Int) (k : Nat) (h : t < v) : cmpWithTrunc v t a k = .gt := by
  unfold cmpWithTrunc; rw [Int.compare_eq_gt.mpr h]

theorem compare_scaled (v a : Int) (k : Nat) :
    compare (v * 2 ^ k) a = cmpWithTrunc v (Int.tdiv a (2 ^ k)) a k := by
  have hp : (0 : Int) < 2 ^ k := Int.pow_pos (by decide)
  have ⟨hlo, hhi⟩ := tdiv_sandwich a hp
  -- an integer other than the truncation is a whole `2^k` away from it, hence on that side of `a`
  rcases Int.lt_trichotomy v (Int.tdiv a (2 ^ k)) with h | rfl | h
  · have := Int.mul_le_mul_of_nonneg_right (show v ≤ Int.tdiv a (2 ^ k) - 1 by omega) (Int.le_of_lt hp)
    rw [cmpWithTrunc_lt a k h, Int.compare_eq_lt]; omega
  · unfold cmpWithTrunc fracTie
    rw [Int.compare_eq_eq.mpr rfl, Int.compare_eq_ite_lt]
  · have := Int.mul_le_mul_of_nonneg_right (show Int.tdiv a (2 ^ k) + 1 ≤ v by omega) (Int.le_of_lt hp)
    rw [cmpWithTrunc_gt a k h, Int.compare_eq_gt]; omega

/-- C16 (mixed). An integer against a float64 bound (as struct tags give them) is ordered exactly as the
    rationals they denote, with no rounding of the integer. -/
theorem c16_int_float_cmp (n : Num) (x : F) (hn : Num.wf n) (hnf : isInt n = true) :
    cmpIntFloat n x = F.cmp n.toF x := by
  cases x with
  | fin a k =>
    -- both sides become `some (cmpWithTrunc v t a k)`; where a range guard of the code answers
    -- instead, `v` lies strictly on that side of the truncation `t`
    cases n with
    | f y => cases hnf
    | u v =>
      have := wf_u.mp hn
      show (if a < 0 then _ else if Int.tdiv a (2 ^ k) ≥ 2 ^ 64 then _ else _)
        = some (compare (v * 2 ^ k) (a * 2 ^ 0))
      rw [Int.pow_zero, Int.mul_one]
      split
      · have hp : (0 : Int) < 2 ^ k := Int.pow_pos (by decide)
        have := Int.mul_nonneg this.1 (Int.le_of_lt hp)
        exact congrArg some (Int.compare_eq_gt.mpr (by omega)).symm
      · rw [compare_scaled]
        split
        · rw [cmpWithTrunc_lt a k (by omega)]
        · rfl
    | i v =>
      have := wf_i.mp hn
      show (if Int.tdiv a (2 ^ k) ≥ 2 ^ 63 then _ else if Int.tdiv a (2 ^ k) < -(2 ^ 63) then _ else _)
        = some (compare (v * 2 ^ k) (a * 2 ^ 0))
      rw [Int.pow_zero, Int.mul_one, compare_scaled]
      split
      · rw [cmpWithTrunc_lt a k (by omega)]
      · split
        · rw [cmpWithTrunc_gt a k (by omega)]
        · rfl
  | _ =>
    cases n with
    | f _ => cases hnf
    | _ => rfl

theorem flip_compare (x y : Int) : Ordering.flip (compare x y) = compare y x := by
  rw [← Int.compare_swap x y]; cases compare x y <;> rfl

theorem F.cmp_flip (x y : F) : (F.cmp x y).map Ordering.flip = F.cmp y x := by
  cases x <;> cases y
  case fin.fin => exact congrArg some (flip_compare _ _)
  all_goals rfl

/-- On well-formed operands `compareNumeric` computes the order of the values denoted, `none`
    exactly when a NaN is involved. -/
theorem cmpNum_exact (v b : Num) (hv : Num.wf v) (hb : Num.wf b) :
    cmpNum v b = F.cmp v.toF b.toF := by
  cases v <;> cases b
  case f.f => rfl
  case f.i | f.u => exact (congrArg _ (c16_int_float_cmp _ _ hb rfl)).trans (F.cmp_flip _ _)
  case i.f | u.f => exact c16_int_float_cmp _ _ hv rfl
  all_goals exact (congrArg some (cmpInts_exact _ _ hv hb rfl rfl)).trans (cmp_fin0 _ _).symm

/-- C16, all operand kinds. The implementation's verdict is the mathematical comparison of
    the values denoted, false when a NaN is involved. -/
theorem c16_cmp (op : CmpOp) (v b : Num) (hv : Num.wf v) (hb : Num.wf b) :
    implCmp op v b = specCmp op v b := by
  unfold implCmp specCmp; rw [cmpNum_exact v b hv hb]

/-- C16 (integers). For every pair of Go integer types and every operator, the verdict on in-range
    `v`, `b` is the mathematical comparison. -/
theorem c16_int_cmp (op : CmpOp) (t t' : IntTy) (v b : Int)
    (hv : t.inRange v) (hb : t'.inRange b) :
    implCmp op (Num.ofInt t v) (Num.ofInt t' b) = op.holdsInt v b := by
  rw [c16_cmp op _ _ (ofInt_wf t v hv) (ofInt_wf t' b hb),
    specCmp_ints op _ _ (ofInt_isInt t v) (ofInt_isInt t' b), ofInt_ival, ofInt_ival]

/-- Sign shorthands (`Positive`, `Negative`, `NonNegative`, `NonPositive`) pass the untyped
    constant `0`, an `int`. -/
theorem c16_sign (op : CmpOp) (t : IntTy) (v : Int) (hv : t.inRange v) :
    implCmp op (Num.ofInt t v) (Num.ofInt .int 0) = op.holdsInt v 0 :=
  c16_int_cmp op t .int v 0 hv (by decide)

/-- The shape of every arm of `multipleOfInts`: a zero divisor is refused, then a remainder test. -/
theorem specMultiple_of_test {v d : Int} {test : Bool} (h : d ≠ 0 → (test = true ↔ d ∣ v)) :
    (if d = 0 then false else test) = specMultipleOfInt v d := by
  unfold specMultipleOfInt
  by_cases h0 : d = 0
  · simp [h0]
  · rw [if_neg h0, Bool.eq_iff_iff, decide_eq_true_eq]
    exact (h h0).trans (and_iff_right h0).symm

theorem emod_test {v m : Int} : (v % m == 0) = true ↔ m ∣ v :=
  beq_iff_eq.trans Int.dvd_iff_emod_eq_zero.symm

theorem tmod_test {v d : Int} : (Int.tmod v d == 0) = true ↔ d ∣ v :=
  beq_iff_eq.trans Int.dvd_iff_tmod_eq_zero.symm

theorem multipleOfInts_exact (a b : Num) (ha : Num.wf a) (hb : Num.wf b)
    (hia : isInt a = true) (hib : isInt b = true) :
    multipleOfInts a b = specMultipleOfInt (ival a) (ival b) := by
  obtain ⟨v, rfl | rfl⟩ := isInt_cases hia <;> obtain ⟨d, rfl | rfl⟩ := isInt_cases hib
  · exact specMultiple_of_test fun _ => tmod_test
  · have := wf_i.mp ha
    refine specMultiple_of_test fun _ => ?_
    show (if d > 2 ^ 63 - 1 then v == 0 || (v == -(2 ^ 63) && d == 2 ^ 63) else goRem v d == 0) = true ↔ d ∣ v
    split
    · -- `|v| ≤ 2^63 ≤ d`: a multiple of `d` in that range is `0`, or `-d` when `d = 2^63`
      simp only [Bool.or_eq_true, Bool.and_eq_true, beq_iff_eq]
      constructor
      · rintro (rfl | ⟨rfl, rfl⟩)
        · exact Int.dvd_zero d
        · exact Int.dvd_neg.mpr (Int.dvd_refl _)
      · intro hd
        by_cases hlt : v.natAbs < d.natAbs
        · exact Or.inl (Int.eq_zero_of_dvd_of_natAbs_lt_natAbs hd hlt)
        · exact Or.inr (by omega)
    · exact tmod_test
  · -- the divisor handed to `%` is `|d|` as a uint64
    have := wf_i.mp hb
    refine specMultiple_of_test fun _ => ?_
    show (v % (if d < 0 then castU64 (-(d + 1)) + 1 else castU64 d) == 0) = true ↔ d ∣ v
    split
    · rw [castU64_id _ (by omega) (by omega), show -(d + 1) + 1 = -d by omega]
      exact emod_test.trans Int.neg_dvd
    · rw [castU64_id d (by omega) (by omega)]
      exact emod_test
  · exact specMultiple_of_test fun _ => emod_test

/-- C16 (MultipleOf). On integers the check holds exactly when the input is an integer
    multiple of the (non-zero) divisor; a zero divisor accepts nothing. -/
theorem c16_multiple_int (t t' : IntTy) (v d : Int) (hv : t.inRange v) (hd : t'.inRange d) :
    multipleOfInts (Num.ofInt t v) (Num.ofInt t' d) = specMultipleOfInt v d := by
  rw [multipleOfInts_exact _ _ (ofInt_wf t v hv) (ofInt_wf t' d hd) (ofInt_isInt t v) (ofInt_isInt t' d),
    ofInt_ival, ofInt_ival]

/-- `legacyCmpInt` (the code before the `fix:` commit: everything through float64) is wrong above 2^53. -/
theorem legacy_cmp_inexact :
    ¬ ∀ v b : Int, IntTy.i64.inRange v → IntTy.i64.inRange b →
        legacyCmpInt .gt v b = CmpOp.gt.holdsInt v b := by
  intro h
  have := h (2 ^ 53 + 1) (2 ^ 53) (by decide) (by decide)
  revert this; decide

theorem legacy_multiple_eps :
    legacyMultipleOfSmall 10000005 10000000 = true ∧ specMultipleOfInt 10000005 10000000 = false := by
  decide

/-- Non-vacuity, and the fixed algorithm gets the legacy witnesses right. -/
example : IntTy.i64.inRange (2 ^ 53 + 1) ∧ IntTy.u64.inRange (2 ^ 64 - 1) ∧
    implCmp .gt (Num.ofInt .i64 (2 ^ 53 + 1)) (Num.ofInt .i64 (2 ^ 53)) = true ∧
    implCmp .lt (Num.ofInt .i64 (-1)) (Num.ofInt .u64 (2 ^ 64 - 1)) = true ∧
    multipleOfInts (Num.ofInt .i64 10000005) (Num.ofInt .i64 10000000) = false := by decide

end Gozod.C16
