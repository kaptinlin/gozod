/-
  C19 — the dot notation identifies the path (position paths: keys and indices).

  Three renderings over position paths: `dotPathLegacy`, `dotPath` (both earlier states of utils.ToDotPath) and
  `dotPathEsc` (the code as it stands): the legend is at the head of Proofs/C19.lean.

  `c19_dotpath_esc_injective` (the code as it stands) is read off the round trip through the parser
  of Proofs/C19Parse.lean; `esc_split` and `segDotEsc_split` say the same of one escaped key and of
  one segment, and the theorem does not go through them.  The code before c7ce73a has it on the
  region `escFree`, where both renderings coincide (`dotPath_eq_esc`).
-/
import Gozod.Proofs.C19Parse
namespace Gozod.C19
open Gozod.Issues

theorem esc_split : ∀ (a b u v : List Char),
    escChars a ++ '"' :: u = escChars b ++ '"' :: v → a = b ∧ u = v := by
  intro a b u v h
  have := unesc_esc b v
  rw [← h, unesc_esc a u] at this
  simpa using this

theorem ofSeg_injective {s t : Seg} (h : ofSeg s = ofSeg t) : s = t := by
  have inv : ∀ s : Seg, toSeg? (ofSeg s) = some s := fun s => by cases s <;> rfl
  exact Option.some.inj (by rw [← inv s, h, inv t])

theorem segDotEsc_split (first : Bool) (s t : Seg) (u v : List Char) (hu : delimited u) (hv : delimited v)
    (h : segDotEsc first s ++ u = segDotEsc first t ++ v) : s = t ∧ u = v := by
  have typed : ∀ s : Seg, (ofSeg s).typed = true := fun s => by cases s <;> rfl
  have := parseOne_seg first (ofSeg t) (typed t) v hv
  rw [segDotGo_ofSeg, ← h, ← segDotGo_ofSeg, parseOne_seg first (ofSeg s) (typed s) u hu] at this
  simp only [Option.some.injEq, Prod.mk.injEq] at this
  exact ⟨ofSeg_injective this.1, this.2⟩

/-- ToDotPath identifies the path — FULL statement: for all paths, with arbitrary keys (empty,
    numeric-looking, dotted, containing quotes, brackets, backslashes) and indices, two different
    paths never render alike (`c19_dotpath_esc_injective'` of C19Parse, under the name the documents use).  So the
    "path: message" segments of PrettifyError / err.Error() name the position unambiguously. -/
theorem c19_dotpath_esc_injective (p q : List Seg) (h : dotPathEsc p = dotPathEsc q) : p = q :=
  c19_dotpath_esc_injective' p q h

/-- in particular a non-empty path never renders to nothing (under `dotPath`, `[""]` prints like `[]`:
    `dotpath_empty_key`) -/
theorem c19_dotpath_esc_nonempty (p : List Seg) (h : p ≠ []) : dotPathEsc p ≠ "" :=
  fun e => h (c19_dotpath_esc_injective p [] e)

/-- the inputs on which the code before c7ce73a collides -/
example : dotPathEsc [.key "-a\"][\"-b"] ≠ dotPathEsc [.key "-a", .key "-b"] := by decide +kernel
example : dotPathEsc [.key ""] = "[\"\"]" := by decide +kernel
example : dotPathEsc [.key "users", .idx 0, .key "first-name", .key "x\"y\\"] = "users[0][\"first-name\"][\"x\\\"y\\\\\"]" := by decide +kernel

/-- the full statement for ToDotPath BEFORE c7ce73a (`dotPath`) -/
def c19_dotpath_injective_full : Prop := ∀ p q : List Seg, dotPath p = dotPath q → p = q

/-- legacy witness (code before c7ce73a): a key is copied between `["` and `"]` without escaping,
    and an empty first key renders to nothing -/
theorem c19_dotpath_injective_full_false : ¬ c19_dotpath_injective_full := by
  intro h
  have := h [.key "-a\"][\"-b"] [.key "-a", .key "-b"] (by decide +kernel)
  simp at this

theorem dotpath_empty_key : dotPath [.key ""] = dotPath [] := by decide +kernel

/-- the code before ba66c69 writes segment 0 verbatim:
    `["a.b"]` and `["a","b"]` are the same text under `dotPathLegacy`, different under `dotPath` -/
theorem legacy_dotpath_conflates :
    dotPathLegacy [.key "a.b"] = dotPathLegacy [.key "a", .key "b"] ∧
    dotPath [.key "a.b"] ≠ dotPath [.key "a", .key "b"] := by decide +kernel

/-- a key that `dotPath` and `dotPathEsc` render alike: not empty, no `"`, no `\` -/
def escFreeKey (s : String) : Bool :=
  !s.toList.isEmpty && s.toList.all (fun c => !(c == '"' || c == '\\'))

def escFreeSeg : Seg → Bool
  | .key s => escFreeKey s
  | .idx _ => true

/-- the region of the partial theorem; its complement (some key is empty or contains `"` or `\`)
    is the excluded region -/
def escFree (p : List Seg) : Bool := p.all escFreeSeg

theorem escChars_id : ∀ (cs : List Char), (∀ c ∈ cs, c ≠ '"' ∧ c ≠ '\\') → escChars cs = cs
  | [], _ => rfl
  | c :: r, h => by
    have hc := h c (by simp)
    have hr := escChars_id r (fun x hx => h x (by simp [hx]))
    simp [escChars, escChar, hc.1, hc.2, hr]

theorem escFreeKey_chars {s : String} (h : escFreeKey s = true) :
    s.toList.isEmpty = false ∧ ∀ c ∈ s.toList, c ≠ '"' ∧ c ≠ '\\' := by
  simpa [escFreeKey] using h

theorem segDot_eq_esc (first : Bool) (s : Seg) (h : escFreeSeg s = true) : segDot first s = segDotEsc first s := by
  cases s with
  | idx n => rfl
  | key k =>
    obtain ⟨he, hch⟩ := escFreeKey_chars h
    cases hb : needsBracket k <;> simp [segDot, segDotEsc, quotedKey, hb, he, escChars_id _ hch]

theorem dotRest_eq (p : List Seg) : dotRest p = p.flatMap (segDot false) := by
  induction p <;> simp [dotRest, *]

theorem dotChars_eq (p : List Seg) : dotChars p = renderPath segDot p := by
  cases p <;> simp [dotChars, renderPath, dotRest_eq]

theorem dotPath_eq_esc (p : List Seg) (h : escFree p = true) : dotPath p = dotPathEsc p := by
  have := renderPath_map (sa := segDotEsc) (sb := segDot) id p
    (fun s hs first => segDot_eq_esc first s (List.all_eq_true.mp h s hs))
  rw [dotPath, dotPathEsc, dotChars_eq, dotCharsEsc_eq, ← this, List.map_id]

/-- ToDotPath before c7ce73a identified the path on every escape-free path (keys of any shape —
    numeric-looking, dotted, spaced, bracketed, non-ASCII — as long as no key is empty or contains
    `"` or `\`).  The full statement is false: `c19_dotpath_injective_full_false`. -/
theorem c19_dotpath_injective_escfree (p q : List Seg) (hp : escFree p = true) (hq : escFree q = true)
    (h : dotPath p = dotPath q) : p = q := by
  rw [dotPath_eq_esc p hp, dotPath_eq_esc q hq] at h
  exact c19_dotpath_esc_injective p q h

/-- a key that ToDotPath writes verbatim: a non-empty identifier that does not start with a digit -/
def plainKey (s : String) : Bool := !s.toList.isEmpty && !needsBracket s

def plainSeg : Seg → Bool
  | .key s => plainKey s
  | .idx _ => true

/-- the excluded region of the injectivity theorem is its complement: some key is empty, starts
    with a digit, or has a character outside [A-Za-z0-9_] (it is then copied between `["` and `"]`
    without escaping) -/
def plainPath (p : List Seg) : Bool := p.all plainSeg

theorem ident_ne_esc {c : Char} (h : isIdentChar c = true) : c ≠ '"' ∧ c ≠ '\\' := by
  constructor <;> (intro e; subst e; revert h; decide)

theorem plainSeg_escFree {s : Seg} (h : plainSeg s = true) : escFreeSeg s = true := by
  cases s with
  | idx n => rfl
  | key k =>
    have hq : quotedKey k = false := by simpa [plainSeg, plainKey, quotedKey] using h
    obtain ⟨hne, hid⟩ := bareKey_chars hq
    simpa [escFreeSeg, escFreeKey, hne] using fun c hc => ident_ne_esc (hid c hc)

theorem plainPath_escFree : ∀ (p : List Seg), plainPath p = true → escFree p = true := by
  intro p h
  exact List.all_eq_true.mpr fun s hs => plainSeg_escFree (List.all_eq_true.mp h s hs)

/-- on plain paths (a sub-region of `escFree`: `plainPath_escFree`) the dot notation of the code
    before c7ce73a identifies the path. -/
theorem c19_dotpath_injective_partial (p q : List Seg) (hp : plainPath p = true) (hq : plainPath q = true)
    (h : dotPath p = dotPath q) : p = q :=
  c19_dotpath_injective_escfree p q (plainPath_escFree p hp) (plainPath_escFree q hq) h

example : plainPath [.key "users", .idx 12, .key "first_name"] = true := by decide +kernel
example : plainPath [.key "a.b"] = false := by decide +kernel
example : escFree [.key "a.b", .key "0", .idx 3, .key "x y", .key "[0]", .key "名"] = true := by decide +kernel
example : plainPath [.key "a.b"] = false ∧ escFree [.key "a.b"] = true := by decide +kernel
example : escFree [.key "k\"]"] = false ∧ escFree [.key ""] = false := by decide

/-- outside the region the renderings differ (and the old one collided):
    a backslash was copied verbatim by the old code -/
theorem dotpath_backslash_outside : dotPath [.key "a\\"] ≠ dotPathEsc [.key "a\\"] := by decide

end Gozod.C19
