/-
  The correctly-rounded subtraction `remainder - |div|` inside the float branch of `validate.MultipleOf`
  never changes the verdict: `implMultF = specMultF` on all pairs of binary64 values (`F.rep`, `ofBits_rep`).
  `Model/FloatMul` is C01's model of these Go lines; C16 and C17 use a second one, `NumFloat.floatMultipleOf`
  (it rounds by `roundFin`; Proofs/C16Float.lean), and no lemma relates the two.

  On the common denominator 2^(k+l): A = |a|·2^l, B = |b|·2^k, R = A mod B, X = B - R (exact), e = ε.
    * R < e: both verdicts are true.
    * R ≥ e and 2R ≥ B: X ≤ R and X lies on the coarser of the grids of A and B, where R already has
      fewer than 2^53 steps, so X is representable and rounding leaves it alone (`mod_rep`).
    * R ≥ e and 2R < B: X > R ≥ e; ε is representable (`eps_rep`) and rounding never crosses a
      representable threshold from above (`le_roundNat`), so both the exact and the rounded test fail.
-/
import Gozod.Proofs.Rne
namespace Gozod.FloatMul
open Gozod.Coerce (rneDiv)
open Gozod.Rne

/-- `n` has at most 53 significant bits (it is a fixed point of rounding). -/
def rep (n : Nat) : Prop := roundNat 53 n = n

theorem bitlen_spec (n : Nat) : n < 2 ^ bitlen n ∧ (n ≠ 0 → 2 ^ (bitlen n - 1) ≤ n) := by
  by_cases hn : n = 0
  · subst hn; exact ⟨Nat.two_pow_pos _, fun h => absurd rfl h⟩
  · rw [show bitlen n = n.log2 + 1 by simp [bitlen, hn]]
    exact ⟨Nat.lt_log2_self, fun _ => Nat.log2_self_le hn⟩

/-- `roundNat 53` either has nothing to drop, or drops `s + 1` bits of an `n` whose quotient by
    `2^(s+1)` has exactly 53 bits. -/
theorem round_cases (n : Nat) :
    (roundNat 53 n = n ∧ n < 2 ^ 53) ∨
    ∃ s, roundNat 53 n = rneDiv n (s + 1) * 2 ^ (s + 1) ∧ 2 ^ 52 * 2 ^ (s + 1) ≤ n ∧ n < 2 ^ 53 * 2 ^ (s + 1) := by
  have ⟨hhi, hlo⟩ := bitlen_spec n
  by_cases h : bitlen n - 53 = 0
  · exact .inl ⟨by rw [roundNat_eq, h]; exact Nat.mul_one n,
      Nat.lt_of_lt_of_le hhi (Nat.pow_le_pow_right (by decide) (by omega))⟩
  · obtain ⟨s, hs⟩ : ∃ s, bitlen n = 53 + (s + 1) := ⟨bitlen n - 54, by omega⟩
    have hn : n ≠ 0 := by rintro rfl; simp [bitlen] at hs
    rw [hs, Nat.pow_add] at hhi
    have hlo := hlo hn
    rw [hs, show 53 + (s + 1) - 1 = 52 + (s + 1) by omega, Nat.pow_add] at hlo
    exact .inr ⟨s, by rw [roundNat_eq, hs, Nat.add_sub_cancel_left], hlo, hhi⟩

theorem rep_of_mul_pow {m t : Nat} (hm : m < 2 ^ 53) : rep (m * 2 ^ t) := by
  rcases round_cases (m * 2 ^ t) with ⟨h, _⟩ | ⟨s, h, h1, _⟩
  · exact h
  · -- the unit dropped divides `2^t`: `m·2^t` is a grid point
    have hle : s + 1 ≤ t := by
      have h3 : m * 2 ^ t < 2 ^ 53 * 2 ^ t := (Nat.mul_lt_mul_right (Nat.two_pow_pos t)).2 hm
      have h4 : 2 ^ 52 * 2 ^ (s + 1) < 2 ^ 53 * 2 ^ t := Nat.lt_of_le_of_lt h1 h3
      rw [← Nat.pow_add, ← Nat.pow_add] at h4
      have := (Nat.pow_lt_pow_iff_right (by decide)).1 h4
      omega
    have hn : m * 2 ^ t = (m * 2 ^ (t - (s + 1))) * 2 ^ (s + 1) := by
      rw [Nat.mul_assoc, Nat.pow_sub_mul_pow 2 hle]
    unfold rep
    rw [h, hn, rneDiv_mul_pow]

theorem rep_of_lt {m : Nat} (hm : m < 2 ^ 53) : rep m := by
  have := rep_of_mul_pow (t := 0) hm
  rwa [Nat.pow_zero, Nat.mul_one] at this

theorem rneDiv_le_two_pow {n s : Nat} (h : n < 2 ^ 53 * 2 ^ (s + 1)) : rneDiv n (s + 1) ≤ 2 ^ 53 :=
  rneDiv_le _ _ _ (Nat.le_of_lt h)

theorem rep_roundNat (n : Nat) : rep (roundNat 53 n) := by
  rcases round_cases n with ⟨h, hlt⟩ | ⟨s, h, _, h2⟩
  · rw [h]; exact rep_of_lt hlt
  · rw [h]
    by_cases hq : rneDiv n (s + 1) < 2 ^ 53
    · exact rep_of_mul_pow hq
    · have : rneDiv n (s + 1) = 1 * 2 ^ 53 := by have := rneDiv_le_two_pow h2; omega
      rw [this, Nat.mul_assoc, ← Nat.pow_add]
      exact rep_of_mul_pow (by decide)

/-- The forward half of `rep_iff`, in the form the proofs use. -/
theorem rep_exists {n : Nat} (hr : rep n) : ∃ m t, n = m * 2 ^ t ∧ m < 2 ^ 53 := by
  rcases round_cases n with ⟨_, hlt⟩ | ⟨s, h, _, h2⟩
  · exact ⟨n, 0, by simp, hlt⟩
  · have hn : rneDiv n (s + 1) * 2 ^ (s + 1) = n := h.symm.trans hr
    refine ⟨_, _, hn.symm, Nat.lt_of_le_of_ne (rneDiv_le_two_pow h2) fun e => ?_⟩
    rw [e] at hn; omega

theorem rep_iff (n : Nat) : rep n ↔ ∃ m t, n = m * 2 ^ t ∧ m < 2 ^ 53 :=
  ⟨rep_exists, fun ⟨_, _, h, hm⟩ => h ▸ rep_of_mul_pow hm⟩

theorem rep_mul_pow {n : Nat} (h : rep n) (j : Nat) : rep (n * 2 ^ j) := by
  obtain ⟨m, t, hn, hm⟩ := rep_exists h
  rw [hn, Nat.mul_assoc, ← Nat.pow_add]
  exact rep_of_mul_pow hm

theorem le_roundNat {T N : Nat} (hT : rep T) (hle : T ≤ N) : T ≤ roundNat 53 N := by
  rcases round_cases N with ⟨h, _⟩ | ⟨s, h, h1, _⟩
  · rw [h]; exact hle
  · rw [h]
    obtain ⟨m, t, rfl, hm⟩ := rep_exists hT
    by_cases hts : s + 1 ≤ t
    · -- `T` is a grid point of `N`'s rounding
      have e : m * 2 ^ t = (m * 2 ^ (t - (s + 1))) * 2 ^ (s + 1) := by
        rw [Nat.mul_assoc, Nat.pow_sub_mul_pow 2 hts]
      rw [e] at hle ⊢
      exact Nat.mul_le_mul_right _ (le_rneDiv _ _ _ hle)
    · -- `T` is below the start of `N`'s binade, which is one
      have h2 : m * 2 ^ t ≤ 2 ^ 52 * 2 ^ (s + 1) := by
        have : m * 2 ^ t < 2 ^ 53 * 2 ^ t := (Nat.mul_lt_mul_right (Nat.two_pow_pos t)).2 hm
        have : 2 ^ 53 * 2 ^ t ≤ 2 ^ 52 * 2 ^ (s + 1) := by
          rw [← Nat.pow_add, ← Nat.pow_add]
          exact Nat.pow_le_pow_right (by decide) (by omega)
        omega
      exact Nat.le_trans h2 (Nat.mul_le_mul_right _ (le_rneDiv _ _ _ h1))

theorem bitlen_mul_pow {n : Nat} (hn : n ≠ 0) (j : Nat) : bitlen (n * 2 ^ j) = bitlen n + j := by
  have hn' : n * 2 ^ j ≠ 0 := Nat.mul_ne_zero hn (Nat.pos_iff_ne_zero.mp (Nat.two_pow_pos j))
  have h1 : 2 ^ (n.log2 + j) ≤ n * 2 ^ j := by
    rw [Nat.pow_add]; exact Nat.mul_le_mul_right _ (Nat.log2_self_le hn)
  have h2 : n * 2 ^ j < 2 ^ (n.log2 + j + 1) := by
    rw [show n.log2 + j + 1 = (n.log2 + 1) + j by omega, Nat.pow_add]
    exact (Nat.mul_lt_mul_right (Nat.two_pow_pos j)).2 Nat.lt_log2_self
  have a := (Nat.le_log2 hn').2 h1
  have b := (Nat.log2_lt hn').2 h2
  simp only [bitlen, hn, hn', if_false]; omega

theorem roundNat_mul_pow (n j : Nat) : roundNat 53 (n * 2 ^ j) = roundNat 53 n * 2 ^ j := by
  by_cases hn : n = 0
  · subst hn; simp [roundNat, bitlen]
  by_cases h : bitlen n - 53 = 0
  · have h1 : rep n := by rw [rep, roundNat_eq, h]; exact Nat.mul_one n
    have h2 : rep (n * 2 ^ j) := rep_mul_pow h1 j
    rw [h1, h2]
  · rw [roundNat_eq, roundNat_eq, bitlen_mul_pow hn, show bitlen n + j - 53 = (bitlen n - 53) + j by omega,
      rneDiv_scale, Nat.pow_add, Nat.mul_assoc]

theorem mod_rep {A B : Nat} (hA : rep A) (hB : rep B) (hB0 : 0 < B) :
    ∃ t R' B', A % B = R' * 2 ^ t ∧ B = B' * 2 ^ t ∧ R' < 2 ^ 53 := by
  obtain ⟨mA, tA, hA', hmA⟩ := rep_exists hA
  obtain ⟨mB, tB, hB', hmB⟩ := rep_exists hB
  by_cases hle : tA ≤ tB
  · have hB2 : B = (mB * 2 ^ (tB - tA)) * 2 ^ tA := by
      rw [hB', Nat.mul_assoc, Nat.pow_sub_mul_pow 2 hle]
    refine ⟨tA, mA % (mB * 2 ^ (tB - tA)), mB * 2 ^ (tB - tA), ?_, hB2, ?_⟩
    · rw [hA']
      conv => lhs; rw [hB2]
      exact Nat.mul_mod_mul_right _ _ _
    · exact Nat.lt_of_le_of_lt (Nat.mod_le _ _) hmA
  · have hle' : tB ≤ tA := by omega
    have hA2 : A = (mA * 2 ^ (tA - tB)) * 2 ^ tB := by
      rw [hA', Nat.mul_assoc, Nat.pow_sub_mul_pow 2 hle']
    have hmB0 : 0 < mB := by
      apply Nat.pos_of_ne_zero; intro h0; rw [h0] at hB'; omega
    refine ⟨tB, (mA * 2 ^ (tA - tB)) % mB, mB, ?_, hB', ?_⟩
    · rw [hA2]
      conv => lhs; rw [hB']
      exact Nat.mul_mod_mul_right _ _ _
    · exact Nat.lt_trans (Nat.mod_lt _ hmB0) hmB

theorem round_sub_mod_lt_iff {A B T : Nat} (hA : rep A) (hB : rep B) (hB0 : 0 < B) (hT : rep T) (h : T ≤ A % B) :
    roundNat 53 (B - A % B) < T ↔ B - A % B < T := by
  by_cases hc : B ≤ 2 * (A % B)
  · -- the difference is at most the remainder and lies on the remainder's grid: it is representable
    obtain ⟨t, R', B', hR, hBB, hR'⟩ := mod_rep hA hB hB0
    have hrep : rep (B - A % B) := by
      have : B - A % B = (B' - R') * 2 ^ t := by rw [Nat.sub_mul, ← hR, ← hBB]
      rw [this]
      apply rep_of_mul_pow
      have : B' * 2 ^ t ≤ (2 * R') * 2 ^ t := by rw [Nat.mul_assoc, ← hR, ← hBB]; exact hc
      have := Nat.le_of_mul_le_mul_right this (Nat.two_pow_pos t)
      omega
    rw [hrep]
  · -- the difference exceeds the remainder, hence the threshold, and so does its rounding
    have := le_roundNat hT (show T ≤ B - A % B by omega)
    omega

/-- The significand of `float64(1e-10)` (the model's constant `FloatMul.c10`, the floor of ε) has 53 bits. -/
theorem rep_c10 : rep c10.n :=
  rep_of_lt (by show 0x1B7CDFD9D7BDBB < 2 ^ 53; decide)

theorem eps_cases (ad : D) : eps ad = c10 ∨ eps ad = rnd (D.mul ad c6) := by
  unfold eps
  simp only []  -- opens the `let`s of the definition
  split
  · exact Or.inl rfl
  · exact Or.inr rfl

theorem eps_rep (ad : D) : rep (eps ad).n := by
  rcases eps_cases ad with h | h
  · rw [h]; exact rep_c10
  · rw [h]; exact rep_roundNat _

theorem epsRule_rnd_eq_id {x y : Nat} (k l : Nat) (hx : rep x) (hy : rep y) (hy0 : 0 < y) :
    epsRule rnd ⟨(x * 2 ^ l) % (y * 2 ^ k), k + l⟩ ⟨y, l⟩ =
      epsRule id ⟨(x * 2 ^ l) % (y * 2 ^ k), k + l⟩ ⟨y, l⟩ := by
  unfold epsRule
  have hE := eps_rep ⟨y, l⟩
  generalize eps ⟨y, l⟩ = e at *
  obtain ⟨E, ke⟩ := e
  simp only [D.lt, D.sub, rnd, id]
  by_cases h1 : x * 2 ^ l % (y * 2 ^ k) * 2 ^ ke < E * 2 ^ (k + l)
  · simp only [h1, decide_true, Bool.true_or]
  · simp only [h1, decide_false, Bool.false_or]
    apply decide_eq_decide.2
    -- on the common scale 2^(l+ke) the difference is `B - A % B` for representable `A`, `B`
    have hs : (y * 2 ^ (k + l) - x * 2 ^ l % (y * 2 ^ k) * 2 ^ l) * 2 ^ ke =
        y * 2 ^ k * 2 ^ (l + ke) - x * 2 ^ l * 2 ^ (l + ke) % (y * 2 ^ k * 2 ^ (l + ke)) := by
      rw [Nat.mul_mod_mul_right, Nat.sub_mul]
      simp only [Nat.pow_add, Nat.mul_assoc]
    rw [← roundNat_mul_pow, hs]
    refine round_sub_mod_lt_iff (rep_mul_pow (rep_mul_pow hx l) _) (rep_mul_pow (rep_mul_pow hy k) _)
      (Nat.mul_pos (Nat.mul_pos hy0 (Nat.two_pow_pos k)) (Nat.two_pow_pos _)) (rep_mul_pow hE _) ?_
    calc E * 2 ^ (l + (k + l)) = E * 2 ^ (k + l) * 2 ^ l := by rw [Nat.mul_assoc, ← Nat.pow_add, Nat.add_comm l]
      _ ≤ x * 2 ^ l % (y * 2 ^ k) * 2 ^ ke * 2 ^ l := Nat.mul_le_mul_right _ (Nat.le_of_not_lt h1)
      _ = x * 2 ^ l * 2 ^ (l + ke) % (y * 2 ^ k * 2 ^ (l + ke)) := by
        rw [Nat.mul_mod_mul_right, Nat.mul_assoc, ← Nat.pow_add, Nat.add_comm ke]

/-- The numerator of a finite value has at most 53 significant bits (nothing is asked of NaN and ±Inf): what a
    binary64 value satisfies, the exponent range apart. -/
def F.rep : F → Prop
  | .fin a _ => Gozod.FloatMul.rep a.natAbs
  | _ => True

theorem implMultF_eq_specMultF (v d : F) (hv : F.rep v) (hd : F.rep d) :
    implMultF v d = specMultF v d := by
  cases v with
  | fin a k =>
    cases d with
    | fin b l =>
      simp only [implMultF, specMultF]
      split
      · rfl
      next hb => exact epsRule_rnd_eq_id k l hv hd (Int.natAbs_pos.2 hb)
    | _ => rfl
  | _ => cases d <;> rfl

theorem ofBits_rep (b : Nat) : F.rep (F.ofBits b) := by
  have hfr : b % 2 ^ 52 < 2 ^ 52 := Nat.mod_lt _ (Nat.two_pow_pos _)
  have hsg : ∀ (c : Bool) (n : Nat), (if c then -(n : Int) else (n : Int)).natAbs = n := by
    intro c n; cases c <;> simp
  unfold F.ofBits
  simp only []
  split
  · -- exponent 2047: ±Inf or NaN
    split
    · split <;> exact True.intro
    · exact True.intro
  · split
    · -- exponent 0 (subnormal): the numerator is the 52-bit fraction
      show rep _
      rw [hsg]
      exact rep_of_lt (Nat.lt_trans hfr (by decide))
    · split
      · -- exponent ≥ 1075: the 53-bit significand times a power of two
        show rep _
        rw [hsg]
        exact rep_of_mul_pow (by omega)
      · -- otherwise: the 53-bit significand `2^52 + fraction`
        show rep _
        rw [hsg]
        exact rep_of_lt (by omega)

/-! The hypotheses are inhabited by non-trivial pairs: 0.3 and 0.1. -/

example : F.ofBits 0x3FD3333333333333 = .fin 0x13333333333333 54 := by decide +kernel
example : F.ofBits 0x3FB999999999999A = .fin 0x1999999999999A 56 := by decide +kernel

example : F.rep (F.ofBits 0x3FD3333333333333) ∧ F.rep (F.ofBits 0x3FB999999999999A) :=
  ⟨ofBits_rep _, ofBits_rep _⟩

example : rep 0x13333333333333 ∧ rep 0x1999999999999A := by
  constructor <;> exact rep_of_lt (by decide)

example : implMultF (F.ofBits 0x3FD3333333333333) (F.ofBits 0x3FB999999999999A) =
    specMultF (F.ofBits 0x3FD3333333333333) (F.ofBits 0x3FB999999999999A) :=
  implMultF_eq_specMultF _ _ (ofBits_rep _) (ofBits_rep _)

end Gozod.FloatMul
