/-
  C11 — FromJSONSchema yields a schema equivalent to the JSON Schema it was given.
  Here: the property, strict mode, and the witnesses outside the fragment.
-/
import Gozod.Proofs.C11Enum
import Gozod.Gen.KeywordTable
namespace Gozod.C11
open Gozod.Jsc Gozod.C07

variable {fx : Fx}

/-- C11 at full strength: on EVERY document `fromJS` succeeds, and the schema it returns accepts exactly the valid
    instances (so a document the conversion rejects refutes it too).  FALSE on /repo HEAD beyond `good` (and for
    documents outside `J1`): witnesses below. -/
def c11_full : Prop :=
  ∀ (T : Str → Bool) (j : JS) (x : Json), ∃ s, fromJS cur T false j = .ok s ∧ jsValid j x = acceptsDecoded s x

theorem c11_equiv_fx (T : Str → Bool) (st : Bool) (d : J1) (x : Json) (h : good fx d = true) (hx : instOK x = true) :
    ∃ s, fromJS fx T st d.doc = .ok s ∧ jsValid d.doc x = acceptsDecoded s x :=
  ⟨fromJ1 fx d, conv T st d h, by rw [acceptsDecoded, plainJ d]; exact equivJ d x h hx⟩

/-- the property-level statement, for the tree the driver runs (`cur`, the patch set of /repo HEAD). -/
theorem c11_equiv_partial (T : Str → Bool) (st : Bool) (d : J1) (x : Json) (h : good cur d = true) (hx : instOK x = true) :
    ∃ s, fromJS cur T st d.doc = .ok s ∧ jsValid d.doc x = acceptsDecoded s x :=
  c11_equiv_fx T st d x h hx

example : good cur (.obj (.cons [97] (.arr (.anyOf (.cons (.str (some 1) (some 3) (some (.pre [97]))) (.cons (.num (some 0) none (some 0) none (some 2)) .nil)))
    (some 1) none) (.cons [98] (.enumP [.str [120], .num 4]) .nil)) true) = true := by decide +kernel

/-- round trip (corollary of C07's `eqv` and `equivJ`): the document ToJSONSchema emits for the
    schema FromJSONSchema produced validates exactly the instances of the original document. -/
theorem c11_roundtrip_fx (T : Str → Bool) (st : Bool) (d : J1) (x : Json) (h : good fx d = true) (hr : rt fx d = true)
    (hx : instOK x = true) :
    ∃ s, fromJS fx T st d.doc = .ok s ∧ jsValid (toDoc s) x = jsValid d.doc x :=
  ⟨fromJ1 fx d, conv T st d h, by
    rw [toDoc, eqv (fromJ1 fx d) true false false x (reprJ d true h hr) hx, equivJ d x h hx]⟩

/-- for `cur`; `rt cur` covers OPEN objects too (`cur.openObj`, /repo 5ed05fc; before it: `witness_roundtrip_open_object`). -/
theorem c11_roundtrip (T : Str → Bool) (st : Bool) (d : J1) (x : Json) (h : good cur d = true) (hr : rt cur d = true)
    (hx : instOK x = true) :
    ∃ s, fromJS cur T st d.doc = .ok s ∧ jsValid (toDoc s) x = jsValid d.doc x :=
  c11_roundtrip_fx T st d x h hr hx

example : rt cur (.obj (.cons [97] (.str none none none) .nil) false) = true
    ∧ rt { cur with openObj := false } (.obj (.cons [97] (.str none none none) .nil) false) = false := by decide +kernel

example : (good cur (.obj (.cons [97] (.tup (.cons .bool (.cons (.str none (some 2) none) .nil))) .nil) true)
    && rt cur (.obj (.cons [97] (.tup (.cons .bool (.cons (.str none (some 2) none) .nil))) .nil) true)) = true := by decide +kernel

theorem c11_strict_rejects_fx (T : Str → Bool) (kws : KwList) (n : Str)
    (href : (collect fx T true kws {}).ref = none) (hn : n ∈ (collect fx T true kws {}).others) (hT : T n = true) :
    ∃ kw, fromJS fx T true (.node kws) = .error (.unsupported kw) := by
  have hsome : ((collect fx T true kws {}).others.find? T).isSome = true := by
    rw [List.find?_isSome]; exact ⟨n, hn, hT⟩
  obtain ⟨kw, hkw⟩ := Option.isSome_iff_exists.1 hsome
  exact ⟨kw, by simp [fromJS, assemble, href, hkw]⟩

/-- for `cur`.  This is about the node that CARRIES the keyword; for an error below the root see
    `c11_strict_property_*` (as far as `convObject`). -/
theorem c11_strict_rejects (T : Str → Bool) (kws : KwList) (n : Str)
    (href : (collect cur T true kws {}).ref = none) (hn : n ∈ (collect cur T true kws {}).others) (hT : T n = true) :
    ∃ kw, fromJS cur T true (.node kws) = .error (.unsupported kw) :=
  c11_strict_rejects_fx T kws n href hn hT

/-! #### an unsupported keyword inside a PROPERTY

Before /repo 1871965 (finding strict:property-error-dropped) from.go `convertObject` `continue`d on a property whose
conversion returned an error, in strict mode too: the keyword was reached, recognised as unsupported — and the property
silently dropped.  Strict mode now returns the error (`Fx.strictProp`, true in `cur`). -/

theorem convProps_strict (req : List Str) (kw : Str) : (l : List (Str × R)) → (k : Str) → (k, .error (.unsupported kw)) ∈ l →
    ∃ e, convProps true req l = .error e
  | [], _, h => by simp at h
  | (k', r) :: rest, k, h => by
    match r with
    | .error .panic => exact ⟨_, rfl⟩
    | .error (.unsupported kw') => exact ⟨.unsupported kw', by simp [convProps]⟩
    | .ok s =>
      have h' : (k, Except.error (E.unsupported kw)) ∈ rest := by
        simp only [List.mem_cons] at h
        rcases h with h | h
        · cases h
        · exact h
      obtain ⟨e, he⟩ := convProps_strict req kw rest k h'
      exact ⟨e, by simp [convProps, he]⟩

/-- `fx.strictProp && true` is the flag `assemble` hands down in strict mode; the statement stops at `convObject`: that
    `convByType` / `assemble` pass the error on is read off their definitions, not stated. -/
theorem c11_strict_property_fixed (hfx : fx.strictProp = true) (p : Parts) (k kw : Str)
    (kv : Str × R) (kvs : List (Str × R)) (hp : p.properties = some (kv :: kvs))
    (hk : (k, .error (.unsupported kw)) ∈ kv :: kvs) :
    ∃ e, convObject fx (fx.strictProp && true) p = .error e := by
  obtain ⟨e, he⟩ := convProps_strict p.required kw (kv :: kvs) k hk
  exact ⟨e, by simp [convObject, hp, hfx, he]⟩

theorem c11_strict_property (p : Parts) (k kw : Str) (kv : Str × R) (kvs : List (Str × R))
    (hp : p.properties = some (kv :: kvs)) (hk : (k, .error (.unsupported kw)) ∈ kv :: kvs) :
    ∃ e, convObject cur (cur.strictProp && true) p = .error e :=
  c11_strict_property_fixed (fx := cur) rfl p k kw kv kvs hp hk

def okShapeKeys : R → Option (List Str × Bool)
  | .ok (.obj _ ca _ _ sh) => some (sh.keys, ca.isSome)
  | _ => none
def isUnsupported : R → Bool
  | .error (.unsupported _) => true
  | _ => false

/-- the LEGACY code (before /repo 1871965): `{type:object, properties:{a:{not:{}}}}` with StrictMode returns ok and the
    schema has NO property `a`; so does `additionalProperties:{not:{}}` next to properties (the catch-all is dropped).
    With the patch (`cur`) both are errors.  (fixed finding strict:property-error-dropped) -/
theorem witness_strict_property_dropped :
    -- ok, no property `a`
    okShapeKeys (fromJS { cur with strictProp := false } (fun n => n == "not".toList.map Char.toNat) true
        (.node (.ofList [.type .object, .properties (.cons [97] (.node (.ofList [.not (.node .nil)])) .nil)])))
      = some ([], false)
    -- ok, property `a`, NO catch-all
    ∧ okShapeKeys (fromJS { cur with strictProp := false } (fun n => n == "not".toList.map Char.toNat) true
        (.node (.ofList [.type .object, .properties (.cons [97] (.node (.ofList [.type .string])) .nil), .required [[97]],
                         .additionalProperties (.node (.ofList [.not (.node .nil)]))])))
      = some ([[97]], false)
    ∧ isUnsupported (fromJS { cur with strictProp := true } (fun n => n == "not".toList.map Char.toNat) true
        (.node (.ofList [.type .object, .properties (.cons [97] (.node (.ofList [.not (.node .nil)])) .nil)]))) = true
    ∧ isUnsupported (fromJS { cur with strictProp := true } (fun n => n == "not".toList.map Char.toNat) true
        (.node (.ofList [.type .object, .properties (.cons [97] (.node (.ofList [.type .string])) .nil), .required [[97]],
                         .additionalProperties (.node (.ofList [.not (.node .nil)]))]))) = true := by decide +kernel

def tableRejects (n : Str) : Bool :=
  Gen.keywordTable.any (fun r => r.kw.toList.map Char.toNat == n && r.strictRejects)

/-- full: every keyword not documented as supported is rejected in strict mode. -/
def c11_strict_full : Prop := ∀ r ∈ Gen.keywordTable, r.documented = false → r.strictRejects = true

def strictHonest (r : KwRow) : Bool := r.documented || r.strictRejects

/-- known finding: the keywords strict mode silently accepts. -/
def silentKeywords : List String :=
  ["contentEncoding", "contentMediaType"]

/-- exactly these rows of the regenerated table break `c11_strict_full`. -/
theorem c11_strict_silent : (Gen.keywordTable.filter (fun r => !strictHonest r)).map (·.kw) = silentKeywords := by
  decide +kernel

theorem c11_strict_full_false : ¬ c11_strict_full := by
  intro h
  exact absurd (h ⟨"contentEncoding", false, false⟩ (by decide +kernel) rfl) (by decide)

example : ∃ kw, fromJS cur tableRejects true
    (.node (.ofList [.type .string, .other ("propertyNames".toList.map Char.toNat)])) = .error (.unsupported kw) :=
  c11_strict_rejects tableRejects _ ("propertyNames".toList.map Char.toNat) (by decide +kernel) (by decide +kernel) (by decide +kernel)

/-- `instOK` is needed: on a NON-ASCII string `String().Min/Max` count bytes where JSON Schema counts code
    points — `{type:string, maxLength:1}` is valid for "é" and the produced schema rejects it (finding non-ascii-string).
    (The other half of `instOK`, |q| < 2^53, has no witness in this model: `Json.num` is an exact number of quarters, the bound only
    records that the Go side holds float64 values.) -/
theorem witness_instOK_needed :
    good cur (.str none (some 1) none) = true ∧ instOK (.str [233]) = false
    ∧ jsValid (J1.doc (.str none (some 1) none)) (.str [233]) = true
    ∧ acceptsDecoded (fromJ1 cur (.str none (some 1) none)) (.str [233]) = false := by decide +kernel

def noRej : Str → Bool := fun _ => false
/-- not the strict flag `st : Bool` of the theorems above -/
def st (s : String) : Str := s.toList.map Char.toNat

def verdict (fx : Fx) (j : JS) (x : Json) : Option Bool :=
  match fromJS fx noRej false j with
  | .ok s => some (acceptsDecoded s x)
  | .error _ => none

def rtVerdict (fx : Fx) (j : JS) (x : Json) : Option Bool :=
  match fromJS fx noRej false j with
  | .ok s => some (jsValid (toDoc s) x)
  | .error _ => none

def nd (l : List Kw) : JS := .node (.ofList l)

/-- the verdict when integral numbers are handed over as Go `int` (no plain decoding). -/
def verdictInt (fx : Fx) (j : JS) (x : Json) : Option Bool :=
  match fromJS fx noRej false j with
  | .ok s => some (accepts s x)
  | .error _ => none

/-! The `fixed_…` statements are TESTS — single `decide`d instances; the general statements are `c11_equiv_partial` /
    `c11_roundtrip` / `c11_enum` for `cur`.  Each finding class that a commit of /repo closed is witnessed on the tree
    WITHOUT that commit (`{ cur with <flag> := false }`) and judged correctly WITH it (`{ cur with <flag> := true }`, which
    is `cur`: all eight flags are true there, so the conjuncts about `Fx.all` repeat those about `cur`).  Numbers are in
    quarters: `.num 4` is 1, `.minimum 6` is 1.5. -/

theorem witness_integer_rejects_numbers :
    verdict cur (nd [.type .integer]) (.num 4) = some false ∧ jsValid (nd [.type .integer]) (.num 4) = true
    ∧ verdict Fx.all (nd [.type .integer]) (.num 4) = some false := by decide +kernel

theorem witness_nullable_union :
    verdict { cur with nullUnion := false } (nd [.types [.string, .null]]) .null = some false
    ∧ jsValid (nd [.types [.string, .null]]) .null = true
    ∧ verdict { cur with nullUnion := false } (nd [.anyOf (.cons (nd [.type .string]) (.cons (nd [.type .null]) .nil))]) .null
        = some false := by decide +kernel

theorem fixed_nullable_union :
    verdict { cur with nullUnion := true } (nd [.types [.string, .null]]) .null = some true
    ∧ verdict { cur with nullUnion := true } (nd [.anyOf (.cons (nd [.type .string]) (.cons (nd [.type .null]) .nil))]) .null
        = some true
    ∧ verdict { cur with nullUnion := true } (nd [.oneOf (.cons (nd [.type .null]) (.cons (nd [.type .number]) .nil))]) .null
        = some true
    -- exactly one member must admit null: `{}` and `{type: null}` both do
    ∧ verdict { cur with nullUnion := true } (nd [.oneOf (.cons (nd [.type .null]) (.cons (nd []) .nil))]) .null = some false
    ∧ jsValid (nd [.oneOf (.cons (nd [.type .null]) (.cons (nd []) .nil))]) .null = false
    ∧ verdict { cur with nullUnion := true } (nd [.enum [.str [97], .num 4, .null]]) .null = some true := by decide +kernel

/-- an Intersection rejects nil before its sides are asked: an allOf whose members all admit null rejects null. -/
theorem witness_nullable_intersection :
    verdict { cur with nullAnd := false } (nd [.allOf (.cons (nd [.type .null]) (.cons (nd []) .nil))]) .null = some false
    ∧ jsValid (nd [.allOf (.cons (nd [.type .null]) (.cons (nd []) .nil))]) .null = true := by decide +kernel

theorem fixed_nullable_intersection :
    verdict { cur with nullAnd := true } (nd [.allOf (.cons (nd [.type .null]) (.cons (nd []) .nil))]) .null = some true
    ∧ verdict { cur with nullAnd := true } (nd [.allOf (.cons (nd [.type .null]) (.cons (nd [.type .string]) .nil))]) .null
        = some false := by decide +kernel

theorem witness_sibling_keywords_dropped :
    verdict cur (nd [.const (.str [98]), .type .number]) (.str [98]) = some true
    ∧ jsValid (nd [.const (.str [98]), .type .number]) (.str [98]) = false
    ∧ verdict cur (nd [.type .string, .allOf (.cons (nd [.minLength 2]) .nil)]) (.num 4) = some true
    ∧ verdict cur (nd [.ref (nd [.type .string]), .minLength 3]) (.str [109]) = some true
    ∧ verdict Fx.all (nd [.const (.str [98]), .type .number]) (.str [98]) = some true := by decide +kernel

theorem witness_keywords_without_type :
    verdict cur (nd [.minLength 2]) (.str [109]) = some true ∧ jsValid (nd [.minLength 2]) (.str [109]) = false
    ∧ verdict Fx.all (nd [.minLength 2]) (.str [109]) = some true := by decide +kernel

theorem witness_format_siblings_dropped :
    verdict { cur with fmtSib := false } (nd [.type .string, .minLength 30, .format (st "email") [st "a@b.co"]]) (.str (st "a@b.co"))
        = some true
    ∧ jsValid (nd [.type .string, .minLength 30, .format (st "email") [st "a@b.co"]]) (.str (st "a@b.co")) = false := by
  decide +kernel

theorem fixed_format_siblings :
    verdict { cur with fmtSib := true } (nd [.type .string, .minLength 30, .format (st "email") [st "a@b.co"]]) (.str (st "a@b.co"))
        = some false
    ∧ verdict { cur with fmtSib := true } (nd [.type .string, .minLength 3, .format (st "email") [st "a@b.co"]]) (.str (st "a@b.co"))
        = some true := by
  decide +kernel

theorem witness_tuple_items_all_required :
    verdict cur (nd [.type .array, .prefixItems (.cons (nd [.type .string]) .nil)]) (.arr .nil) = some false
    ∧ jsValid (nd [.type .array, .prefixItems (.cons (nd [.type .string]) .nil)]) (.arr .nil) = true
    ∧ verdict Fx.all (nd [.type .array, .prefixItems (.cons (nd [.type .string]) .nil)]) (.arr .nil) = some false := by decide +kernel

theorem witness_tuple_tail_rejected :
    verdict { cur with tupOpen := false } (nd [.type .array, .prefixItems (.cons (nd [.type .string]) .nil)])
        (.arr (.cons (.str [97]) (.cons (.num 4) .nil))) = some false
    ∧ jsValid (nd [.type .array, .prefixItems (.cons (nd [.type .string]) .nil)]) (.arr (.cons (.str [97]) (.cons (.num 4) .nil))) = true := by
  decide +kernel

theorem fixed_tuple_open :
    verdict { cur with tupOpen := true } (nd [.type .array, .prefixItems (.cons (nd [.type .string]) .nil)])
        (.arr (.cons (.str [97]) (.cons (.num 4) .nil))) = some true
    -- a tuple closed by maxItems = number of prefixItems stays closed
    ∧ verdict { cur with tupOpen := true } (nd [.type .array, .prefixItems (.cons (nd [.type .string]) .nil), .minItems 1, .maxItems 1])
        (.arr (.cons (.str [97]) (.cons (.num 4) .nil))) = some false := by
  decide +kernel

theorem witness_optional_property_accepts_null :
    verdict cur (nd [.type .object, .properties (.cons [97] (nd [.type .string]) .nil)]) (.obj (.cons [97] .null .nil)) = some true
    ∧ jsValid (nd [.type .object, .properties (.cons [97] (nd [.type .string]) .nil)]) (.obj (.cons [97] .null .nil)) = false
    ∧ verdict Fx.all (nd [.type .object, .properties (.cons [97] (nd [.type .string]) .nil)]) (.obj (.cons [97] .null .nil))
        = some true := by
  decide +kernel

theorem witness_required_on_record_path :
    verdict { cur with reqAddl := false } (nd [.type .object, .required [[97]], .additionalProperties (.bool true)]) (.obj .nil)
        = some true
    ∧ jsValid (nd [.type .object, .required [[97]], .additionalProperties (.bool true)]) (.obj .nil) = false := by decide +kernel

theorem fixed_required_additional :
    verdict { cur with reqAddl := true } (nd [.type .object, .required [[97]], .additionalProperties (.bool true)]) (.obj .nil)
        = some false
    -- a required name outside `properties` is judged by additionalProperties
    ∧ verdict { cur with reqAddl := true }
        (nd [.type .object, .properties (.cons [97] (nd []) .nil), .required [[97], [113]],
             .additionalProperties (nd [.type .number, .minimum 20])])
        (.obj (.cons [97] (.num 4) (.cons [113] (.num 4) .nil))) = some false
    ∧ verdict { cur with reqAddl := false }
        (nd [.type .object, .properties (.cons [97] (nd []) .nil), .required [[97], [113]],
             .additionalProperties (nd [.type .number, .minimum 20])])
        (.obj (.cons [97] (.num 4) (.cons [113] (.num 4) .nil))) = some true := by decide +kernel

theorem witness_roundtrip_open_object :
    rtVerdict { cur with openObj := false } (nd [.type .object]) (.obj (.cons [122] (.num 4) .nil)) = some false
    ∧ jsValid (nd [.type .object]) (.obj (.cons [122] (.num 4) .nil)) = true := by decide +kernel

theorem fixed_open_object :
    rtVerdict { cur with openObj := true } (nd [.type .object]) (.obj (.cons [122] (.num 4) .nil)) = some true
    ∧ rtVerdict { cur with openObj := true } (nd [.type .object, .properties (.cons [97] (nd [.type .string]) .nil), .required [[97]]])
        (.obj (.cons [97] (.str [120]) (.cons [122] (.num 4) .nil))) = some true := by decide +kernel

/-- `{type: integer, minimum: 1.5}` on the Go int 1 (integer-directed verdict): accepted without the patch. -/
theorem witness_integer_bound_truncated :
    verdictInt { cur with intBounds := false } (nd [.type .integer, .minimum 6]) (.num 4) = some true
    ∧ jsValid (nd [.type .integer, .minimum 6]) (.num 4) = false
    ∧ verdictInt { cur with intBounds := false } (nd [.type .integer, .multipleOf 2]) (.num 4) = some false
    ∧ jsValid (nd [.type .integer, .multipleOf 2]) (.num 4) = true := by decide +kernel

theorem fixed_integer_bounds :
    verdictInt { cur with intBounds := true } (nd [.type .integer, .minimum 6]) (.num 4) = some false
    ∧ verdictInt { cur with intBounds := true } (nd [.type .integer, .minimum 6]) (.num 8) = some true
    ∧ verdictInt { cur with intBounds := true } (nd [.type .integer, .exclusiveMinimum (-6), .exclusiveMaximum 6]) (.num (-4)) = some true
    ∧ verdictInt { cur with intBounds := true } (nd [.type .integer, .exclusiveMinimum (-6), .exclusiveMaximum 6]) (.num (-8)) = some false
    ∧ verdictInt { cur with intBounds := true } (nd [.type .integer, .multipleOf 2]) (.num 4) = some true
    ∧ verdictInt { cur with intBounds := true } (nd [.type .integer, .multipleOf 6]) (.num 8) = some false
    ∧ verdictInt { cur with intBounds := true } (nd [.type .integer, .multipleOf 6]) (.num 12) = some true := by decide +kernel

/-- strict mode does not see an unsupported keyword inside a sibling the dispatch ignores. -/
theorem witness_strict_unreached :
    (match fromJS cur (fun n => n == st "propertyNames") true
      (nd [.allOf (.cons (nd [.type .string]) .nil), .items (nd [.other (st "propertyNames")])]) with
     | .ok _ => true
     | .error _ => false) = true := by decide +kernel

theorem c11_full_false : ¬ c11_full := by
  intro h
  obtain ⟨s, hs, he⟩ := h noRej (nd [.type .integer]) (.num 4)
  have hv := witness_integer_rejects_numbers
  simp only [verdict, hs] at hv
  -- the produced schema rejects 1 (`hv.1`), the document admits it (`hv.2.1`)
  exact Bool.noConfusion (hv.2.1.symm.trans (he.trans (Option.some.inj hv.1)))

end Gozod.C11
