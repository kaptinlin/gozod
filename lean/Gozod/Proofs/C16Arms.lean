/-
  C16, tie by translation for the three leaf functions of `pkg/validate`'s numeric comparison, `cmpFloats`,
  `cmpInts`, `multipleOfInts`: their bodies, regenerated as terms of `Gozod.Model.Arms` (`…_ast`) and interpreted
  with Go's machine semantics (`Arms.runArms`), compute `F.cmp` and the hand model's `cmpInts` and
  `multipleOfInts` for all four signed/unsigned pairings of 64-bit payloads.  An edit of a body (a dropped sign
  test, `%` against the wrong operand, a conversion removed) makes one of these fail; a re-spelling that keeps the
  meaning keeps them true.
-/
import Gozod.Gen.NumDispatch
import Gozod.Proofs.C16

namespace Gozod.C16A
open Gozod Gozod.Dispatch Gozod.Arms Gozod.Gen.NumDispatch

def env (a b : Num) (x y : F) : Arms.Env := ⟨a, b, x, y, []⟩

def floatsRet (x y : F) : Ret :=
  match F.cmp x y with
  | none => .pair 0 false
  | some o => .pair (ordInt o) true

theorem cmpFloats_table (a b : Num) (x y : F) :
    runArms (env a b x y) cmpFloats_ast = some (floatsRet x y) := by
  cases x <;> cases y <;> try rfl
  -- two finite floats: the `<` and `>` arms test the same `compare` that `F.cmp` returns
  rename_i p k q l
  show _ = some (Ret.pair (ordInt (compare (p * 2 ^ l) (q * 2 ^ k))) true)
  simp only [cmpFloats_ast, runArms, BE.eval, IE.eval, unify, F.isNaN, F.cmp, execList, St.exec, env]
  generalize compare (p * 2 ^ l) (q * 2 ^ k) = o
  cases o <;> rfl

/- The interpreter's clauses (and the fact that a relation test on a `compare` is the relation).
   With these unfolded, `simp` runs a regenerated body on symbolic payloads; each call below adds
   the body, the model function it is compared with, and the case hypotheses. -/
attribute [local simp] runArms kindIs execList St.exec BE.eval IE.eval unify asInt env fieldI fieldU lookup
  holds_compare Bool.beq_eq_decide_eq

theorem cmpInts_table (a b : Num) (x y : F) (hfa : C16.isInt a = true) (hfb : C16.isInt b = true) :
    runArms (env a b x y) cmpInts_ast = some (.int (ordInt (cmpInts a b))) := by
  obtain ⟨v, rfl | rfl⟩ := C16.isInt_cases hfa <;> obtain ⟨w, rfl | rfl⟩ := C16.isInt_cases hfb
  · rfl
  -- mixed kinds: the sign test of the third / fourth arm is the model's
  · by_cases h : v < 0 <;>
      simp [cmpInts_ast, cmpInts, ordInt, h]
  · by_cases h : w < 0 <;>
      simp [cmpInts_ast, cmpInts, ordInt, h]
  · rfl

theorem cmpInts_table_exact (a b : Num) (x y : F) (ha : C16.Num.wf a) (hb : C16.Num.wf b)
    (hfa : C16.isInt a = true) (hfb : C16.isInt b = true) :
    runArms (env a b x y) cmpInts_ast = some (.int (ordInt (compare (C16.ival a) (C16.ival b)))) := by
  rw [cmpInts_table a b x y hfa hfb, C16.cmpInts_exact a b ha hb hfa hfb]

theorem wrapI_id {v : Int} (h : -(2 ^ 63) ≤ v ∧ v < 2 ^ 63) : wrapI v = v := by
  unfold wrapI; omega

/-- `uint64(-(d + 1)) + 1` is `|d|` for every negative int64 `d` (no overflow at MinInt64).  The first conjunct is the
    same term as the interpreter leaves it, every step wrapped. -/
theorem absNeg (d : Int) (hlo : -(2 ^ 63) ≤ d) (hneg : d < 0) :
    castU64 (castU64 (wrapI (-wrapI (d + 1))) + 1) = -d ∧ castU64 (-(d + 1)) + 1 = -d := by
  rw [wrapI_id (v := d + 1) (by omega), wrapI_id (v := -(d + 1)) (by omega),
    C16.castU64_id (-(d + 1)) (by omega) (by omega), C16.castU64_id _ (by omega) (by omega)]
  omega

theorem multipleOfInts_table (a b : Num) (x y : F) (ha : C16.Num.wf a) (hb : C16.Num.wf b)
    (hfa : C16.isInt a = true) (hfb : C16.isInt b = true) :
    runArms (env a b x y) multipleOfInts_ast = some (.bool (multipleOfInts a b)) := by
  obtain ⟨v, rfl | rfl⟩ := C16.isInt_cases hfa <;> obtain ⟨d, rfl | rfl⟩ := C16.isInt_cases hfb
  -- in each arm a zero divisor computes; otherwise the interpreter is stuck only on tests the
  -- hypotheses decide, and on conversions that are the identity within the 64-bit ranges
  · by_cases hd : d = 0
    · subst hd; rfl
    · simp [multipleOfInts_ast, multipleOfInts, goRem, hd]
  · -- fourth arm: the divisor exceeds every `|int64|` but `|MinInt64|`, or else fits an int64
    have hv := C16.wf_i.mp ha
    have hdr := C16.wf_u.mp hb
    by_cases hd : d = 0
    · subst hd; rfl
    · by_cases hbig : d > 2 ^ 63 - 1
      · have hbig' : (9223372036854775807 : Int) < d := by omega
        cases h0 : decide (v = 0) <;> cases h1 : decide (v = -9223372036854775808) <;>
          simp [multipleOfInts_ast, multipleOfInts, hd, hbig', h0, h1]
      · have hsmall : ¬ (9223372036854775807 : Int) < d := by omega
        have hw : wrapI d = d := wrapI_id (by omega)
        simp [multipleOfInts_ast, multipleOfInts, goRem, hd, hsmall, hw]
  · -- third arm: `m` is `|d|` as a uint64
    have hdr := C16.wf_i.mp hb
    by_cases hd : d = 0
    · subst hd; rfl
    · by_cases hneg : d < 0
      · have ⟨e1, e2⟩ := absNeg d hdr.1 hneg
        have hm : ¬ (-d = 0) := by omega
        simp [multipleOfInts_ast, multipleOfInts, hd, hneg, e1, e2, hm]
      · have hc : castU64 d = d := C16.castU64_id d (by omega) (by omega)
        simp [multipleOfInts_ast, multipleOfInts, hd, hneg, hc]
  · by_cases hd : d = 0
    · subst hd; rfl
    · simp [multipleOfInts_ast, multipleOfInts, hd]

theorem multipleOfInts_table_exact (a b : Num) (x y : F) (ha : C16.Num.wf a) (hb : C16.Num.wf b)
    (hfa : C16.isInt a = true) (hfb : C16.isInt b = true) :
    runArms (env a b x y) multipleOfInts_ast = some (.bool (specMultipleOfInt (C16.ival a) (C16.ival b))) := by
  rw [multipleOfInts_table a b x y ha hb hfa hfb, C16.multipleOfInts_exact a b ha hb hfa hfb]

end Gozod.C16A
