/-
  Pieces of a pattern made of digit classes, without `star` (`digitsOnly`), are finite things: such a piece takes strings of
  digits only (`lang_digitsOnly`), of bounded length (`maxLen`), so what it says is checked by the kernel on the strings of
  that many digits and holds of all strings.  `two_digits`: a two-byte piece against a test on the number written;
  `digits_eval`: a piece of at most `n` bytes against a test on the string (a decimal field: Proofs/C20Dec.lean).
-/
import Gozod.Proofs.C20Lang
import Gozod.Proofs.C20Run
namespace Gozod.C20
open Gozod Gozod.Re Gozod.Fmt

theorem inRanges_digits (c : Nat) : inRanges c [(48, 57)] = isDigit c := Bool.or_false _

abbrev two (f g : Nat) : Nat := (f - 48) * 10 + (g - 48)

def digitsOnly : Re → Bool
  | .cls rs => rs.all fun r => Nat.ble 48 r.1 && Nat.ble r.2 57
  | .eps => true
  | .seq a b | .alt a b => digitsOnly a && digitsOnly b
  | .star _ => false

theorem inRanges_digit {c : Nat} : ∀ {rs : List (Nat × Nat)}, (rs.all fun r => Nat.ble 48 r.1 && Nat.ble r.2 57) = true →
    inRanges c rs = true → isDigit c = true
  | [], _, h => by cases h
  | (lo, hi) :: rs, hw, h => by
    simp only [List.all_cons, Bool.and_eq_true, Nat.ble_eq] at hw
    simp only [inRanges, Bool.or_eq_true, Bool.and_eq_true, Nat.ble_eq] at h
    rcases h with h | h
    · exact (isDigit_iff c).2 ⟨by omega, by omega⟩
    · exact inRanges_digit hw.2 h

theorem lang_digitsOnly : ∀ (r : Re) (s : List Nat), digitsOnly r = true → Lang r s → ∀ c ∈ s, isDigit c = true
  | .cls rs, s, hw, ⟨c, hs, hc⟩ => by subst hs; intro x hx; cases List.mem_singleton.mp hx; exact inRanges_digit hw hc
  | .eps, s, _, hs => by cases hs; intro x hx; cases hx
  | .seq a b, s, hw, ⟨s1, s2, hs, h1, h2⟩ => by
    simp only [digitsOnly, Bool.and_eq_true] at hw
    subst hs; intro x hx
    exact (List.mem_append.mp hx).elim (lang_digitsOnly a s1 hw.1 h1 x) (lang_digitsOnly b s2 hw.2 h2 x)
  | .alt a b, s, hw, h => by
    simp only [digitsOnly, Bool.and_eq_true] at hw
    exact h.elim (lang_digitsOnly a s hw.1) (lang_digitsOnly b s hw.2)
  | .star _, _, hw, _ => by cases hw

theorem two_digits (P : Re) (Q : Nat → Bool) (hw : digitsOnly P = true)
    (hq : ∀ a, a < 10 → ∀ b, b < 10 → accepts P [a + 48, b + 48] = Q (a * 10 + b)) (f g : Nat) :
    accepts P [f, g] = (isDigit f && isDigit g && Q (two f g)) := by
  by_cases hd : isDigit f = true ∧ isDigit g = true
  · obtain ⟨hf, hg⟩ := (isDigit_iff f).1 hd.1, (isDigit_iff g).1 hd.2
    have := hq (f - 48) (by omega) (g - 48) (by omega)
    rw [show f - 48 + 48 = f by omega, show g - 48 + 48 = g by omega] at this
    rw [this, hd.1, hd.2]; rfl
  · have : accepts P [f, g] = false := Bool.eq_false_iff.2 fun h => hd
      ⟨lang_digitsOnly P _ hw ((accepts_iff_lang _ _).1 h) f (by simp), lang_digitsOnly P _ hw ((accepts_iff_lang _ _).1 h) g (by simp)⟩
    rw [this]
    cases hf : isDigit f <;> cases hg : isDigit g <;> first | rfl | exact absurd ⟨hf, hg⟩ hd

def maxLen : Re → Nat
  | .cls _ => 1
  | .eps | .star _ => 0
  | .seq a b => maxLen a + maxLen b
  | .alt a b => max (maxLen a) (maxLen b)

theorem length_le_maxLen : ∀ (r : Re) (s : List Nat), digitsOnly r = true → Lang r s → s.length ≤ maxLen r
  | .cls _, s, _, ⟨c, hs, _⟩ => by rw [hs]; exact Nat.le_refl 1
  | .eps, s, _, hs => by rw [show s = [] from hs]; exact Nat.le_refl 0
  | .seq a b, s, hw, ⟨s1, s2, hs, h1, h2⟩ => by
    simp only [digitsOnly, Bool.and_eq_true] at hw
    rw [hs, List.length_append]
    exact Nat.add_le_add (length_le_maxLen a s1 hw.1 h1) (length_le_maxLen b s2 hw.2 h2)
  | .alt a b, s, hw, h => by
    simp only [digitsOnly, Bool.and_eq_true] at hw
    exact h.elim (fun h => Nat.le_trans (length_le_maxLen a s hw.1 h) (Nat.le_max_left ..))
      (fun h => Nat.le_trans (length_le_maxLen b s hw.2 h) (Nat.le_max_right ..))
  | .star _, _, hw, _ => by cases hw

def digitStrings : Nat → List (List Nat)
  | 0 => [[]]
  | n + 1 => [] :: digits.flatMap fun d => (digitStrings n).map (d :: ·)

theorem mem_digitStrings : ∀ (n : Nat) (b : List Nat), b.all isDigit = true → b.length ≤ n → b ∈ digitStrings n
  | 0, b, _, hl => by rw [List.eq_nil_of_length_eq_zero (Nat.le_zero.1 hl)]; exact List.mem_singleton.2 rfl
  | n + 1, [], _, _ => List.mem_cons_self
  | n + 1, d :: b, hd, hl => by
    rw [List.all_cons, Bool.and_eq_true] at hd
    refine List.mem_cons_of_mem _ (List.mem_flatMap.2 ⟨d, ?_, List.mem_map.2 ⟨b, mem_digitStrings n b hd.2 (Nat.le_of_succ_le_succ hl), rfl⟩⟩)
    rw [← List.elem_iff, digits_elem]; exact hd.1

theorem digits_eval (P : Re) (Q : List Nat → Bool) (n : Nat) (hw : digitsOnly P = true) (hn : maxLen P ≤ n)
    (hQ : ∀ b, Q b = true → b.all isDigit = true ∧ b.length ≤ n)
    (h : (digitStrings n).all (fun b => accepts P b == Q b) = true) (b : List Nat) : accepts P b = Q b := by
  by_cases hb : b.all isDigit = true ∧ b.length ≤ n
  · exact beq_iff_eq.1 (List.all_eq_true.1 h b (mem_digitStrings n b hb.1 hb.2))
  · have hP : accepts P b = false := Bool.eq_false_iff.2 fun hp => hb
      ⟨List.all_eq_true.2 (lang_digitsOnly P b hw ((accepts_iff_lang _ _).1 hp)),
        Nat.le_trans (length_le_maxLen P b hw ((accepts_iff_lang _ _).1 hp)) hn⟩
    rw [hP, Eq.comm, Bool.eq_false_iff]
    exact fun hq => hb (hQ b hq)

end Gozod.C20
