/-
  C18 — issue messages come from the most specific configured source, for every kind.

  `finalize_priority`: FinalizeIssue's nested chain is the first non-empty of check message, schema instance,
  per-parse map, global map, locale, else the built-in text — for arbitrary error maps.  The rest says where that chain
  receives all five sources.  Two regenerated tables: `Gen.sites`, the behavioural wiring (issue kind × raising schema ×
  position: `c18_wired_*`, `c18_all_sites_partial`, `c18_positions_*`; gaps in `Msg.gaps`, tied by equality), and
  `Gen.issueSites`, the static go/ast calls (`c18_sites_*`; gaps in `siteGaps`, tied by ⊆ only).  Then issue-dependent maps,
  chains of container positions, locales, SetConfig histories.  `c18_wired_full` is refuted on the table
  (`c18_wired_full_false_table`); `c18_wired_full_false` and `c18_sites_full_false` are facts about hand-held rows.
-/
import Gozod.Model.Msg
import Gozod.Model.MsgExpect
import Gozod.Model.Config
import Gozod.Gen.MsgWiring
import Gozod.Gen.LocaleTable
import Gozod.Gen.IssueSites
import Gozod.Proofs.C18Key
namespace Gozod.C18
open Gozod.Msg

/-- one step of FinalizeIssue's chain.  It is associative with unit "", which is why the chain, nested as the code nests
    it, yields the first non-empty message of the list. -/
def orElse (m n : String) : String := if m = "" then n else m

theorem orElse_assoc (a b c : String) : orElse (orElse a b) c = orElse a (orElse b c) := by
  unfold orElse
  by_cases h : a = "" <;> simp [h]

theorem empty_orElse (d : String) : orElse "" d = d := if_pos rfl

theorem firstNonEmpty_cons (m : String) (r : List String) (d : String) :
    firstNonEmpty (m :: r) d = orElse m (firstNonEmpty r d) := by
  simp only [firstNonEmpty, orElse, ne_eq, ite_not]

theorem firstNonEmpty_ne (l : List String) {d : String} (h : d ≠ "") : firstNonEmpty l d ≠ "" := by
  induction l with
  | nil => exact h
  | cons m r ih => rw [firstNonEmpty_cons, orElse]; split <;> assumption

/-- for arbitrary error maps, the message FinalizeIssue assigns is the first non-empty of: the message already on the
    raw issue (the failing check's own), the schema/check instance's, the per-parse map, the global custom map, the
    locale; and the built-in text when all of these are silent. -/
theorem finalize_priority {ρ : Type} (s : Sources ρ) (iss : ρ) :
    finalize s iss
      = firstNonEmpty [s.rawMsg, app s.inst iss, app s.parse iss, app s.custom iss, app s.locale iss] (s.dflt iss) := by
  have nested : finalize s iss = orElse s.rawMsg (orElse (orElse (orElse (app s.inst iss) (app s.parse iss))
      (orElse (app s.custom iss) (orElse (app s.locale iss) ""))) (s.dflt iss)) := by
    simp only [finalize, configLevel, orElse, ne_eq, ite_not]
    rfl
  simp only [nested, firstNonEmpty_cons, orElse_assoc, empty_orElse]
  rfl

theorem finalize_check_first {ρ : Type} (s : Sources ρ) (iss : ρ) (h : s.rawMsg ≠ "") :
    finalize s iss = s.rawMsg := if_pos h

theorem finalize_default_last {ρ : Type} (s : Sources ρ) (iss : ρ)
    (h1 : s.rawMsg = "") (h2 : app s.inst iss = "") (h3 : app s.parse iss = "")
    (h4 : app s.custom iss = "") (h5 : app s.locale iss = "") : finalize s iss = s.dflt iss := by
  simp only [finalize_priority, firstNonEmpty_cons, h1, h2, h3, h4, h5, empty_orElse]
  rfl

/-- a map that answers "" for the issue is as good as not configured (schema instance and locale are symmetric by
    `finalize_priority`) -/
theorem finalize_silent_parse {ρ : Type} (s : Sources ρ) (iss : ρ) (h : app s.parse iss = "") :
    finalize s iss = finalize { s with parse := none } iss := by
  rw [finalize_priority, finalize_priority, h]; rfl

theorem finalize_silent_custom {ρ : Type} (s : Sources ρ) (iss : ρ) (h : app s.custom iss = "") :
    finalize s iss = finalize { s with custom := none } iss := by
  rw [finalize_priority, finalize_priority, h]; rfl

theorem finalize_nonempty {ρ : Type} (s : Sources ρ) (iss : ρ) (h : s.dflt iss ≠ "") : finalize s iss ≠ "" := by
  rw [finalize_priority]; exact firstNonEmpty_ne _ h

example : finalize (ρ := Nat)
    { rawMsg := "", inst := none, parse := some (fun n => if n = 0 then "" else "per-parse"),
      custom := some (fun _ => "custom"), locale := some (fun _ => "locale"), dflt := fun _ => "Invalid input" } 0
    = "custom" := by decide

theorem SrcSet.ext_has {a b : SrcSet} (h : ∀ x, a.has x = b.has x) : a = b := by
  cases a; cases b
  rw [SrcSet.mk.injEq]
  exact ⟨h .check, h .schema, h .parse, h .custom, h .locale⟩

theorem SrcSet.has_inter (a b : SrcSet) (x : Source) : (a.inter b).has x = (a.has x && b.has x) := by cases x <;> rfl

theorem SrcSet.has_diff (a b : SrcSet) (x : Source) : (a.diff b).has x = (a.has x && !b.has x) := by cases x <;> rfl

theorem SrcSet.has_empty (x : Source) : SrcSet.empty.has x = false := by cases x <;> rfl

theorem SrcSet.has_of_subset {a b : SrcSet} (h : a.subset b = true) (x : Source) (hx : a.has x = true) : b.has x = true := by
  simp only [SrcSet.subset, Bool.and_eq_true, Bool.or_eq_true, Bool.not_eq_true'] at h
  cases x <;> simp_all [SrcSet.has]

theorem SrcSet.subset_refl (a : SrcSet) : a.subset a = true := by simp [SrcSet.subset]

theorem SrcSet.inter_of_gap {ps cfg ap g : SrcSet} (hw : (ap.diff g).subset ps = true) (happl : cfg.subset ap = true)
    (hgap : cfg.inter g = SrcSet.empty) : ps.inter cfg = cfg := by
  apply SrcSet.ext_has
  intro x
  have hw := SrcSet.has_of_subset hw x
  have ha := SrcSet.has_of_subset happl x
  have hg := congrArg (·.has x) hgap
  simp only [SrcSet.has_inter, SrcSet.has_diff, SrcSet.has_empty] at hw hg ⊢
  cases hc : cfg.has x <;> simp_all

/-- under sentinel maps a site's message is the tag of the first source, in priority order, that is both configured and
    passed by the site — so a site that passes every applicable source satisfies the property for every configuration. -/
theorem site_winner (passes cfg : SrcSet) : siteMessage passes cfg = firstConfigured (passes.inter cfg) := by
  unfold siteMessage
  generalize passes.inter cfg = on
  obtain ⟨a, b, c, d, e⟩ := on
  cases a <;> cases b <;> cases c <;> cases d <;> cases e <;> rfl

/-! The gaps — sources a leaf's code does not hand to FinalizeIssue (open known findings, keyed
    `wire:<leaf>:missing-<sources>` in known-findings.txt; `gaps`, `positionGaps`) — are a hand-written expectation,
    not read off the running code. -/

/-- a position that does not forward the caller's context loses the per-parse map for every issue below it
    (`Msg.positionGaps = []`) -/
def posGap (wrapper : String) : SrcSet :=
  if expectedForwards wrapper then SrcSet.empty else .ofString "p"

/-- its full name is `Gozod.C18.SrcSet.union` (the other operations are `Gozod.Msg.SrcSet.*`, Model/Msg.lean), so `a.union b`
    does not resolve; likewise the lemmas `SrcSet.ext_has … SrcSet.inter_of_gap` above -/
def SrcSet.union (a b : SrcSet) : SrcSet :=
  ⟨a.check || b.check, a.schema || b.schema, a.parse || b.parse, a.custom || b.custom, a.locale || b.locale⟩

def gapAt (s : Site) : SrcSet := SrcSet.union (gapOf s.leaf) (posGap s.wrapper)

def c18_wired_full : Prop := ∀ s ∈ Gozod.Gen.sites, s.applicable.subset s.passes = true

def expectedPasses (s : Site) : SrcSet := s.applicable.diff (gapAt s)

/-- what a site is expected to pass when the check's message function declines the issue -/
def expectedPassesSilent (s : Site) : SrcSet :=
  { s.applicable.diff (SrcSet.union (gapSilentCheckOf s.leaf) (posGap s.wrapper)) with check := false }

def minusParse (a : SrcSet) : SrcSet := { a with parse := false }

/-- (leaf, position) pairs outside the rule of `positionOk` -/
def positionExceptions : List (String × String) := []

def positionOk (s : Site) : Bool :=
  positionExceptions.contains (s.leaf, s.wrapper) ||
  match Gozod.Gen.topPasses.lookup s.leaf, Gozod.Gen.positions.find? (fun p => p.name == s.wrapper) with
  | some (tp, tp2), some p =>
    if p.forwardsCtx then s.passes == tp && s.passesSilentCheck == tp2
    else s.passes == minusParse tp && s.passesSilentCheck == minusParse tp2
  | _, _ => false

/-- one pass over `Gen.sites`: observed sources = expected, built-in base text, the position rule -/
theorem sites_ok : ∀ s ∈ Gozod.Gen.sites,
    (s.passes == expectedPasses s && s.passesSilentCheck == expectedPassesSilent s) = true ∧ (s.base == "d") = true ∧
      positionOk s = true := by
  simp only [expectedPasses, expectedPassesSilent, gapAt, gapOf, gapSilentCheckOf, posGap,
    expectedForwards, positionOk, beq_natKey, lookup_natKey, contains_natKey, find?_natKey]
  simp (singlePass := true) only [startsWith_first]
  decide +kernel

/-- at every site the sources observed to reach FinalizeIssue are EXACTLY the applicable sources minus the listed gap: no
    site drops more than its open finding says, and a stale entry of `gaps` breaks this proof. -/
theorem c18_observed_eq_expected :
    ∀ s ∈ Gozod.Gen.sites, (s.passes == expectedPasses s && s.passesSilentCheck == expectedPassesSilent s) = true :=
  fun s hs => (sites_ok s hs).1

/-- with nothing configured every site shows the built-in text (never an empty message) -/
theorem c18_base_nonempty : ∀ s ∈ Gozod.Gen.sites, s.base = "d" :=
  fun s hs => eq_of_beq (sites_ok s hs).2.1

/-- at a position that forwards the context the sources that reach the leaf's issue are exactly those that reach it at top
    level; at one that does not, those minus the per-parse map — the per-position table under `nested_message`. -/
theorem c18_positions_exact : ∀ s ∈ Gozod.Gen.sites, positionOk s = true :=
  fun s hs => (sites_ok s hs).2.2

/-- outside the listed gaps every site passes every applicable source -/
theorem c18_wired_partial :
    ∀ s ∈ Gozod.Gen.sites, (s.applicable.diff (gapAt s)).subset s.passes = true := by
  intro s hs
  have h := c18_observed_eq_expected s hs
  rw [Bool.and_eq_true, beq_iff_eq] at h
  rw [h.1]
  exact SrcSet.subset_refl _

/-- at every site of `Gen.sites` and for every configuration of the applicable sources that stays outside the site's gap,
    the message comes from the first configured source -/
theorem c18_all_sites_partial (s : Site) (hs : s ∈ Gozod.Gen.sites) (cfg : SrcSet)
    (happl : cfg.subset s.applicable = true) (hgap : (cfg.inter (gapAt s)) = SrcSet.empty) :
    siteMessage s.passes cfg = firstConfigured cfg := by
  rw [site_winner, SrcSet.inter_of_gap (c18_wired_partial s hs) happl hgap]

/-- a gap falsifies the priority rule: a site that drops a source shows another source's message, or the built-in text
    when only that source is configured -/
theorem gap_breaks_priority :
    siteMessage (.ofString "c") (.ofString "g") ≠ firstConfigured (.ofString "g") ∧
    siteMessage (.ofString "cgl") (.ofString "pl") = "l" ∧ firstConfigured (.ofString "pl") = "p" := by
  decide

/-- witness: the row the extraction produces for `Enum("a","b").Parse("zz")`, held as a constant so that the statement
    does not depend on the regenerated table.  The schema presets its message, so no configured source is consulted. -/
def enumSiteSnapshot : Site := ⟨"value-enum", "top", "invalid_value", .ofString "pgl", .ofString "", "d", .ofString ""⟩

theorem c18_wired_full_false :
    enumSiteSnapshot.applicable.subset enumSiteSnapshot.passes = false ∧
    enumSiteSnapshot.winner (.ofString "l") = "d" ∧ firstConfigured (.ofString "l") = "l" := by
  decide

example : (⟨"type-string", "slice-element", "invalid_type", .ofString "spgl", .ofString "spgl", "d", .ofString "spgl"⟩ : Site)
    ∈ Gozod.Gen.sites := by decide +kernel

/-- the observed forwarding of every position of the run is the expected one (all forward) -/
theorem c18_positions_forward : ∀ p ∈ Gozod.Gen.positions, p.forwardsCtx = expectedForwards p.name := by
  decide +kernel

/-- every entry of `gaps` names a leaf of the run, sources that are applicable there, and none of them is observed to
    pass at top level -/
theorem c18_gaps_tight :
    (gaps.all fun g => Gozod.Gen.sites.any fun s =>
      s.leaf == g.1 && s.wrapper == "top" && g.2.subset s.applicable && (s.passes.inter g.2 == SrcSet.empty)) = true := by
  simp only [beq_natKey]
  decide +kernel

/-- the full statement is false on the regenerated table itself (no hand-written snapshot) -/
theorem c18_wired_full_false_table : ¬ c18_wired_full := by
  unfold c18_wired_full
  decide +kernel

/-- the hypothesis of `c18_every_depth_expected` is inhabited.  (`20` is a floor, not the count: the table is
    regenerated on every run.) -/
theorem c18_gapless_leaves :
    (Gozod.Gen.topPasses.filter fun t => gapOf t.1 == SrcSet.empty).length ≥ 20 := by
  simp only [gapOf, lookup_natKey]
  decide +kernel

theorem dropSources_unconfigured {ρ : Type} (d : SrcSet) (s : Sources ρ)
    (hc : d.check = true → s.rawMsg = "") (hs : d.schema = true → s.inst = none) (hp : d.parse = true → s.parse = none)
    (hg : d.custom = true → s.custom = none) (hl : d.locale = true → s.locale = none) : dropSources d s = s := by
  cases s
  unfold dropSources
  congr 1 <;> split <;> simp_all

/-- the dropped sources are not configured.  `c18_sites_all_partial`, `c18_every_depth_expected_gap`, `multi_per_issue` spell
    the five fields out as `hc hs hp hg hl`; `dep_site` states the same as the equation `dropSources … = …`. -/
structure Unconfigured {ρ : Type} (d : SrcSet) (s : Sources ρ) : Prop where
  check : d.check = true → s.rawMsg = ""
  schema : d.schema = true → s.inst = none
  parse : d.parse = true → s.parse = none
  custom : d.custom = true → s.custom = none
  locale : d.locale = true → s.locale = none

theorem Unconfigured.mono {ρ : Type} {a b : SrcSet} {s : Sources ρ} (h : a.subset b = true) (hb : Unconfigured b s) :
    Unconfigured a s :=
  ⟨fun ha => hb.check (SrcSet.has_of_subset h .check ha), fun ha => hb.schema (SrcSet.has_of_subset h .schema ha),
   fun ha => hb.parse (SrcSet.has_of_subset h .parse ha), fun ha => hb.custom (SrcSet.has_of_subset h .custom ha),
   fun ha => hb.locale (SrcSet.has_of_subset h .locale ha)⟩

theorem Unconfigured.empty {ρ : Type} (s : Sources ρ) : Unconfigured SrcSet.empty s := ⟨nofun, nofun, nofun, nofun, nofun⟩

/-- a call that drops only sources that are not configured resolves the message by the priority rule: the site, depth and
    multi-issue theorems are instances -/
theorem Unconfigured.priority {ρ : Type} {d : SrcSet} {s : Sources ρ} (h : Unconfigured d s) (iss : ρ) :
    finalize (dropSources d s) iss
      = firstNonEmpty [s.rawMsg, app s.inst iss, app s.parse iss, app s.custom iss, app s.locale iss] (s.dflt iss) := by
  rw [dropSources_unconfigured d s h.check h.schema h.parse h.custom h.locale, finalize_priority]

theorem site_priority {ρ : Type} (st : IssueSite) (h : st.drops = SrcSet.empty) (s : Sources ρ) (iss : ρ) :
    finalize (dropSources st.drops s) iss
      = firstNonEmpty [s.rawMsg, app s.inst iss, app s.parse iss, app s.custom iss, app s.locale iss] (s.dflt iss) :=
  (h ▸ Unconfigured.empty s).priority iss

/-- call (file:func:callee) ↦ sources it does not hand on:
    * `s`  the issue is built without the raising schema's instance (issues.Create…Error without Inst) — the schema's own
           message cannot be consulted (`wire:type-*:missing-s`, `wire:union*:missing-s`, …)
    * `p`  FinalizeIssue gets nil / a fresh ParseContext (MapPropertiesToIssue's element_error, object.go's
           type-conversion errors, intersection's merge errors), or a nested Parse is called without the context
           (lazy.extractPtr, function input/output, property check) — `wire:*:missing-*p`
    * `spgl` a message is written before the chain runs (Enum, missing object field, foreign error texts) -/
def siteGaps : List (String × SrcSet) := [
  ("internal/checks/factory.go:executePropertyCheck:ParseAny", .ofString "p"),
  ("internal/engine/parser.go:ParseComplexStrict:CreateInvalidTypeError", .ofString "s"),
  ("internal/engine/parser.go:handleNilPointer:CreateInvalidTypeError", .ofString "s"),
  ("internal/engine/parser.go:handleNilComplex:CreateInvalidTypeError", .ofString "s"),
  ("internal/engine/parser.go:coerceToType:CreateInvalidTypeError", .ofString "s"),
  ("internal/engine/parser.go:convertNonNilToConstraintType:CreateInvalidTypeError", .ofString "s"),
  ("internal/engine/parser.go:convertToDoublePtr:CreateInvalidTypeError", .ofString "s"),
  ("internal/engine/parser.go:convertToPtr:CreateInvalidTypeError", .ofString "s"),
  ("internal/engine/parser.go:convertToValue:CreateInvalidTypeError", .ofString "s"),
  ("internal/engine/parser.go:parseTypedValue:CreateInvalidTypeError", .ofString "s"),
  ("internal/engine/parser.go:validateAndReturn:CreateInvalidTypeError", .ofString "s"),
  ("internal/engine/parser.go:parsePrimitiveStrictNil:CreateInvalidTypeError", .ofString "s"),
  ("internal/engine/parser.go:parsePrimitiveStrictWithChecks:CreateInvalidTypeError", .ofString "s"),
  ("internal/engine/parser.go:handleNilPointerStrict:CreateInvalidTypeError", .ofString "s"),
  ("internal/engine/parser.go:applyTransformToResult:CreateInvalidTypeError", .ofString "s"),
  ("internal/issues/creators.go:extractFirstRawIssue:CreateIssue", .ofString "spgl"),
  ("internal/issues/finalize.go:FinalizeIssue:MapPropertiesToIssue", .ofString "p"),
  ("internal/issues/finalize.go:MapPropertiesToIssue:FinalizeIssue", .ofString "p"),
  ("types/array.go:ZodArray.Parse:CreateInvalidTypeError", .ofString "s"),
  ("types/array.go:ZodArray.StrictParse:CreateTypeConversionError", .ofString "s"),
  ("types/array.go:ZodArray.validate:CreateInvalidTypeError", .ofString "s"),
  ("types/bigint.go:ZodBigInt.parseNilInput:CreateNonOptionalError", .ofString "s"),
  ("types/bigint.go:ZodBigInt.parseNilInput:CreateInvalidTypeError", .ofString "s"),
  ("types/discriminated_union.go:ZodDiscriminatedUnion.Parse:CreateInvalidSchemaError", .ofString "s"),
  ("types/discriminated_union.go:ZodDiscriminatedUnion.Parse:CreateInvalidTypeError", .ofString "s"),
  ("types/discriminated_union.go:ZodDiscriminatedUnion.Parse:CreateMissingRequiredError", .ofString "s"),
  ("types/discriminated_union.go:ZodDiscriminatedUnion.StrictParse:CreateTypeConversionError", .ofString "s"),
  ("types/enum.go:ZodEnum.validateEnum:CreateIssue", .ofString "spgl"),
  ("types/function.go:newFuncTypeError:FinalizeIssue", .ofString "s"),
  ("types/function.go:ZodFunction.validateInput:Parse", .ofString "p"),
  ("types/function.go:ZodFunction.validateOutput:Parse", .ofString "p"),
  ("types/intersection.go:collectSchemaIssues:FinalizeIssue", .ofString "s"),
  ("types/intersection.go:ZodIntersection.validateValue:CreateCustomIssue", .ofString "spgl"),
  ("types/intersection.go:ZodIntersection.validateValue:FinalizeIssue", .ofString "s"),
  ("types/intersection.go:ZodIntersection.StrictParse:CreateCustomIssue", .ofString "spgl"),
  ("types/intersection.go:ZodIntersection.StrictParse:FinalizeIssue", .ofString "s"),
  ("types/intersection.go:mergeValues:CreateIncompatibleTypesError", .ofString "sp"),
  ("types/intersection.go:mergeMaps:CreateIncompatibleTypesError", .ofString "sp"),
  ("types/intersection.go:mergeSlices:CreateIncompatibleTypesError", .ofString "sp"),
  ("types/lazy.go:ZodLazy.Parse:CreateNonOptionalError", .ofString "s"),
  ("types/lazy.go:ZodLazy.Parse:CreateInvalidTypeError", .ofString "s"),
  ("types/lazy.go:ZodLazy.extractPtr:Parse", .ofString "p"),
  ("types/lazy.go:newLazyTypeError:FinalizeIssue", .ofString "s"),
  ("types/map.go:ZodMap.Parse:CreateTypeConversionError", .ofString "s"),
  ("types/map.go:ZodMap.StrictParse:CreateTypeConversionError", .ofString "s"),
  ("types/map.go:ZodMap.extractType:CreateNonOptionalError", .ofString "s"),
  ("types/map.go:ZodMap.collectErrors:CreateIssue", .ofString "spgl"),
  ("types/never.go:newNeverValidator:CreateInvalidTypeError", .ofString "s"),
  ("types/nil.go:nilValidator:CreateInvalidTypeError", .ofString "s"),
  ("types/object.go:ZodObject.Parse:CreateTypeConversionError", .ofString "sp"),
  ("types/object.go:ZodObject.extractObject:CreateTypeConversionError", .ofString "sp"),
  ("types/object.go:collectFieldErrors:CreateIssue", .ofString "spgl"),
  ("types/object.go:ZodObject.validateObject:CreateIssue", .ofString "spgl"),
  ("types/record.go:ZodRecord.Parse:CreateTypeConversionError", .ofString "s"),
  ("types/record.go:ZodRecord.StrictParse:CreateTypeConversionError", .ofString "s"),
  ("types/record.go:ZodRecord.validateRecord:CreateInvalidTypeError", .ofString "s"),
  ("types/set.go:ZodSet.Parse:CreateTypeConversionError", .ofString "s"),
  ("types/set.go:ZodSet.collectErrors:CreateIssue", .ofString "spgl"),
  ("types/slice.go:ZodSlice.validateForEngine:CreateIssue", .ofString "spgl"),
  ("types/struct.go:ZodStruct.Parse:CreateTypeConversionError", .ofString "s"),
  ("types/struct.go:ZodStruct.createStructTypeError:CreateCustomError", .ofString "s"),
  ("types/struct.go:ZodStruct.createStructTypeError:CreateInvalidTypeError", .ofString "s"),
  ("types/struct.go:ZodStruct.parseStructWithDefaults:CreateInvalidTypeError", .ofString "s"),
  ("types/struct.go:ZodStruct.parseStructWithDefaults:CreateIssue", .ofString "spgl"),
  ("types/tuple.go:ZodTuple.Parse:CreateInvalidTypeError", .ofString "s"),
  ("types/tuple.go:ZodTuple.StrictParse:CreateTypeConversionError", .ofString "s"),
  ("types/tuple.go:collectParseIssues:CreateIssue", .ofString "spgl"),
  ("types/tuple.go:ZodTuple.validateTupleForEngine:CreateTooSmallError", .ofString "s"),
  ("types/tuple.go:ZodTuple.validateTupleForEngine:CreateTooBigError", .ofString "s"),
  ("types/union.go:ZodUnion.validate:CreateInvalidSchemaError", .ofString "s"),
  ("types/union.go:ZodUnion.StrictParse:CreateTypeConversionError", .ofString "s"),
  ("types/xor.go:ZodXor.validate:CreateInvalidSchemaError", .ofString "s"),
  ("types/xor.go:ZodXor.validate:CreateInvalidXorError", .ofString "s"),
  ("types/xor.go:ZodXor.StrictParse:CreateTypeConversionError", .ofString "s")]

def siteGapOf (gkey : String) : SrcSet := (siteGaps.lookup gkey).getD SrcSet.empty

def c18_sites_full : Prop := ∀ s ∈ Gozod.Gen.issueSites, s.drops = SrcSet.empty

def staticDynOk (s : IssueSite) : Bool :=
  s.reached.all fun l =>
    match Gozod.Gen.topPasses.lookup l with
    | some (p, _) => p.inter s.drops == SrcSet.empty
    | none => false

/-- one pass over `Gen.issueSites`.  Its first part is ⊆ only: an entry of `siteGaps` that no call of the table uses goes
    unnoticed (unlike a stale entry of `Msg.gaps`: `c18_observed_eq_expected`, `c18_gaps_tight`). -/
theorem issueSites_ok :
    ∀ s ∈ Gozod.Gen.issueSites, s.drops.subset (siteGapOf s.gkey) = true ∧ staticDynOk s = true := by
  simp only [siteGapOf, staticDynOk, IssueSite.drops, IssueSite.reaches, beq_natKey, lookup_natKey]
  decide +kernel

/-- every call the translator finds in the source that creates an issue, reaches FinalizeIssue or parses a nested schema
    hands on every source, except what `siteGaps` lists for it.  A new call that forgets the context / instance / config,
    or writes a message early, changes this obligation. -/
theorem c18_sites_partial : ∀ s ∈ Gozod.Gen.issueSites, s.drops.subset (siteGapOf s.gkey) = true :=
  fun s hs => (issueSites_ok s hs).1

/-- the static table and the run agree — a source that the go/ast table says a call drops is never observed to pass at a
    leaf whose issue that very call finalised (`reached`, captured from the call stack at run time). -/
theorem c18_static_dynamic : ∀ s ∈ Gozod.Gen.issueSites, staticDynOk s = true :=
  fun s hs => (issueSites_ok s hs).2

/-- at every call of `Gen.issueSites`, for ARBITRARY error maps, whenever the sources listed as the call's gap are not
    configured the message is the first non-empty of the five sources, else the built-in text. -/
theorem c18_sites_all_partial {ρ : Type} (st : IssueSite) (hst : st ∈ Gozod.Gen.issueSites) (s : Sources ρ) (iss : ρ)
    (hc : (siteGapOf st.gkey).check = true → s.rawMsg = "") (hs : (siteGapOf st.gkey).schema = true → s.inst = none)
    (hp : (siteGapOf st.gkey).parse = true → s.parse = none) (hg : (siteGapOf st.gkey).custom = true → s.custom = none)
    (hl : (siteGapOf st.gkey).locale = true → s.locale = none) :
    finalize (dropSources st.drops s) iss
      = firstNonEmpty [s.rawMsg, app s.inst iss, app s.parse iss, app s.custom iss, app s.locale iss] (s.dflt iss) := by
  exact (Unconfigured.mono (c18_sites_partial st hst) ⟨hc, hs, hp, hg, hl⟩).priority iss

/-- witness, held as a constant: the row of `issues.CreateArrayValidationIssues` finalising with `core.NewParseContext()`
    (the library before 7990727) — the caller's per-parse map is dropped, and the message differs -/
def arrayValidationSnapshot : IssueSite :=
  ⟨"internal/issues/creators.go:CreateArrayValidationIssues:FinalizeIssue#1", "internal/issues/creators.go:CreateArrayValidationIssues:FinalizeIssue",
   453, true, "finalize", "?", "", "fresh", "fallback", "flow", "flow", ["small-slice"], 453, "FinalizeIssue", [], false⟩

theorem c18_sites_full_false :
    arrayValidationSnapshot.drops ≠ SrcSet.empty ∧
    finalize (dropSources arrayValidationSnapshot.drops
      { rawMsg := "", inst := none, parse := some (fun _ => "per-parse"), custom := none, locale := none, dflt := fun _ => "built-in" }) ()
      = "built-in" := by
  decide

example : Gozod.Gen.issueSites.any (fun s => s.reaches && s.ctx == "fresh") = true := by
  simp only [IssueSite.reaches, beq_natKey]
  decide +kernel

theorem app_depMap (k : Char) (tag : String) (f : RawFeat) :
    app (depMap k tag) f = if depAnswers k f = true then tag else "" := by
  unfold depMap app
  by_cases h : (k == '-') = true
  · have hk : k = '-' := by simpa using h
    subst hk
    simp [depAnswers]
  · simp [h]

/-- with every source handed on, FinalizeIssue under issue-dependent maps (maps that answer for some issues and decline
    others) yields the first configured source that HAS an answer for the issue -/
theorem dep_spec (spec : List Char) (f : RawFeat) : finalize (depSources spec f) f = specDep spec f := by
  rw [finalize_priority]
  simp only [depSources, specDep, app_depMap]

/-- `h`: the sources the site does not pass are not configured in `spec`; `hs`: the check entry of `spec` (position 0),
    if set, answers for `f` — otherwise `Site.winnerDep` reads `passesSilentCheck` instead of `passes`. -/
theorem dep_site (s : Site) (spec : List Char) (f : RawFeat)
    (h : dropSources s.passes.compl (depSources spec f) = depSources spec f)
    (hs : ((spec.getD 0 '-') != '-' && !(depAnswers (spec.getD 0 '-') f)) = false) (hb : s.base = "d") :
    s.winnerDep spec f = specDep spec f := by
  unfold Site.winnerDep
  simp only [hs, Bool.false_eq_true, if_false, h, dep_spec, hb]
  split
  next h' => exact h'.symm
  next => rfl

example : specDep ['-', '-', 'T', 'K', '-'] ⟨"too_small", true, true⟩ = "g" ∧
    specDep ['-', '-', 'T', 'K', '-'] ⟨"invalid_type", true, false⟩ = "p" := by decide

theorem dropSources_parse_none {ρ : Type} (d : SrcSet) (s : Sources ρ) :
    dropSources d { s with parse := none } = dropSources { d with parse := true } s := by
  simp only [dropSources, ite_self, if_true]

/-- "at every nesting depth": below ANY chain of positions the message of the leaf's issue is the one FinalizeIssue
    resolves at the leaf — from all the sources when every position forwards the context, without the per-parse map
    otherwise.  Induction over the chain; the base case is the leaf's site. -/
theorem nested_message {ρ : Type} (d : SrcSet) (ps : List Position) (s : Sources ρ) (iss : ρ) (h : s.dflt iss ≠ "") :
    nestedMessage d ps s iss
      = finalize (dropSources (if ps.all (·.forwardsCtx) then d else { d with parse := true }) s) iss := by
  induction ps generalizing s with
  | nil => rfl
  | cons p ps ih =>
    -- what comes back from below is finalised, hence non-empty, and re-finalising keeps it
    have below (s' : Sources ρ) (h' : s'.dflt iss ≠ "") :
        finalize { s with rawMsg := nestedMessage d ps s' iss } iss = nestedMessage d ps s' iss :=
      finalize_check_first _ _ (by rw [ih s' h']; exact finalize_nonempty _ _ h')
    rw [nestedMessage, List.all_cons]
    cases p.forwardsCtx
    · simp only [Bool.false_eq_true, if_false, Bool.false_and]
      rw [below { s with parse := none } h, ih { s with parse := none } h, dropSources_parse_none]
      split <;> rfl
    · exact (below s h).trans (ih s h)

theorem nested_forward {ρ : Type} (d : SrcSet) {ps : List Position} (hps : ps.all (·.forwardsCtx) = true) (s : Sources ρ)
    (iss : ρ) (h : s.dflt iss ≠ "") : nestedMessage d ps s iss = finalize (dropSources d s) iss := by
  rw [nested_message _ _ _ _ h, hps]
  rfl

/-- a leaf site that drops nothing shows, below every chain of context-forwarding positions and for arbitrary error
    maps, the first non-empty of the five sources -/
theorem c18_every_depth {ρ : Type} (ps : List Position) (hps : ps.all (·.forwardsCtx) = true) (s : Sources ρ) (iss : ρ)
    (h : s.dflt iss ≠ "") :
    nestedMessage SrcSet.empty ps s iss
      = firstNonEmpty [s.rawMsg, app s.inst iss, app s.parse iss, app s.custom iss, app s.locale iss] (s.dflt iss) := by
  exact (nested_forward _ hps _ _ h).trans ((Unconfigured.empty s).priority iss)

example : nestedMessage (ρ := Unit) SrcSet.empty [⟨"slice-element", true⟩, ⟨"record-key", false⟩, ⟨"lazy", true⟩]
    { rawMsg := "", inst := none, parse := some (fun _ => "p"), custom := some (fun _ => "g"), locale := none, dflt := fun _ => "d" } ()
    = "g" := by decide

/-- holds because `Msg.positionGaps = []`: every position is expected to forward the context.  `expected_message_eq` and
    what rests on it (`c18_every_depth_expected*`, `multi_per_issue`) use it; `nested_message` is the statement for chains
    with non-forwarding positions. -/
theorem expected_positions_forward (chain : List String) :
    (chain.map expectedPosition).all (·.forwardsCtx) = true := by
  simp [expectedPosition, expectedForwards, positionGaps]

/-- what the driver computes for a cell below ANY chain (`expectedMessage` = `nestedMessage` with the expected
    forwarding) is FinalizeIssue on the sources outside the leaf's gap -/
theorem expected_message_eq {ρ : Type} (drops : SrcSet) (chain : List String) (s : Sources ρ) (iss : ρ) (h : s.dflt iss ≠ "") :
    expectedMessage drops chain s iss = finalize (dropSources drops s) iss :=
  nested_forward _ (expected_positions_forward chain) _ _ h

theorem expected_message_unconfigured {ρ : Type} {drops : SrcSet} (chain : List String) {s : Sources ρ} (iss : ρ)
    (h : s.dflt iss ≠ "") (hu : Unconfigured drops s) :
    expectedMessage drops chain s iss
      = firstNonEmpty [s.rawMsg, app s.inst iss, app s.parse iss, app s.custom iss, app s.locale iss] (s.dflt iss) := by
  exact (expected_message_eq _ _ _ _ h).trans (hu.priority iss)

/-- "at every nesting depth", about the definition that is executed: for every leaf whose gap is empty, below every chain
    and for arbitrary error maps, the message the driver predicts (and the run compares with the library's) is the first
    non-empty of the five sources -/
theorem c18_every_depth_expected {ρ : Type} (leaf : String) (hleaf : gapOf leaf = SrcSet.empty) (chain : List String)
    (s : Sources ρ) (iss : ρ) (h : s.dflt iss ≠ "") :
    expectedMessage (gapOf leaf) chain s iss
      = firstNonEmpty [s.rawMsg, app s.inst iss, app s.parse iss, app s.custom iss, app s.locale iss] (s.dflt iss) :=
  expected_message_unconfigured chain iss h (hleaf ▸ Unconfigured.empty s)

/-- … and for a leaf WITH a gap as long as the gap's sources are not configured -/
theorem c18_every_depth_expected_gap {ρ : Type} (leaf : String) (chain : List String) (s : Sources ρ) (iss : ρ)
    (h : s.dflt iss ≠ "")
    (hc : (gapOf leaf).check = true → s.rawMsg = "") (hs : (gapOf leaf).schema = true → s.inst = none)
    (hp : (gapOf leaf).parse = true → s.parse = none) (hg : (gapOf leaf).custom = true → s.custom = none)
    (hl : (gapOf leaf).locale = true → s.locale = none) :
    expectedMessage (gapOf leaf) chain s iss
      = firstNonEmpty [s.rawMsg, app s.inst iss, app s.parse iss, app s.custom iss, app s.locale iss] (s.dflt iss) :=
  expected_message_unconfigured chain iss h ⟨hc, hs, hp, hg, hl⟩

example : gapOf "type-string" = SrcSet.empty ∧
    expectedWire (gapOf "type-string") ["slice-element", "record-key", "lazy"] (.ofString "pg") = "p" := by decide

/-- every bundled locale returns a non-empty message for every entry of the regenerated parameter table (one column per
    variation that selects another text path of a formatter), and every row covers every column. -/
theorem c18_locales : ∀ row ∈ Gozod.Gen.localeRows,
    row.2.length = Gozod.Gen.localeKinds.length ∧ row.2.all (fun b => b) = true := by decide +kernel

section SetConfigHistories
open Gozod.Config

theorem run_snoc {α : Type} (h : List (Call α)) (c : Call α) : run (h ++ [c]) = step (run h) c := by
  simp [run, List.foldl_append]

theorem run_reverse {α : Type} (r : List (Call α)) : run r.reverse = ⟨lastCustom r, lastLocale r⟩ := by
  induction r with
  | nil => rfl
  | cons c r ih =>
    rw [List.reverse_cons, run_snoc, ih]
    cases c with
    | reset => simp [step, lastCustom, lastLocale, Cfg.zero]
    | set cu lo => cases cu <;> cases lo <;> simp [step, lastCustom, lastLocale]

/-- after ANY history of SetConfig calls the stored configuration is, field by field, the last non-nil value passed for
    that field since the last reset. -/
theorem setconfig_history {α : Type} (h : List (Call α)) : run h = spec h := by
  have := run_reverse h.reverse
  simpa [spec] using this

theorem setconfig_keeps_locale {α : Type} (h : List (Call α)) (x : α) :
    (run (h ++ [.set (some x) none])).locale = (run h).locale := by
  rw [run_snoc]; simp [step]

theorem setconfig_keeps_custom {α : Type} (h : List (Call α)) (x : α) :
    (run (h ++ [.set none (some x)])).custom = (run h).custom := by
  rw [run_snoc]; simp [step]

/-- witness: a SetConfig whose locale field inherits the current custom map falsifies the history theorem — locale
    installed first, custom map second -/
theorem crossed_setconfig_breaks_history :
    ([Call.set none (some "de"), Call.set (some "cus") none].foldl stepCrossed Cfg.zero).locale = none ∧
    (spec [Call.set none (some "de"), Call.set (some "cus") none]).locale = some "de" := by
  decide

example : run [Call.set (some 1) (some 2), .reset, .set none (some 3), .set (some 4) none, .set none none]
    = ⟨some 4, some 3⟩ := by decide

end SetConfigHistories

end Gozod.C18
