/-
  C07 — what the check Bag means (`strSem`, `numSem`: the keywords written from it validate exactly the checks folded
  into it) and the leaf cases of the main induction.
-/
import Gozod.Model.JsonSchema
namespace Gozod.C07
open Gozod.Jsc

theorem all_optKw {α} (o : Option α) (f : α → Kw) (p : Kw → Bool) :
    (optKw o f).all p = o.all (fun a => p (f a)) := by
  cases o <;> simp [optKw]

theorem kwsValid_ofList (l : List Kw) (c : Ctx) (x : Json) :
    kwsValid (KwList.ofList l) c x = l.all (fun k => kwValid k c x) := by
  induction l with
  | nil => rfl
  | cons k ks ih => simp only [KwList.ofList, kwsValid, ih, List.all_cons]

theorem jsValid_node (l : List Kw) (x : Json) :
    jsValid (.node (KwList.ofList l)) x
      = l.all (fun k => kwValid k ⟨(KwList.ofList l).nPrefix, (KwList.ofList l).propKeys⟩ x) := by
  rw [jsValid, kwsValid_ofList]

/- the conjunct `d` a step adds, moved to the end (`step_sem`, `step_num`) -/
theorem and_ins1 (a d b c : Bool) : (a && d && b && c) = (a && b && c && d) := by decide +revert
theorem and_ins2 (a b d c : Bool) : (a && (b && d) && c) = (a && b && c && d) := by decide +revert

theorem byteLen_ascii (s : Str) (h : asciiStr s = true) : byteLen s = s.length := by
  induction s with
  | nil => rfl
  | cons c cs ih =>
    simp only [asciiStr, List.all_cons, Bool.and_eq_true, decide_eq_true_eq] at h
    simp only [byteLen, cpWidth, h.1, if_true, ih h.2, List.length_cons]; omega

theorem runStr_noTrim (cks : List StrCk) (s : Str) (h : noTrim cks = true) :
    runStr cks s = if cks.all (fun c => c.holds s) then some s else none := by
  induction cks with
  | nil => rfl
  | cons c cs ih =>
    simp only [noTrim, List.all_cons, Bool.and_eq_true] at h
    have ih' := ih h.2
    cases c with
    | trim => exact absurd h.1 (by decide)
    | _ => simp only [runStr, ih', List.all_cons]; split <;> simp [*]

def strSem (b : StrBag) (s : Str) : Bool :=
  b.minL.all (fun n => decide (n ≤ s.length)) && b.maxL.all (fun n => decide (s.length ≤ n))
  && b.pats.all (fun p => p.holds s)

theorem addPat_minL (b : StrBag) (p : Pat) : (b.addPat p).minL = b.minL := by
  unfold StrBag.addPat; split <;> rfl

theorem addPat_maxL (b : StrBag) (p : Pat) : (b.addPat p).maxL = b.maxL := by
  unfold StrBag.addPat; split <;> rfl

theorem addPat_sem (b : StrBag) (p : Pat) (s : Str) :
    strSem (b.addPat p) s = (strSem b s && p.holds s) := by
  simp only [strSem, addPat_minL, addPat_maxL, Bool.and_assoc]
  congr 2
  unfold StrBag.addPat
  split
  · rename_i h
    rw [Bool.eq_iff_iff]
    simp only [Bool.and_eq_true, List.all_eq_true]
    exact ⟨fun hall => ⟨hall, hall p (List.contains_iff_mem.1 h)⟩, fun hall => hall.1⟩
  · simp only [List.all_append, List.all_cons, List.all_nil, Bool.and_true]

/-- the value-side meaning of one check on an ASCII string, in code points: `Length` alone is not faithful, it
    overwrites both bounds where the other checks keep the stricter one. -/
theorem step_sem (b : StrBag) (c : StrCk) (s : Str) (ha : asciiStr s = true)
    (hc : (∀ n, c ≠ .len n) ∨ (b.minL = none ∧ b.maxL = none)) :
    strSem (b.step c) s = (strSem b s && c.holds s) := by
  have hb := byteLen_ascii s ha
  cases c with
  | len n =>
    obtain hc | ⟨h1, h2⟩ := hc
    · exact absurd rfl (hc n)
    · simp only [StrBag.step, strSem, h1, h2, StrCk.holds, hb, Option.all_some, Option.all_none, Bool.true_and]
      rw [Bool.and_comm, ← Bool.decide_and]
      congr 2; exact propext ⟨fun h => by omega, fun h => by omega⟩
  | min n =>
    have h : (b.step (.min n)).minL.all (fun m => decide (m ≤ s.length))
        = (b.minL.all (fun m => decide (m ≤ s.length)) && decide (n ≤ s.length)) := by
      rw [Bool.eq_iff_iff]
      simp only [StrBag.step, Option.all_some, Bool.and_eq_true, decide_eq_true_eq]
      cases b.minL with
      | none => simp only [Option.all_none, true_and]
      | some o => simp only [Option.all_some, decide_eq_true_eq]; split <;> omega
    simp only [strSem, StrCk.holds, hb]
    rw [h]; exact and_ins1 ..
  | max n =>
    have h : (b.step (.max n)).maxL.all (fun m => decide (s.length ≤ m))
        = (b.maxL.all (fun m => decide (s.length ≤ m)) && decide (s.length ≤ n)) := by
      rw [Bool.eq_iff_iff]
      simp only [StrBag.step, Option.all_some, Bool.and_eq_true, decide_eq_true_eq]
      cases b.maxL with
      | none => simp only [Option.all_none, true_and]
      | some o => simp only [Option.all_some, decide_eq_true_eq]; split <;> omega
    simp only [strSem, StrCk.holds, hb]
    rw [h]; exact and_ins2 ..
  | trim => simp only [StrBag.step, StrCk.holds, Bool.and_true]
  | _ => simp only [StrBag.step, addPat_sem, StrCk.holds, Pat.holds]

theorem lenFree_cons {c : StrCk} {cs : List StrCk} (h : strLenOK.lenFree (c :: cs) = true) :
    (∀ n, c ≠ .len n) ∧ strLenOK.lenFree cs = true := by
  cases c with
  | len n => cases h
  | _ => exact ⟨fun _ => StrCk.noConfusion, h⟩

theorem fold_sem_lenFree (cs : List StrCk) (b : StrBag) (s : Str) (ha : asciiStr s = true)
    (h : strLenOK.lenFree cs = true) :
    strSem (cs.foldl StrBag.step b) s = (strSem b s && cs.all (fun c => c.holds s)) := by
  induction cs generalizing b with
  | nil => simp
  | cons c cs ih =>
    have h := lenFree_cons h
    simp only [List.foldl_cons, List.all_cons]
    rw [ih _ h.2, step_sem b c s ha (.inl h.1), Bool.and_assoc]

/- the first length check meets an empty Bag, where even `Length` is faithful; behind it `strLenOK` allows a `lenFree` tail only -/
theorem fold_sem_lenOK (cs : List StrCk) (b : StrBag) (s : Str) (ha : asciiStr s = true)
    (h : strLenOK cs = true) (h1 : b.minL = none) (h2 : b.maxL = none) :
    strSem (cs.foldl StrBag.step b) s = (strSem b s && cs.all (fun c => c.holds s)) := by
  induction cs generalizing b with
  | nil => simp
  | cons c cs ih =>
    simp only [List.foldl_cons, List.all_cons]
    rw [← Bool.and_assoc, ← step_sem b c s ha (.inr ⟨h1, h2⟩)]
    cases c with
    | len n | min n | max n => exact fold_sem_lenFree cs _ s ha h
    | _ => exact ih _ h (by simp only [StrBag.step, addPat_minL, h1]) (by simp only [StrBag.step, addPat_maxL, h2])

theorem allValid_pats (ps : List Pat) (s : Str) :
    allValid (ps.foldr (fun p acc => JSList.cons (.node (.cons (.pattern p) .nil)) acc) .nil) (.str s)
      = ps.all (fun p => p.holds s) := by
  induction ps with
  | nil => rfl
  | cons p ps ih => simp only [List.foldr_cons, allValid, jsValid, kwsValid, kwValid, ih, Bool.and_true, List.all_cons]

theorem patKws_valid (ps : List Pat) (c : Ctx) (s : Str) :
    (patKws ps).all (fun k => kwValid k c (.str s)) = ps.all (fun p => p.holds s) := by
  match ps with
  | [] => rfl
  | [p] => simp only [patKws, List.all_cons, List.all_nil, kwValid]
  | p :: q :: ps => simp only [patKws, List.all_cons, List.all_nil, kwValid, allValid_pats, Bool.and_true]

theorem strKws_valid (cks : List StrCk) (c : Ctx) (s : Str) :
    (strKws cks).all (fun k => kwValid k c (.str s)) = strSem (strBag cks) s := by
  simp only [strKws, strSem, List.all_append, List.all_cons, List.all_nil, all_optKw, kwValid, typeOk, Bool.true_and,
    Bool.and_true, patKws_valid]
  rw [Bool.and_assoc, Bool.and_comm]

theorem str_case (cks : List StrCk) (x : Json) (h1 : strLenOK cks = true) (h2 : noTrim cks = true)
    (hx : instOK x = true) :
    jsValid (.node (KwList.ofList (strKws cks))) x = accepts (.str cks) x := by
  cases x with
  | str s =>
    have ha : asciiStr s = true := hx
    rw [jsValid_node, strKws_valid, strBag, fold_sem_lenOK cks {} s ha h1 rfl rfl, accepts, runStr_noTrim cks s h2]
    cases cks.all (fun c => c.holds s) <;> rfl
  | _ => simp [jsValid_node, strKws, kwValid, typeOk, accepts]

def lowSem (u : Int) (mn ex : Option Int) (q : Int) : Bool :=
  mn.all (fun m => decide (u * m ≤ q)) && ex.all (fun e => decide (u * e < q))

def highSem (u : Int) (mx ex : Option Int) (q : Int) : Bool :=
  mx.all (fun m => decide (q ≤ u * m)) && ex.all (fun e => decide (q < u * e))

def mulSem (u : Int) (ml : Option Int) (q : Int) : Bool :=
  ml.all (fun v => decide (q % (u * v) = 0))

/-- the numeric Bag by the pair of slots a check touches; `u` scales Bag values to quarters, like `q`. -/
def numSem (u : Int) (b : NumBag) (q : Int) : Bool :=
  lowSem u b.min b.exMin q && highSem u b.max b.exMax q && mulSem u b.mul q

/-- the facts `omega` needs about the products `u * a`, `u * b`. -/
theorem scale_lt {u : Int} (hu : 0 < u) (a b : Int) : (u * a < u * b ↔ a < b) ∧ (u * b < u * a ↔ b < a) :=
  ⟨Int.mul_lt_mul_left hu, Int.mul_lt_mul_left hu⟩

/-! One lemma per bound check: the pair it touches means, after the step, what it meant before and the check.
    The step keeps the stricter bound of a kind and drops the bound of the other kind that the new one implies;
    `stepOK` excludes the one case where the dropped bound was NOT implied (exclusive `e`, then inclusive `e`). -/

theorem lowSem_gte (u : Int) (hu : 0 < u) (b : NumBag) (v q : Int) (hok : b.stepOK (.gte v) = true) :
    lowSem u (b.step (.gte v)).min (b.step (.gte v)).exMin q = (lowSem u b.min b.exMin q && decide (u * v ≤ q)) := by
  rw [Bool.eq_iff_iff]
  rcases b with ⟨_ | o, _ | e, _, _, _⟩ <;>
    simp only [NumBag.step, NumBag.stepOK, lowSem, Option.all_some, Option.all_none, Bool.and_eq_true, decide_eq_true_eq,
      Bool.true_and, Bool.and_true, ne_eq] at hok ⊢
  · have := scale_lt hu e v
    split <;> simp only [Option.all_some, Option.all_none, decide_eq_true_eq, and_true] <;> omega
  · have := scale_lt hu o v
    split <;> omega
  · have := scale_lt hu e v; have := scale_lt hu o v
    split <;> split <;> simp only [Option.all_some, Option.all_none, decide_eq_true_eq, and_true] <;> omega

theorem lowSem_gt (u : Int) (hu : 0 < u) (b : NumBag) (v q : Int) :
    lowSem u (b.step (.gt v)).min (b.step (.gt v)).exMin q = (lowSem u b.min b.exMin q && decide (u * v < q)) := by
  rw [Bool.eq_iff_iff]
  rcases b with ⟨_ | o, _ | e, _, _, _⟩ <;>
    simp only [NumBag.step, lowSem, Option.all_some, Option.all_none, Bool.and_eq_true, decide_eq_true_eq,
      Bool.true_and, Bool.and_true]
  · have := scale_lt hu e v
    split <;> omega
  · have := scale_lt hu o v
    split <;> simp only [Option.all_some, Option.all_none, decide_eq_true_eq, true_and] <;> omega
  · have := scale_lt hu e v; have := scale_lt hu o v
    split <;> split <;> simp only [Option.all_some, Option.all_none, decide_eq_true_eq, true_and] <;> omega

theorem highSem_lte (u : Int) (hu : 0 < u) (b : NumBag) (v q : Int) (hok : b.stepOK (.lte v) = true) :
    highSem u (b.step (.lte v)).max (b.step (.lte v)).exMax q = (highSem u b.max b.exMax q && decide (q ≤ u * v)) := by
  rw [Bool.eq_iff_iff]
  rcases b with ⟨_, _, _ | o, _ | e, _⟩ <;>
    simp only [NumBag.step, NumBag.stepOK, highSem, Option.all_some, Option.all_none, Bool.and_eq_true, decide_eq_true_eq,
      Bool.true_and, Bool.and_true, ne_eq] at hok ⊢
  · have := scale_lt hu e v
    split <;> simp only [Option.all_some, Option.all_none, decide_eq_true_eq, and_true] <;> omega
  · have := scale_lt hu o v
    split <;> omega
  · have := scale_lt hu e v; have := scale_lt hu o v
    split <;> split <;> simp only [Option.all_some, Option.all_none, decide_eq_true_eq, and_true] <;> omega

theorem highSem_lt (u : Int) (hu : 0 < u) (b : NumBag) (v q : Int) :
    highSem u (b.step (.lt v)).max (b.step (.lt v)).exMax q = (highSem u b.max b.exMax q && decide (q < u * v)) := by
  rw [Bool.eq_iff_iff]
  rcases b with ⟨_, _, _ | o, _ | e, _⟩ <;>
    simp only [NumBag.step, highSem, Option.all_some, Option.all_none, Bool.and_eq_true, decide_eq_true_eq,
      Bool.true_and, Bool.and_true]
  · have := scale_lt hu e v
    split <;> omega
  · have := scale_lt hu o v
    split <;> simp only [Option.all_some, Option.all_none, decide_eq_true_eq, true_and] <;> omega
  · have := scale_lt hu e v; have := scale_lt hu o v
    split <;> split <;> simp only [Option.all_some, Option.all_none, decide_eq_true_eq, true_and] <;> omega

theorem step_num (u : Int) (hu : 0 < u) (b : NumBag) (c : NumCk) (q : Int)
    (hok : b.stepOK c = true) : numSem u (b.step c) q = (numSem u b q && c.holds u q) := by
  simp only [numSem]
  cases c with
  | gte v => rw [lowSem_gte u hu b v q hok]; exact and_ins1 ..
  | gt v => rw [lowSem_gt u hu b v q]; exact and_ins1 ..
  | lte v => rw [highSem_lte u hu b v q hok]; exact and_ins2 ..
  | lt v => rw [highSem_lt u hu b v q]; exact and_ins2 ..
  | mul v =>
    simp only [NumBag.stepOK, Bool.and_eq_true, Option.isNone_iff_eq_none] at hok
    simp only [NumBag.step, hok.1, mulSem, NumCk.holds, Option.all_some, Option.all_none, Bool.and_true]

theorem fold_num (u : Int) (hu : 0 < u) (cs : List NumCk) (b : NumBag) (q : Int)
    (h : numFoldOK b cs = true) :
    numSem u (cs.foldl NumBag.step b) q = (numSem u b q && cs.all (fun c => c.holds u q)) := by
  induction cs generalizing b with
  | nil => simp
  | cons c cs ih =>
    simp only [numFoldOK, Bool.and_eq_true] at h
    simp only [List.foldl_cons, List.all_cons]
    rw [ih _ h.2, step_num u hu b c q h.1, Bool.and_assoc]

theorem numKws_valid (u : Int) (cks : List NumCk) (top : Bool) (d : Int × Int) (c : Ctx) (q : Int) :
    (numKws u cks top d).all (fun k => kwValid k c (.num q))
      = ((if top && !(numBag cks).hasBound then decide (d.1 ≤ q) && decide (q ≤ d.2) else true)
         && numSem u (numBag cks) q) := by
  simp only [numKws, numSem, lowSem, highSem, mulSem, List.all_append, all_optKw, kwValid, Bool.and_assoc]
  congr 1
  split <;> simp only [List.all_cons, List.all_nil, kwValid, Bool.and_true]

theorem p53 : (2:Int) ^ 53 = 9007199254740992 := by decide
theorem p63 : (2:Int) ^ 63 = 9223372036854775808 := by decide
theorem p64 : (2:Int) ^ 64 = 18446744073709551616 := by decide

/-- `type: integer` plus the emitted range defaults say what the Go kind's range check says, on instances whose quarter
    count is within ±2^53 (`instOK`; numbers are in quarters, Model/JsonSchema.lean, hence `q % 4 = 0` for "is an integer").  The converter
    writes the defaults only at the top and only without a user bound; `intKindOK` restricts the other cases to the
    kinds whose range no such instance leaves (`int`, `int64`). -/
theorem kind_range (top : Bool) (k : IntKind) (cks : List NumCk) (q : Int)
    (h1 : intKindOK top k cks = true) (hq : -(9007199254740992:Int) < q ∧ q < 9007199254740992) :
    (decide (q % 4 = 0) &&
      (if (top && !(numBag cks).hasBound) = true then decide (k.defaults.1 ≤ q) && decide (q ≤ k.defaults.2) else true))
      = k.holds q := by
  split
  · -- the sized kinds' defaults ARE their range; the 64-bit ones are rounded, beyond every instance in scope
    cases k with
    | int | i64 | uint | u64 =>
      rw [Bool.eq_iff_iff]
      simp only [IntKind.holds, Bool.and_eq_true, decide_eq_true_eq]
      simp only [IntKind.range, IntKind.defaults, p63, p64]
      omega
    | _ => exact (Bool.and_assoc ..).symm
  · rename_i hc
    cases k with
    | int | i64 =>
      rw [Bool.eq_iff_iff]
      simp only [IntKind.holds, IntKind.range, p63, Bool.and_eq_true, decide_eq_true_eq, and_true]
      omega
    | _ => exact absurd h1 hc

theorem int_case (top : Bool) (k : IntKind) (cks : List NumCk) (x : Json)
    (h1 : intKindOK top k cks = true) (h2 : numFoldOK {} cks = true) (hx : instOK x = true) :
    jsValid (.node (KwList.ofList (.type .integer :: numKws 4 cks top k.defaults))) x = accepts (.int k cks) x := by
  cases x with
  | num q =>
    have hq : -(9007199254740992:Int) < q ∧ q < 9007199254740992 := by
      simpa [instOK, p53] using hx
    rw [jsValid_node]
    simp only [List.all_cons, numKws_valid, kwValid, typeOk, accepts]
    rw [numBag, fold_num 4 (by decide) cks {} q h2]
    have h0 : numSem 4 {} q = true := by simp [numSem, lowSem, highSem, mulSem]
    rw [h0, Bool.true_and, ← Bool.and_assoc, ← numBag, kind_range top k cks q h1 hq]
  | _ => simp [jsValid_node, kwValid, typeOk, accepts]

set_option exponentiation.threshold 400 in
theorem fltDefault_big : (9007199254740992:Int) < fltDefault := by decide

theorem flt_case (top : Bool) (cks : List NumCk) (x : Json)
    (h2 : numFoldOK {} cks = true) (hx : instOK x = true) :
    jsValid (.node (KwList.ofList (.type .number :: numKws 1 cks top (-fltDefault, fltDefault)))) x
      = accepts (.flt cks) x := by
  cases x with
  | num q =>
    have hq : -(9007199254740992:Int) < q ∧ q < 9007199254740992 := by
      simpa [instOK, p53] using hx
    have hb := fltDefault_big
    rw [jsValid_node]
    simp only [List.all_cons, numKws_valid, kwValid, typeOk, accepts]
    rw [numBag, fold_num 1 (by decide) cks {} q h2]
    have h0 : numSem 1 {} q = true := by simp [numSem, lowSem, highSem, mulSem]
    rw [h0, Bool.true_and, Bool.true_and]
    have : (decide (-fltDefault ≤ q) && decide (q ≤ fltDefault)) = true := by
      simp; omega
    split <;> simp_all
  | _ => simp [jsValid_node, kwValid, typeOk, accepts]

theorem sz_min (n l : Nat) : SzCk.holds (.min n) l = decide (n ≤ l) := rfl
theorem sz_max (n l : Nat) : SzCk.holds (.max n) l = decide (l ≤ n) := rfl
theorem sz_len (n l : Nat) : SzCk.holds (.len n) l = (decide (n ≤ l) && decide (l ≤ n)) := by
  rw [Bool.eq_iff_iff]; simp [SzCk.holds]; omega

/-- the two size keywords (whatever their names) mean the size checks, when the Bag is faithful: `szSimple` admits at
    most one check, or `[min, max]` in either order — each check overwrites the Bag key of the one before, so a longer
    list is not what the Bag holds. -/
theorem szBag_sem (cks : List SzCk) (l : Nat) (h : szSimple cks = true) :
    ((match (szBag cks).minN with | some n => decide (n ≤ l) | none => true)
      && (match (szBag cks).maxN with | some n => decide (l ≤ n) | none => true)) = szOk cks l := by
  cases cks with
  | nil => simp [szBag, szOk]
  | cons c cs =>
    cases cs with
    | nil => cases c <;> simp [szBag, SzBag.step, szOk, sz_min, sz_max, sz_len]
    | cons d ds =>
      cases ds with
      | nil =>
        cases c <;> cases d <;> simp [szSimple] at h <;>
          simp [szBag, SzBag.step, szOk, sz_min, sz_max, Bool.and_comm]
      | cons e es => cases c <;> cases d <;> simp [szSimple] at h

theorem propsKws_valid (cks : List SzCk) (c : Ctx) (fs : JsonFields) (h : szSimple cks = true) :
    (propsKws (szBag cks)).all (fun k => kwValid k c (.obj fs)) = szOk cks fs.size := by
  rw [← szBag_sem cks fs.size h]
  generalize szBag cks = b
  obtain ⟨mn, mx⟩ := b
  cases mn <;> cases mx <;> simp [propsKws, optKw, kwValid]

theorem itemsKws_valid (cks : List SzCk) (c : Ctx) (xs : JsonList) (h : szSimple cks = true) :
    (itemsKws (szBag cks)).all (fun k => kwValid k c (.arr xs)) = szOk cks xs.length := by
  rw [← szBag_sem cks xs.length h]
  generalize szBag cks = b
  obtain ⟨mn, mx⟩ := b
  cases mn <;> cases mx <;> simp [itemsKws, optKw, kwValid]

end Gozod.C07
