/-
  C06 — the schema of a struct type is a function of its own tags: histories of FromStruct calls,
  white space of the tag text, order of the rules (`Tags.Rules`; legend: Proofs/C06.lean).
-/
import Gozod.Proofs.C06
import Gozod.Model.TagRules
import Gozod.Model.Tags

namespace Gozod.C06
open Gozod.TagParser Gozod.Tags.Rules

/-- History independence: in any two histories of FromStruct calls, two positions that hold the same tag hold the same
    schema.  By construction of the model (`history` is `List.map Code.accepts`: a call leaves no state behind); that the
    library's FromStruct behaves so is compared by the run, not proved here. -/
theorem c06_history_independent (h₁ h₂ : List Str) (i j : Nat) (t : Str)
    (e₁ : h₁[i]? = some t) (e₂ : h₂[j]? = some t) : (history h₁)[i]? = (history h₂)[j]? := by
  simp [history, List.getElem?_map, e₁, e₂]

theorem c06_history_prefix_stable (h more : List Str) (i : Nat) (hi : i < h.length) :
    (history (h ++ more))[i]? = (history h)[i]? := by
  unfold history
  rw [List.map_append, List.getElem?_append_left (by simpa using hi)]

/-- White space around the tag text never changes the schema (code and documented meaning). -/
theorem c06_tag_ws_verdict (w₁ w₂ t : Str) (h₁ : AllSpace w₁) (h₂ : AllSpace w₂) :
    Code.accepts (w₁ ++ t ++ w₂) = Code.accepts t ∧ Spec.accepts (w₁ ++ t ++ w₂) = Spec.accepts t := by
  have e : rulesOf (w₁ ++ t ++ w₂) = rulesOf t := by
    unfold rulesOf; rw [c06_parse_ws false w₁ w₂ t h₁ h₂]
  constructor <;> funext v <;> simp only [Code.accepts, Spec.accepts, e]

theorem c06_rules_perm (rs rs' : List Rule) (h : rs.Perm rs') (v : Str) :
    rs.all (holds · v) = rs'.all (holds · v) :=
  h.all_eq

/-- Order independence of the documented meaning in the matrix vocabulary (`Tags.Spec`): every permutation of the rule list. -/
theorem c06_accept_perm (rs rs' : List Gozod.Tags.TRule) (h : rs.Perm rs') (p : Gozod.Tags.Probe) :
    Gozod.Tags.Spec.accept rs p = Gozod.Tags.Spec.accept rs' p := by
  cases p <;> simp only [Gozod.Tags.Spec.accept, h.contains_eq, h.all_eq]

def hasParams (r : Rule) : Bool := match r.params with | some (_ :: _) => true | _ => false

theorem holds_noParams (r : Rule) (v : Str) (h : hasParams r = false) : holds r v = true := by
  unfold holds
  cases hp : r.params with
  | none => rfl
  | some ps => cases ps with
    | nil => rfl
    | cons p ps => simp [hasParams, hp] at h

theorem foldl_noEnum (rs : List Rule) (cs : List Rule) (h : ∀ r ∈ rs, Code.isEnum r = false) :
    rs.foldl Code.applyRule (.str cs) = .str (cs ++ rs.filter hasParams) := by
  induction rs generalizing cs with
  | nil => simp
  | cons r rs ih =>
    have hr := h r (by simp)
    have ih' := fun cs' => ih cs' (fun r' hr' => h r' (by simp [hr']))
    simp only [List.foldl_cons, Code.applyRule]
    cases hp : r.params with
    | none => simp [ih', hasParams, hp]
    | some ps => cases ps with
      | nil => simp [ih', hasParams, hp]
      | cons p ps => simp [ih', hasParams, hp, hr, List.append_assoc]

/-- Full statement (false: `enum` replaces the schema): the code's verdict is the documented one. -/
def c06_tag_meaning_full : Prop := ∀ tag v, Code.accepts tag v = Spec.accepts tag v

/-- Every rule of the tag is enforced (partial): on a string field whose tag has no `enum` rule the
    schema accepts exactly the values that satisfy every rule — any number of rules, any order. -/
theorem c06_tag_meaning_partial (tag v : Str) (h : ∀ r ∈ rulesOf tag, Code.isEnum r = false) :
    Code.accepts tag v = Spec.accepts tag v := by
  unfold Code.accepts Spec.accepts
  rw [foldl_noEnum _ _ h]
  simp only [List.nil_append, Code.Sch.accepts]
  induction rulesOf tag with
  | nil => rfl
  | cons r rs ih =>
    simp only [List.filter_cons, List.all_cons]
    cases hp : hasParams r with
    | true => simp [ih]
    | false => simp [ih, holds_noParams r v hp]

/-- witness: `min=5,enum=ab` accepts "ab" — the `enum` rule replaces the string schema and `min` is lost -/
theorem c06_tag_meaning_full_false : ¬ c06_tag_meaning_full := by
  intro h
  have := h (nm "min=5,enum=ab") (nm "ab")
  revert this
  decide +kernel

example : (∀ r ∈ rulesOf (nm "min=3,max=5"), Code.isEnum r = false) ∧ Code.accepts (nm "min=3,max=5") (nm "aaaa") = true := by decide +kernel
-- a sampled instance (a test): quoting changes the rules
example : Code.accepts (nm "enum=read write") (nm "read") = true ∧ Code.accepts (nm "enum='read write'") (nm "read") = false ∧
    Code.accepts (nm "enum='read write'") (nm "read write") = true := by decide +kernel

end Gozod.C06
