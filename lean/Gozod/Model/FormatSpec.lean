/-
  Gozod.Model.FormatSpec — the documented definition of each string format of C20, written
  independently of `pkg/regex` as a small step automaton (`Spec`, Model/Bisim.lean):
  a state, what one more byte does to it, and which states accept.

  Bytes: '0'..'9' = 48..57, 'A'..'F' = 65..70, 'a'..'f' = 97..102, '+' 43, '-' 45, '.' 46, '/' 47,
  ':' 58, '=' 61, 'T' 84, 'Z' 90, '_' 95.

  Core-only.
-/
import Gozod.Model.Bisim
namespace Gozod
namespace Fmt

def isDigit (c : Nat) : Bool := Nat.ble 48 c && Nat.ble c 57
def isUpperHex (c : Nat) : Bool := Nat.ble 65 c && Nat.ble c 70
def isLowerHex (c : Nat) : Bool := Nat.ble 97 c && Nat.ble c 102
def isHex (c : Nat) : Bool := isDigit c || isUpperHex c || isLowerHex c
def isUpper (c : Nat) : Bool := Nat.ble 65 c && Nat.ble c 90
def isLower (c : Nat) : Bool := Nat.ble 97 c && Nat.ble c 122

def digits : List Nat := [48, 49, 50, 51, 52, 53, 54, 55, 56, 57]
def hexDigits : List Nat := digits ++ [65, 66, 67, 68, 69, 70, 97, 98, 99, 100, 101, 102]
def uppers : List Nat := (List.range 26).map (· + 65)
def lowers : List Nat := (List.range 26).map (· + 97)

/-! ### IPv4: four decimal octets 0–255 without leading zeros, separated by '.'
    CIDRv4: an IPv4 address, '/', a prefix length 0–32 without leading zeros -/

structure DotSt where
  /-- separators seen ('.' three times, then '/') -/
  k : Nat
  /-- digits of the current number -/
  n : Nat
  /-- value of the current number -/
  v : Nat
  deriving DecidableEq, Repr

/-- one more digit `d` of a decimal number that must stay ≤ `max` and have no leading zero -/
def DotSt.digit (q : DotSt) (d max : Nat) : Option DotSt :=
  if q.n = 0 then some ⟨q.k, 1, d⟩
  else if q.v = 0 then none
  else if q.v * 10 + d ≤ max then some ⟨q.k, q.n + 1, q.v * 10 + d⟩
  else none

def ipv4Step (q : DotSt) (c : Nat) : Option DotSt :=
  if c = 46 then (if q.n ≥ 1 ∧ q.k < 3 then some ⟨q.k + 1, 0, 0⟩ else none)
  else q.digit (c - 48) 255

def DotSt.beq (a b : DotSt) : Bool := Nat.beq a.k b.k && Nat.beq a.n b.n && Nat.beq a.v b.v
theorem DotSt.beq_eq (a b : DotSt) (h : a.beq b = true) : a = b := by
  cases a; cases b; simp [DotSt.beq] at h; simp [h]

def DotSt.pp (q : DotSt) : String := s!"(Fmt.DotSt.mk {q.k} {q.n} {q.v})"

def ipv4 : Spec where
  State := DotSt
  beq := DotSt.beq
  beq_eq := DotSt.beq_eq
  init := ⟨0, 0, 0⟩
  support := 46 :: digits
  step := ipv4Step
  acc := fun q => q.k = 3 ∧ q.n ≥ 1
  code := fun q => (q.k * 4 + q.n) * 256 + q.v
  pp := DotSt.pp

def cidrv4Step (q : DotSt) (c : Nat) : Option DotSt :=
  if c = 46 then (if q.n ≥ 1 ∧ q.k < 3 then some ⟨q.k + 1, 0, 0⟩ else none)
  else if c = 47 then (if q.n ≥ 1 ∧ q.k = 3 then some ⟨4, 0, 0⟩ else none)
  else if q.k = 4 then q.digit (c - 48) 32
  else q.digit (c - 48) 255

def cidrv4 : Spec where
  State := DotSt
  beq := DotSt.beq
  beq_eq := DotSt.beq_eq
  init := ⟨0, 0, 0⟩
  support := 46 :: 47 :: digits
  step := cidrv4Step
  acc := fun q => q.k = 4 ∧ q.n ≥ 1
  code := fun q => (q.k * 4 + q.n) * 256 + q.v
  pp := DotSt.pp

/-! ### Hex: any number of hexadecimal digits (including none) -/

def hex : Spec where
  State := Unit
  beq := fun _ _ => true
  beq_eq := fun _ _ _ => rfl
  init := ()
  support := hexDigits
  step := fun _ _ => some ()
  acc := fun _ => true
  code := fun _ => 0
  pp := fun _ => "()"

/-! ### E.164: '+', a first digit 1–9, 7 to 15 digits in all -/

structure CountSt where
  /-- 0 = nothing read, 1 = '+' read, k+1 = k digits read -/
  n : Nat
  deriving DecidableEq, Repr

def CountSt.beq (a b : CountSt) : Bool := Nat.beq a.n b.n
theorem CountSt.beq_eq (a b : CountSt) (h : a.beq b = true) : a = b := by
  cases a; cases b; simp [CountSt.beq] at h; simp [h]

def e164Step (q : CountSt) (c : Nat) : Option CountSt :=
  if q.n = 0 then (if c = 43 then some ⟨1⟩ else none)
  else if c = 43 then none
  else if q.n = 1 then (if c = 48 then none else some ⟨2⟩)
  else if q.n < 16 then some ⟨q.n + 1⟩
  else none

def e164 : Spec where
  State := CountSt
  beq := CountSt.beq
  beq_eq := CountSt.beq_eq
  init := ⟨0⟩
  support := 43 :: digits
  step := e164Step
  acc := fun q => 8 ≤ q.n ∧ q.n ≤ 16
  code := fun q => q.n
  pp := fun q => s!"(Fmt.CountSt.mk {q.n})"

/-! ### MAC: six pairs of hex digits separated by the delimiter; letters all upper or all lower case -/

structure MacSt where
  /-- bytes read (0..17) -/
  pos : Nat
  /-- 0 = no letter yet, 1 = upper case, 2 = lower case -/
  cas : Nat
  deriving DecidableEq, Repr

def MacSt.beq (a b : MacSt) : Bool := Nat.beq a.pos b.pos && Nat.beq a.cas b.cas
theorem MacSt.beq_eq (a b : MacSt) (h : a.beq b = true) : a = b := by
  cases a; cases b; simp [MacSt.beq] at h; simp [h]

def macStep (delim : Nat) (q : MacSt) (c : Nat) : Option MacSt :=
  if q.pos ≥ 17 then none
  else if q.pos % 3 = 2 then (if c = delim then some ⟨q.pos + 1, q.cas⟩ else none)
  else if isDigit c then some ⟨q.pos + 1, q.cas⟩
  else if isUpperHex c then (if q.cas = 2 then none else some ⟨q.pos + 1, 1⟩)
  else if isLowerHex c then (if q.cas = 1 then none else some ⟨q.pos + 1, 2⟩)
  else none

def mac (delim : Nat) : Spec where
  State := MacSt
  beq := MacSt.beq
  beq_eq := MacSt.beq_eq
  init := ⟨0, 0⟩
  support := delim :: hexDigits
  step := macStep delim
  acc := fun q => q.pos = 17
  code := fun q => q.pos * 3 + q.cas
  pp := fun q => s!"(Fmt.MacSt.mk {q.pos} {q.cas})"

/-! ### Base64 (RFC 4648 §4): groups of four symbols; the last group may end in '=' or '=='.
    Base64URL (RFC 4648 §5): the URL-safe alphabet; padding may be omitted altogether. -/

structure B64St where
  /-- symbols (data or pad) in the current group of four -/
  n : Nat
  /-- pad characters seen -/
  p : Nat
  deriving DecidableEq, Repr

def B64St.beq (a b : B64St) : Bool := Nat.beq a.n b.n && Nat.beq a.p b.p
theorem B64St.beq_eq (a b : B64St) (h : a.beq b = true) : a = b := by
  cases a; cases b; simp [B64St.beq] at h; simp [h]

def b64Step (q : B64St) (c : Nat) : Option B64St :=
  if c = 61 then
    (if q.n = 2 ∧ q.p = 0 then some ⟨3, 1⟩
     else if q.n = 3 then some ⟨0, q.p + 1⟩
     else none)
  else if q.p = 0 then some ⟨(q.n + 1) % 4, 0⟩
  else none

def B64St.pp (q : B64St) : String := s!"(Fmt.B64St.mk {q.n} {q.p})"

def base64 : Spec where
  State := B64St
  beq := B64St.beq
  beq_eq := B64St.beq_eq
  init := ⟨0, 0⟩
  support := 61 :: 43 :: 47 :: (digits ++ uppers ++ lowers)
  step := b64Step
  acc := fun q => q.n = 0
  code := fun q => q.n * 4 + q.p
  pp := B64St.pp

def base64url : Spec where
  State := B64St
  beq := B64St.beq
  beq_eq := B64St.beq_eq
  init := ⟨0, 0⟩
  support := 61 :: 45 :: 95 :: (digits ++ uppers ++ lowers)
  step := b64Step
  acc := fun q => if q.p = 0 then q.n ≠ 1 else q.n = 0
  code := fun q => q.n * 4 + q.p
  pp := B64St.pp

/-! ### UUID: 8-4-4-4-12 hex digits; version nibble (first of group 3) and variant nibble
    (first of group 4, one of 8 9 a b); the generic format takes versions 1–8 and the nil UUID -/

structure UuidSt where
  pos : Nat
  /-- every hex digit so far is '0' -/
  zero : Bool
  /-- version and variant nibbles seen so far are the required ones -/
  ok : Bool
  deriving DecidableEq, Repr

def UuidSt.beq (a b : UuidSt) : Bool := Nat.beq a.pos b.pos && (a.zero == b.zero) && (a.ok == b.ok)
theorem UuidSt.beq_eq (a b : UuidSt) (h : a.beq b = true) : a = b := by
  cases a; cases b; simp [UuidSt.beq] at h; simp [h]

def isVariant (c : Nat) : Bool := c = 56 || c = 57 || c = 65 || c = 66 || c = 97 || c = 98

/-- `ver = none`: any version 1–8, or the nil UUID; `ver = some v`: exactly version `v` -/
def uuidStep (ver : Option Nat) (q : UuidSt) (c : Nat) : Option UuidSt :=
  if q.pos ≥ 36 then none
  else if q.pos = 8 ∨ q.pos = 13 ∨ q.pos = 18 ∨ q.pos = 23 then
    (if c = 45 then some ⟨q.pos + 1, q.zero, q.ok⟩ else none)
  else if c = 45 then none
  else
    let verOk : Bool := match ver with
      | none => Nat.ble 49 c && Nat.ble c 56
      | some v => c = 48 + v
    let ok := q.ok && (q.pos != 14 || verOk) && (q.pos != 19 || isVariant c)
    some ⟨q.pos + 1, q.zero && c = 48, ok⟩

def uuid (ver : Option Nat) : Spec where
  State := UuidSt
  beq := UuidSt.beq
  beq_eq := UuidSt.beq_eq
  init := ⟨0, true, true⟩
  support := 45 :: hexDigits
  step := uuidStep ver
  acc := fun q => q.pos = 36 && (q.ok || (ver.isNone && q.zero))
  code := fun q => q.pos * 4 + (if q.zero then 2 else 0) + (if q.ok then 1 else 0)
  pp := fun q => s!"(Fmt.UuidSt.mk {q.pos} {q.zero} {q.ok})"

/-- GUID: the 8-4-4-4-12 layout alone -/
def guid : Spec where
  State := CountSt
  beq := CountSt.beq
  beq_eq := CountSt.beq_eq
  init := ⟨0⟩
  support := 45 :: hexDigits
  step := fun q c =>
    if q.n ≥ 36 then none
    else if q.n = 8 ∨ q.n = 13 ∨ q.n = 18 ∨ q.n = 23 then (if c = 45 then some ⟨q.n + 1⟩ else none)
    else if c = 45 then none else some ⟨q.n + 1⟩
  acc := fun q => q.n = 36
  code := fun q => q.n
  pp := fun q => s!"(Fmt.CountSt.mk {q.n})"

/-! ### ISO 8601 calendar date YYYY-MM-DD (proleptic Gregorian; year 0000–9999)
    and RFC 3339 date-time  date 'T' hh ':' mm ':' ss ['.' digits] ('Z' | ('+'|'-') hh ':' mm) -/

def isLeap (y : Nat) : Bool := y % 4 = 0 && (y % 100 != 0 || y % 400 = 0)

def daysIn (leap : Bool) (m : Nat) : Nat :=
  if m = 2 then (if leap then 29 else 28)
  else if m = 4 ∨ m = 6 ∨ m = 9 ∨ m = 11 then 30
  else 31

/-- the arithmetic meaning of a date -/
def validDate (y m d : Nat) : Bool := 1 ≤ m && m ≤ 12 && 1 ≤ d && d ≤ daysIn (isLeap y) m

structure DateSt where
  /-- bytes read -/
  pos : Nat
  /-- year read so far (positions 0–4); afterwards 1 if it is a leap year, else 0 -/
  y : Nat
  m : Nat
  d : Nat
  /-- time part: number just being read -/
  t : Nat
  deriving DecidableEq, Repr

def DateSt.beq (a b : DateSt) : Bool :=
  Nat.beq a.pos b.pos && Nat.beq a.y b.y && Nat.beq a.m b.m && Nat.beq a.d b.d && Nat.beq a.t b.t
theorem DateSt.beq_eq (a b : DateSt) (h : a.beq b = true) : a = b := by
  cases a; cases b; simp [DateSt.beq] at h; simp [h]

def DateSt.pp (q : DateSt) : String := s!"(Fmt.DateSt.mk {q.pos} {q.y} {q.m} {q.d} {q.t})"
def DateSt.code (q : DateSt) : Nat := (((q.pos * 10000 + q.y) * 16 + q.m) * 32 + q.d) * 64 + q.t

/-- positions 0..9 of a date; `ymod` bounds the year accumulator (10000 = keep it all) -/
def dateStep (ymod : Nat) (q : DateSt) (c : Nat) : Option DateSt :=
  let d := c - 48
  if q.pos < 4 then (if isDigit c then some { q with pos := q.pos + 1, y := (q.y * 10 + d) % ymod } else none)
  else if q.pos = 4 then (if c = 45 then some { q with pos := 5, y := if isLeap q.y then 1 else 0 } else none)
  else if q.pos = 5 then (if isDigit c then some { q with pos := 6, m := d } else none)
  else if q.pos = 6 then
    (if isDigit c ∧ 1 ≤ q.m * 10 + d ∧ q.m * 10 + d ≤ 12 then some { q with pos := 7, m := q.m * 10 + d } else none)
  else if q.pos = 7 then (if c = 45 then some { q with pos := 8 } else none)
  else if q.pos = 8 then (if isDigit c then some { q with pos := 9, d := d } else none)
  else if q.pos = 9 then
    (if isDigit c ∧ 1 ≤ q.d * 10 + d ∧ q.d * 10 + d ≤ daysIn (q.y = 1) q.m then some ⟨10, 0, 0, 0, 0⟩ else none)
  else none

/-- the readable definition: the year is read in full -/
def isoDate : Spec where
  State := DateSt
  beq := DateSt.beq
  beq_eq := DateSt.beq_eq
  init := ⟨0, 0, 0, 0, 0⟩
  support := 45 :: digits
  step := dateStep 10000
  acc := fun q => q.pos = 10
  code := DateSt.code
  pp := DateSt.pp

/-- the same automaton with the year kept modulo 400 (leap years repeat every 400 years);
    `C20.isoDate_quot` proves it accepts the same strings.  The certificate search (Drv/C20.lean) explores against this one:
    its product with a pattern is finite. -/
def isoDateQ : Spec := { isoDate with step := dateStep 400 }

/-- Time part.  Positions after the date (pos ≥ 10):
    10 'T' | 11,12 hh | 13 ':' | 14,15 mm | 16 ':' (or, if `optSec`, the zone) | 17,18 ss |
    19 '.' or zone | 20 first fraction digit | 21 more fraction digits or zone |
    22,23 offset hh | 24 ':' | 25,26 offset mm | 27 end -/
def timeStep (optSec : Bool) (q : DateSt) (c : Nat) : Option DateSt :=
  let d := c - 48
  let two (max : Nat) : Option DateSt :=   -- second digit of a two-digit field ≤ max
    if isDigit c ∧ q.t * 10 + d ≤ max then some { q with pos := q.pos + 1, t := 0 } else none
  let one : Option DateSt := if isDigit c then some { q with pos := q.pos + 1, t := d } else none
  let zone : Option DateSt :=
    if c = 90 then some { q with pos := 27, t := 0 }
    else if c = 43 ∨ c = 45 then some { q with pos := 22, t := 0 }
    else none
  if q.pos = 10 then (if c = 84 then some { q with pos := 11 } else none)
  else if q.pos = 11 then one
  else if q.pos = 12 then two 23
  else if q.pos = 13 then (if c = 58 then some { q with pos := 14 } else none)
  else if q.pos = 14 then one
  else if q.pos = 15 then two 59
  else if q.pos = 16 then
    (if c = 58 then some { q with pos := 17 }
     else if optSec then zone.map (fun q' => { q' with y := 1 })   -- y = 1 from here on: the seconds were omitted
     else none)
  else if q.pos = 17 then one
  else if q.pos = 18 then two 59
  else if q.pos = 19 then (if c = 46 then some { q with pos := 20 } else zone)
  else if q.pos = 20 then (if isDigit c then some { q with pos := 21 } else none)
  else if q.pos = 21 then (if isDigit c then some q else zone)
  else if q.pos = 22 then one
  else if q.pos = 23 then two 23
  else if q.pos = 24 then (if c = 58 then some { q with pos := 25 } else none)
  else if q.pos = 25 then one
  else if q.pos = 26 then (if isDigit c ∧ q.t * 10 + d ≤ 59 then some { q with pos := 27, t := 0 } else none)
  else none

def dateTimeStep (ymod : Nat) (optSec : Bool) (q : DateSt) (c : Nat) : Option DateSt :=
  if q.pos < 10 then dateStep ymod q c else timeStep optSec q c

/-- RFC 3339 date-time (`optSec = false`); `optSec = true` also takes hh:mm without seconds -/
def isoDateTime (optSec : Bool) : Spec where
  State := DateSt
  beq := DateSt.beq
  beq_eq := DateSt.beq_eq
  init := ⟨0, 0, 0, 0, 0⟩
  support := 43 :: 45 :: 46 :: 58 :: 84 :: 90 :: digits
  step := dateTimeStep 10000 optSec
  acc := fun q => q.pos = 27
  code := DateSt.code
  pp := DateSt.pp

def isoDateTimeQ (optSec : Bool) : Spec := { isoDateTime optSec with step := dateTimeStep 400 optSec }

/-! ### option-taking constructors: IsoDateTime(IsoDatetimeOptions{Precision, Offset, Local}), IsoTime(IsoTimeOptions{Precision})

  Precision nil  = seconds optional, any number (≥ 1) of fraction digits optional   (`Prec.any`)
  Precision -1   = hh:mm only                                                       (`Prec.minute`)
  Precision 0    = hh:mm:ss, no fraction                                            (`Prec.digits 0`)
  Precision n>0  = hh:mm:ss '.' exactly n digits                                    (`Prec.digits n`)
  Offset: a numeric offset ±hh:mm may stand for the zone; Local: the zone may be omitted. -/

inductive Prec where
  | any | minute | digits (n : Nat)

def Prec.secondsAllowed : Prec → Bool
  | .minute => false
  | _ => true

def Prec.fractionAllowed : Prec → Bool
  | .any => true
  | .digits (_ + 1) => true
  | _ => false

/-- how many fraction digits are counted (0 = not counted) -/
def Prec.exact : Prec → Nat
  | .digits n => n
  | _ => 0

structure TOpt where
  prec : Prec
  /-- 0 = no zone (time of day only), 1 = zone required, 2 = zone optional (Local) -/
  zone : Nat
  offset : Bool

/-- the time of day is complete in state `q` (positions as in `timeStep`; `q.d` counts fraction digits) -/
def timeDone (o : TOpt) (q : DateSt) : Bool :=
  match o.prec with
  | .any => q.pos = 16 || q.pos = 19 || q.pos = 21
  | .minute => q.pos = 16
  | .digits 0 => q.pos = 19
  | .digits (n + 1) => q.pos = 21 && q.d = n + 1

def timeStepO (o : TOpt) (q : DateSt) (c : Nat) : Option DateSt :=
  let d := c - 48
  let two (max : Nat) : Option DateSt :=
    if isDigit c ∧ q.t * 10 + d ≤ max then some { q with pos := q.pos + 1, t := 0 } else none
  let one : Option DateSt := if isDigit c then some { q with pos := q.pos + 1, t := d } else none
  let zone : Option DateSt :=   -- after a complete time of day
    if !timeDone o q ∨ o.zone = 0 then none
    else if c = 90 then some ⟨27, 0, 0, 0, 0⟩
    else if (c = 43 ∨ c = 45) ∧ o.offset then some ⟨22, 0, 0, 0, 0⟩
    else none
  if q.pos = 11 then one
  else if q.pos = 12 then two 23
  else if q.pos = 13 then (if c = 58 then some { q with pos := 14 } else none)
  else if q.pos = 14 then one
  else if q.pos = 15 then two 59
  else if q.pos = 16 then (if c = 58 then (if o.prec.secondsAllowed then some { q with pos := 17 } else none) else zone)
  else if q.pos = 17 then one
  else if q.pos = 18 then two 59
  else if q.pos = 19 then (if c = 46 then (if o.prec.fractionAllowed then some { q with pos := 20 } else none) else zone)
  else if q.pos = 20 then (if isDigit c then some { q with pos := 21, d := if o.prec.exact = 0 then 0 else 1 } else none)
  else if q.pos = 21 then
    (if isDigit c then (if o.prec.exact = 0 then some q else if q.d < o.prec.exact then some { q with d := q.d + 1 } else none)
     else zone)
  else if q.pos = 22 then one
  else if q.pos = 23 then two 23
  else if q.pos = 24 then (if c = 58 then some { q with pos := 25 } else none)
  else if q.pos = 25 then one
  else if q.pos = 26 then (if isDigit c ∧ q.t * 10 + d ≤ 59 then some ⟨27, 0, 0, 0, 0⟩ else none)
  else none

def timeAccO (o : TOpt) (q : DateSt) : Bool := q.pos = 27 || (timeDone o q && o.zone != 1)

/-- IsoTime(IsoTimeOptions{Precision}) : a time of day, no zone -/
def isoTimeOpt (p : Prec) : Spec where
  State := DateSt
  beq := DateSt.beq
  beq_eq := DateSt.beq_eq
  init := ⟨11, 0, 0, 0, 0⟩
  support := 46 :: 58 :: digits
  step := timeStepO ⟨p, 0, false⟩
  acc := timeAccO ⟨p, 0, false⟩
  code := DateSt.code
  pp := DateSt.pp

/-- IsoDateTime(IsoDatetimeOptions{Precision, Offset, Local}) -/
def isoDateTimeOpt (p : Prec) (offset loc : Bool) : Spec :=
  let o : TOpt := ⟨p, if loc then 2 else 1, offset⟩
  { State := DateSt
    beq := DateSt.beq
    beq_eq := DateSt.beq_eq
    init := ⟨0, 0, 0, 0, 0⟩
    support := 43 :: 45 :: 46 :: 58 :: 84 :: 90 :: digits
    step := fun q c =>
      if q.pos < 10 then dateStep 10000 q c
      else if q.pos = 10 then (if c = 84 then some { q with pos := 11 } else none)
      else timeStepO o q c
    acc := timeAccO o
    code := DateSt.code
    pp := DateSt.pp }

/-! ### excluded regions of the `_partial` theorems (Proofs/C20.lean, Proofs/C20DateTimeOpt.lean) -/

/-- strings the exported Base64URL pattern takes although they break the RFC 4648 length rule:
    alphabet symbols, then at most two '=', with a length that no encoder produces -/
def base64urlBadLen : Spec where
  State := B64St
  beq := B64St.beq
  beq_eq := B64St.beq_eq
  init := ⟨0, 0⟩
  support := base64url.support
  step := fun q c =>
    if c = 61 then (if q.p < 2 then some ⟨q.n, q.p + 1⟩ else none)
    else if q.p = 0 then some ⟨(q.n + 1) % 4, 0⟩ else none
  acc := fun q => if q.p = 0 then q.n = 1 else (q.n + q.p) % 4 ≠ 0
  code := fun q => q.n * 4 + q.p
  pp := B64St.pp

/-- date-times written without the seconds field (`hh:mm` then the zone) -/
def isoDateTimeNoSecQ : Spec := { isoDateTimeQ true with acc := fun q => q.pos = 27 && q.y = 1 }

end Fmt
end Gozod
