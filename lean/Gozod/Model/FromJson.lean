/-
  C11 — FromJSONSchema.
  * `fromJS`: a transcription of /repo/jsonschema/from.go over the keyword AST `JS` of
    Model/JsonSchema (documents are judged by its `jsValid`).
  * `J1`: the structured fragment of documents (canonical keyword order) on which the produced
    schema is proved equivalent to the document; `J1.doc` embeds it into `JS`, `fromJ1` is the
    schema FromJSONSchema produces for it.
  * instances reach the produced schema through plain `encoding/json` decoding: every number
    is a float64, so an `Int()` schema rejects every instance (`plainify`).
-/
import Gozod.Model.JsonSchema
namespace Gozod.Jsc

def optL {α β : Type} (o : Option α) (f : α → β) : List β := match o with | some a => [f a] | none => []

/-- keywords of the strict-mode table: (keyword, documented as supported, rejected in strict mode) -/
structure KwRow where
  kw : String
  documented : Bool
  strictRejects : Bool
  deriving Repr, DecidableEq

/-! ## the general converter: `fromJS`, a transcription of jsonschema/from.go over the keyword AST -/

inductive E
  | panic                      -- the conversion panics (Literal(nil))
  | unsupported (kw : Str)     -- strict mode: unsupported keyword
  deriving Repr, DecidableEq

abbrev R := Except E S

/-- which library fixes the modelled tree carries — one flag per `pending/C11-<slug>.diff` (false = the code of /repo
    792c820, true = the code with that patch).  Every definition and theorem below is stated for an arbitrary `Fx`; the
    driver runs `cur`.  When a patch lands in /repo its flag flips in `cur` (that one line is the patch's `.lean.diff`). -/
structure Fx where
  nullUnion : Bool := false     -- C11-nullable-union: a Union / Xor with a null-admitting member is made Nilable
  nullAnd : Bool := false       -- C11-nullable-intersection: an Intersection whose members all admit null is made Nilable
  fmtSib : Bool := false        -- C11-format-siblings: minLength / maxLength / pattern next to a known format are kept
  openObj : Bool := false       -- C11-open-object: an object without additionalProperties:false is passthrough
  reqAddl : Bool := false       -- C11-required-additional: required names outside properties are judged by additionalProperties
  intBounds : Bool := false     -- C11-integer-bounds: fractional bounds of an integer schema are rounded inwards
  tupOpen : Bool := false       -- C11-tuple-open: prefixItems without items leaves the tail unconstrained
  strictProp : Bool := false    -- C11-strict-property-error (/repo 1871965): StrictMode returns the error of a property / additionalProperties conversion
  deriving DecidableEq, Repr

/-- /repo 792c820. -/
def Fx.legacy : Fx := {}
/-- every pending patch applied. -/
def Fx.all : Fx := ⟨true, true, true, true, true, true, true, true⟩

/-- the tree `./check C11` runs against: /repo HEAD (the seven round-4b patches landed as 8dd0167, 5c46085, cafc472,
    5ed05fc, 611f7ab, 654995f, 18be159; `strictProp` as 1871965).  PINNED by hand, never probed: the driver runs this
    value only, and the property-level theorems of Proofs/C11.lean are stated for it. -/
def cur : Fx :=
  { nullUnion := true
    nullAnd := true
    fmtSib := true
    openObj := true
    reqAddl := true
    intBounds := true
    tupOpen := true
    strictProp := true }

/-- what `convert` reads off one schema object; sub-schemas are kept as conversion RESULTS so
    that an error in a sibling the dispatch ignores is ignored as well. -/
structure Parts where
  ref : Option R := none
  others : List Str := []
  allOf : Option (List R) := none
  anyOf : Option (List R) := none
  oneOf : Option (List R) := none
  const : Option Prim := none
  enum : Option (List Prim) := none
  types : List TypeName := []
  format : Option (Str × List Str) := none
  minLength : Option Nat := none
  maxLength : Option Nat := none
  pattern : Option Pat := none
  minimum : Option Int := none
  maximum : Option Int := none
  exMin : Option Int := none
  exMax : Option Int := none
  mul : Option Int := none
  items : Option R := none
  prefixItems : Option (List R) := none
  minItems : Option Nat := none
  maxItems : Option Nat := none
  properties : Option (List (Str × R)) := none
  required : List Str := []
  addl : Option (Option Bool × R) := none      -- (boolean-schema value if boolean, conversion result)

def slistOf : List S → SList
  | [] => .nil
  | s :: ss => .cons s (slistOf ss)

def shapeOf : List (Str × S) → Shape
  | [] => .nil
  | (k, s) :: r => .cons k s (shapeOf r)

/-- `convertSchemaList`: the first error wins. -/
def seqR : List R → Except E (List S)
  | [] => .ok []
  | r :: rs => match r with
      | .error e => .error e
      | .ok s => match seqR rs with
          | .error e => .error e
          | .ok ss => .ok (s :: ss)

def patCk : Pat → StrCk
  | .pre s => .sw s
  | .suf s => .ew s
  | .has s => .inc s
  | .noUp => .lower
  | .noLow => .upper
  | .rx r => .re r

/-- `constrainedString` (the tail of `convertString` before C11-format-siblings). -/
def strCks (p : Parts) : List StrCk := optL p.minLength .min ++ optL p.maxLength .max ++ optL p.pattern patCk

def convString (fx : Fx) (p : Parts) : S :=
  match p.format with
  | some (name, good) =>
      if knownFormats.contains name then
        -- dedicated schema; legacy: minLength/maxLength/pattern ignored; fixed: Intersection(format, constrained string)
        if fx.fmtSib && !(strCks p).isEmpty then .and (.enum good) (.str (strCks p)) else .enum good
      else .str (strCks p)
  | none => .str (strCks p)

def convNumber (p : Parts) : S :=
  .flt (optL p.minimum .gte ++ optL p.maximum .lte ++ optL p.exMin .gt ++ optL p.exMax .lt ++ optL p.mul .mul)

/-- `int64(val)` of a bound given in quarters: truncation toward zero. -/
def truncQ (q : Int) : Int := Int.tdiv q 4

/-- `MultipleOf(m)` on an Int schema.  A divisor truncated to 0 (`multipleOf: 0.5`) gives `MultipleOf(0)`, which holds for
    NO value (validate.MultipleOf: a zero divisor divides nothing, 0 included; the round-trip document's `multipleOf: 0`
    validates nothing either).  `NumCk.holds (.mul 0)` of Model/JsonSchema would accept 0, so that check is written as the
    unsatisfiable pair of bounds. -/
def mulCk (m : Int) : List NumCk := if m = 0 then [.gt 0, .lt 0] else [.mul m]

/-- `int64(math.Floor(val))` / `int64(math.Ceil(val))` of a bound given in quarters. -/
def floorQ (q : Int) : Int := Int.fdiv q 4
def ceilQ (q : Int) : Int := -(Int.fdiv (-q) 4)
/-- `s.MultipleOf.Num()`: the numerator of q/4 in lowest terms. -/
def numQ (q : Int) : Int := q / (Int.gcd q 4 : Int)

def convInteger (fx : Fx) (p : Parts) : S :=
  if fx.intBounds then
    .int .int (optL p.minimum (fun q => .gte (ceilQ q)) ++ optL p.maximum (fun q => .lte (floorQ q))
      ++ optL p.exMin (fun q => .gt (floorQ q)) ++ optL p.exMax (fun q => .lt (ceilQ q))
      ++ (match p.mul with | some q => mulCk (numQ q) | none => []))
  else
  .int .int (optL p.minimum (fun q => .gte (truncQ q)) ++ optL p.maximum (fun q => .lte (truncQ q))
    ++ optL p.exMin (fun q => .gt (truncQ q)) ++ optL p.exMax (fun q => .lt (truncQ q))
    ++ (match p.mul with | some q => mulCk (truncQ q) | none => []))

/-- `convertTuple` without `items`: legacy — no rest element; C11-tuple-open — `Unknown()` unless `maxItems` closes
    the tuple at the prefix. -/
def tupRest (fx : Fx) (maxItems : Option Nat) (n : Nat) : SOpt :=
  if fx.tupOpen then (match maxItems with
    | none => .some .any
    | some m => if n < m then .some .any else .none)
  else .none

def convArray (fx : Fx) (p : Parts) : R :=
  match p.prefixItems with
  | some (r :: rs) =>                    -- convertTuple: minItems is not read (maxItems only to decide the rest element)
      match seqR (r :: rs) with
      | .error e => .error e
      | .ok items =>
          match p.items with
          | some (.error e) => .error e
          | some (.ok rest) => .ok (.tup (.some rest) [] (slistOf items))
          | none => .ok (.tup (tupRest fx p.maxItems items.length) [] (slistOf items))
  | _ =>
      match (match p.items with | some r => r | none => .ok .any) with
      | .error e => .error e
      | .ok it => .ok (.slice it (optL p.minItems .min ++ optL p.maxItems .max))

/-- `makeOptional` (after pending fix C11-object-properties): every schema type is wrapped
    through its `Optional()` method. -/
def makeOptional (s : S) : S := .opt s

/-- properties whose conversion returns an error are skipped (`continue`); a panic is not an error.
    `se` = "strict errors": C11-strict-property-error applied AND StrictMode — then the error is returned. -/
def convProps (se : Bool) (req : List Str) : List (Str × R) → Except E (List (Str × S))
  | [] => .ok []
  | (k, .ok s) :: r =>
      match convProps se req r with
      | .ok rest => .ok ((k, if req.contains k then s else makeOptional s) :: rest)
      | .error e => .error e
  | (_, .error .panic) :: _ => .error .panic
  | (_, .error (.unsupported kw)) :: r => if se then .error (.unsupported kw) else convProps se req r

/-- required names without a (converted) property get an entry `v` (legacy: `Unknown()`). -/
def addRequired (v : S) (req : List Str) (fields : List (Str × S)) : List (Str × S) :=
  fields ++ ((req.filter (fun k => !(fields.map (·.1)).contains k)).eraseDups.map (fun k => (k, v)))

/-- `additionalValue` (C11-required-additional): the schema of a value whose key is not listed in `properties` —
    the converted `additionalProperties`, `Unknown()` when absent or not convertible.  Legacy: always `Unknown()`. -/
def addlValue (fx : Fx) (p : Parts) : S :=
  if fx.reqAddl then (match p.addl with | some (_, .ok c) => c | _ => .any) else .any

/-- the mode of an object that `additionalProperties` does not close: legacy strip, C11-open-object passthrough. -/
def openMode (fx : Fx) : Mode := if fx.openObj then .loose else .strip

/-- the object path of `convertObject` once the properties are converted. -/
def objOf (fx : Fx) (se : Bool) (p : Parts) (fields : List (Str × S)) : R :=
  let shape := shapeOf (addRequired (addlValue fx p) p.required fields)
  match p.addl with
  | some (some false, _) => .ok (.obj .strict .none false [] shape)
  | some (none, .ok c) => .ok (.obj .loose (.some c) false [] shape)     -- Passthrough().WithCatchall(c)
  | some (none, .error .panic) => .error .panic
  | some (none, .error (.unsupported kw)) =>                               -- `if err == nil { … }`: the catch-all is dropped
      if se then .error (.unsupported kw) else .ok (.obj (openMode fx) .none false [] shape)
  | _ => .ok (.obj (openMode fx) .none false [] shape)

def convObject (fx : Fx) (se : Bool) (p : Parts) : R :=
  match p.properties with
  | some (kv :: kvs) =>
      match convProps se p.required (kv :: kvs) with
      | .error e => .error e
      | .ok fields => objOf fx se p fields
  | _ =>
      match p.addl with
      | some (_, r) =>
          if fx.reqAddl && !p.required.isEmpty then objOf fx se p []      -- a Record cannot require keys
          else (match r with
            | .error e => .error e
            | .ok v => .ok (.record (.str []) v []))      -- legacy: `required` is not read on this path
      | none => .ok (.obj (openMode fx) .none false [] (shapeOf (addRequired .any p.required [])))

def convOneType (fx : Fx) (se : Bool) (p : Parts) : TypeName → R
  | .string => .ok (convString fx p)
  | .number => .ok (convNumber p)
  | .integer => .ok (convInteger fx p)
  | .boolean => .ok .bool
  | .null => .ok .nil
  | .array => convArray fx p
  | .object => convObject fx se p

/-- `admitsNil`: `schema.ParseAny(nil)` succeeds. -/
def admitsNil (s : S) : Bool := accepts s .null

def nilIf (b : Bool) (s : S) : S := if b then .nul s else s

/-- `unionOf` (C11-nullable-union): a Union decides a nil input before its members are asked, so it is made Nilable
    when a member admits null.  Legacy: the bare Union. -/
def unionOf (fx : Fx) (ss : List S) : S := nilIf (fx.nullUnion && ss.any admitsNil) (.union (slistOf ss))

/-- `convertOneOf`'s result: Nilable when exactly one member admits null. -/
def xorOf (fx : Fx) (ss : List S) : S := nilIf (fx.nullUnion && (ss.countP admitsNil == 1)) (.xor (slistOf ss))

/-- `convertAllOf`'s result (C11-nullable-intersection): Nilable when every member admits null. -/
def andOf (fx : Fx) (a : S) (rest : List S) (chain : S) : S := nilIf (fx.nullAnd && (a :: rest).all admitsNil) chain

def typeOrder : List TypeName := [.string, .number, .integer, .boolean, .null, .array, .object]

def convByType (fx : Fx) (se : Bool) (p : Parts) : R :=
  match p.types with
  | [] => .ok .any
  | [t] => convOneType fx se p t
  | ts =>
      match seqR ((typeOrder.filter (fun t => ts.contains t)).map (convOneType fx se p)) with
      | .error e => .error e
      | .ok [] => .ok .any
      | .ok [s] => .ok s
      | .ok ss => .ok (unionOf fx ss)

def chainAnd : S → List S → S
  | a, [] => a
  | a, b :: rest => chainAnd (.and a b) rest

/-- `literalSchema` (after pending fix C11-literal-null): JSON null is the Nil schema. -/
def litOf (v : Prim) : R := match v with | .null => .ok .nil | v => .ok (.lit [v])

def allStrs : List Prim → Option (List Str)
  | [] => some []
  | .str s :: r => (allStrs r).map (s :: ·)
  | _ => none

/-- `convert` after the sub-schemas have been converted.  `rejects` = the strict-mode table. -/
def assemble (fx : Fx) (rejects : Str → Bool) (strict : Bool) (p : Parts) : R :=
  match p.ref with
  | some r => r                                   -- `$ref` first: siblings are not looked at
  | none =>
  match (if strict then p.others.find? rejects else none) with
  | some kw => .error (.unsupported kw)
  | none =>
  match p.allOf, p.anyOf, p.oneOf with
  | some (r :: rs), _, _ =>
      match seqR (r :: rs) with
      | .error e => .error e
      | .ok [] => .ok .any
      | .ok (a :: rest) => .ok (andOf fx a rest (chainAnd a rest))
  | _, some (r :: rs), _ =>
      match seqR (r :: rs) with
      | .error e => .error e
      | .ok [] => .ok .any
      | .ok [a] => .ok a
      | .ok ss => .ok (unionOf fx ss)
  | _, _, some (r :: rs) =>
      match seqR (r :: rs) with
      | .error e => .error e
      | .ok [] => .ok .any
      | .ok [a] => .ok a
      | .ok ss => .ok (xorOf fx ss)
  | _, _, _ =>
  match p.const with
  | some v => litOf v
  | none =>
  match p.enum with
  | some (v :: vs) =>
      match allStrs (v :: vs) with
      | some strs => .ok (.enum strs)
      | none =>
          match seqR ((v :: vs).map litOf) with
          | .error e => .error e
          | .ok ss => .ok (unionOf fx ss)
  | _ => convByType fx (fx.strictProp && strict) p

/-- the value of a boolean schema. -/
def boolOf : JS → Option Bool
  | .bool b => some b
  | _ => none

mutual
def fromJS (fx : Fx) (rejects : Str → Bool) (strict : Bool) : JS → R
  | .bool true => .ok .any
  | .bool false => .ok .never
  | .node kws => assemble fx rejects strict (collect fx rejects strict kws {})

def collect (fx : Fx) (rejects : Str → Bool) (strict : Bool) : KwList → Parts → Parts
  | .nil, p => p
  | .cons k ks, p => collect fx rejects strict ks (addKw fx rejects strict k p)

def addKw (fx : Fx) (rejects : Str → Bool) (strict : Bool) : Kw → Parts → Parts
  | .type t, p => { p with types := [t] }
  | .types ts, p => { p with types := ts }
  | .minLength n, p => { p with minLength := some n }
  | .maxLength n, p => { p with maxLength := some n }
  | .pattern q, p => { p with pattern := some q }
  | .minimum q, p => { p with minimum := some q }
  | .maximum q, p => { p with maximum := some q }
  | .exclusiveMinimum q, p => { p with exMin := some q }
  | .exclusiveMaximum q, p => { p with exMax := some q }
  | .multipleOf q, p => { p with mul := some q }
  | .enum vs, p => { p with enum := some vs }
  | .const v, p => { p with const := some v }
  | .items j, p => { p with items := some (fromJS fx rejects strict j) }
  | .prefixItems js, p => { p with prefixItems := some (fromList fx rejects strict js) }
  | .minItems n, p => { p with minItems := some n }
  | .maxItems n, p => { p with maxItems := some n }
  | .properties ps, p => { p with properties := some (fromProps fx rejects strict ps) }
  | .required ks, p => { p with required := ks }
  | .additionalProperties j, p =>
      { p with addl := some (boolOf j, fromJS fx rejects strict j) }
  | .propertyNames _, p => { p with others := p.others ++ ["propertyNames".toList.map Char.toNat] }
  | .minProperties _, p => { p with others := p.others ++ ["minProperties".toList.map Char.toNat] }
  | .maxProperties _, p => { p with others := p.others ++ ["maxProperties".toList.map Char.toNat] }
  | .anyOf js, p => { p with anyOf := some (fromList fx rejects strict js) }
  | .oneOf js, p => { p with oneOf := some (fromList fx rejects strict js) }
  | .allOf js, p => { p with allOf := some (fromList fx rejects strict js) }
  | .not _, p => { p with others := p.others ++ ["not".toList.map Char.toNat] }
  | .format n g, p => { p with format := some (n, g) }
  | .ref j, p => { p with ref := some (fromJS fx rejects strict j) }
  | .other n, p => { p with others := p.others ++ [n] }

def fromList (fx : Fx) (rejects : Str → Bool) (strict : Bool) : JSList → List R
  | .nil => []
  | .cons j js => fromJS fx rejects strict j :: fromList fx rejects strict js

def fromProps (fx : Fx) (rejects : Str → Bool) (strict : Bool) : JSProps → List (Str × R)
  | .nil => []
  | .cons k j ps => (k, fromJS fx rejects strict j) :: fromProps fx rejects strict ps
end

/-! ## const / enum whose members are arbitrary JSON values

`Kw.const` / `Kw.enum` of Model/JsonSchema carry primitive members.  A document may list any JSON value, and JSON Schema
compares an instance with a member by JSON EQUALITY, never by text.  This section has the members as `Json` values:
`jsonEq` (the specification), `fromConstJ` / `fromEnumJ` (what `convertConst` / `convertEnum` build) and `CE.parseBy`
(the verdict of `ParseAny` on the result; `none`: it panics).  On primitive members they coincide with `fromJS` (Proofs/C11 `fromEnumJ_prims`). -/

def Json.ofPrim : Prim → Json
  | .null => .null
  | .bool b => .bool b
  | .num q => .num q
  | .str s => .str s

def Json.toPrim? : Json → Option Prim
  | .null => some .null
  | .bool b => some (.bool b)
  | .num q => some (.num q)
  | .str s => some (.str s)
  | _ => none

mutual
/-- JSON equality, Draft 2020-12 §4.2.2: both null; both true / both false; both strings with the same code points;
    both numbers with the same mathematical value (`Json.num` IS the value: 1, 1.0 and 1e0 are one term); both arrays of
    the same length with equal items in order; both objects with the same keys and equal values, member order
    irrelevant (keys of an object are unique).  A string is never equal to the value its text spells. -/
def jsonEq : Json → Json → Bool
  | .null, y => (match y with | .null => true | _ => false)
  | .bool a, y => (match y with | .bool b => a == b | _ => false)
  | .num a, y => (match y with | .num b => a == b | _ => false)
  | .str a, y => (match y with | .str b => a == b | _ => false)
  | .arr xs, y => (match y with | .arr ys => jsonEqL xs ys | _ => false)
  | .obj fs, y => (match y with | .obj gs => fs.size == gs.size && fieldsIn fs gs | _ => false)
def jsonEqL : JsonList → JsonList → Bool
  | .nil, ys => (match ys with | .nil => true | _ => false)
  | .cons x xs, ys => (match ys with | .cons y ys => jsonEq x y && jsonEqL xs ys | .nil => false)
def fieldsIn : JsonFields → JsonFields → Bool
  | .nil, _ => true
  | .cons k v fs, gs => (match gs.find k with | some w => jsonEq v w | none => false) && fieldsIn fs gs
end

/-- validity against `{"enum": vs}` / `{"const": v}` (the specification side). -/
def enumValidJ (vs : List Json) (x : Json) : Bool := vs.any (fun v => jsonEq x v)
def constValidJ (v : Json) (x : Json) : Bool := jsonEq x v

/-! ### Go values: what `encoding/json` decodes a member / an instance into, and how types/literal.go compares them

A `Json` term doubles as the decoded Go value held in an `any`: `null` = nil, `bool` = bool, `num` = float64 (the value),
`str` = string, `arr` = []any (never a nil slice), `obj` = map[string]any. -/

/-- `reflect.Value.Comparable()` of a decoded value: false for []any / map[string]any. -/
def Json.goComparable : Json → Bool
  | .arr _ => false
  | .obj _ => false
  | _ => true

mutual
/-- `reflect.DeepEqual` on decoded values: different dynamic types are unequal; nil, bool, float64, string by `==`;
    []any: the same length and the items deeply equal in order; map[string]any: the same length and every key of the
    FIRST map present in the second with a deeply equal value (`deepValueEqual`, case Map: `range v1.MapKeys()`). -/
def deepEqual : Json → Json → Bool
  | .null, y => (match y with | .null => true | _ => false)
  | .bool a, y => (match y with | .bool b => a == b | _ => false)
  | .num a, y => (match y with | .num b => a == b | _ => false)
  | .str a, y => (match y with | .str b => a == b | _ => false)
  | .arr xs, y => (match y with | .arr ys => deepEqualL xs ys | _ => false)
  | .obj fs, y => (match y with | .obj gs => fs.size == gs.size && deepFields fs gs | _ => false)
def deepEqualL : JsonList → JsonList → Bool
  | .nil, ys => (match ys with | .nil => true | _ => false)
  | .cons x xs, ys => (match ys with | .cons y ys => deepEqual x y && deepEqualL xs ys | .nil => false)
def deepFields : JsonFields → JsonFields → Bool
  | .nil, _ => true
  | .cons k v fs, gs => (match gs.find k with | some w => deepEqual v w | none => false) && deepFields fs gs
end

/-- `a == b` on two `any` values.  `none` = the run-time panic "comparing uncomparable type": both operands hold the
    same uncomparable dynamic type.  Different dynamic types are unequal without a panic. -/
def ifaceEq : Json → Json → Option Bool
  | .arr _, .arr _ => none
  | .obj _, .obj _ => none
  | .null, .null => some true
  | .bool a, .bool b => some (a == b)
  | .num a, .num b => some (a == b)
  | .str a, .str b => some (a == b)
  | _, _ => some false

/-- `literalEqual(a, b)` of types/literal.go (after e48d4b1): two valid (non-nil) values of which at least one is not
    comparable are compared with `reflect.DeepEqual`, everything else with `==`. -/
def literalEqual (a b : Json) : Option Bool :=
  if !a.isNull && !b.isNull && (!a.goComparable || !b.goComparable) then some (deepEqual a b) else ifaceEq a b

/-- `slices.ContainsFunc(values, func(x) bool { return eq(x, v) })`: members in order, the first equal one ends the
    search, a panic propagates. -/
def containsBy (eq : Json → Json → Option Bool) : List Json → Json → Option Bool
  | [], _ => some false
  | m :: ms, v =>
      match eq m v with
      | none => none
      | some true => some true
      | some false => containsBy eq ms v

/-- the schema `literalSchema` builds for one const / enum member. -/
inductive LitZ
  | nil                    -- types.Nil()
  | lit (v : Json)         -- types.Literal(v): `Values = [v]`, v the decoded Go value (scalar, []any or map[string]any)

/-- `literalSchema`. -/
def literalSchemaJ : Json → LitZ
  | .null => .nil
  | v => .lit v

/-- the schemas `convertConst` / `convertEnum` return. -/
inductive CE
  | one (l : LitZ)             -- convertConst
  | enum (strs : List Str)     -- all members strings: types.Enum(strs…)
  | union (ls : List LitZ)     -- types.Union of the members' literal schemas, in the listed order, repeats included
  | any                        -- empty enum: Unknown()

def allStrsJ : List Json → Option (List Str)
  | [] => some []
  | .str s :: r => (allStrsJ r).map (s :: ·)
  | _ => none

/-- `convertConst`. -/
def fromConstJ (v : Json) : CE := .one (literalSchemaJ v)

/-- `convertEnum`. -/
def fromEnumJ : List Json → CE
  | [] => .any
  | v :: vs =>
      match allStrsJ (v :: vs) with
      | some strs => .enum strs
      | none => .union ((v :: vs).map literalSchemaJ)

/-- Parse verdict of one literal schema, `eq` being `Contains`' comparison (`none` = ParseAny panics).  Nil accepts nil
    only; `ParsePrimitive` rejects a nil input of a non-nilable Literal before `validateLiteral` / `Contains` runs. -/
def LitZ.parseBy (eq : Json → Json → Option Bool) : LitZ → Json → Option Bool
  | .nil, x => some x.isNull
  | .lit v, x => if x.isNull then some false else containsBy eq [v] x

/-- union members are tried in the listed order; the first success ends the search, a panic propagates. -/
def unionParseBy (eq : Json → Json → Option Bool) : List LitZ → Json → Option Bool
  | [], _ => some false
  | l :: ls, x =>
      match l.parseBy eq x with
      | none => none
      | some true => some true
      | some false => unionParseBy eq ls x

/-- ParseAny verdict (`some true` accepted, `some false` rejected, `none` panic) of a const / enum schema on a decoded
    instance.  A Union rejects nil before its members are asked (finding nullable-union). -/
def CE.parseBy (eq : Json → Json → Option Bool) : CE → Json → Option Bool
  | .one l, x => l.parseBy eq x
  | .enum strs, x => some (match x with | .str s => strs.contains s | _ => false)
  | .union ls, x => if x.isNull then some false else unionParseBy eq ls x
  | .any, _ => some true

/-- the code as it stands. -/
def CE.parse (c : CE) (x : Json) : Option Bool := c.parseBy literalEqual x

/-- the code before e48d4b1 (`slices.Contains`, i.e. `==`). -/
def CE.legacyParse (c : CE) (x : Json) : Option Bool := c.parseBy ifaceEq x

/-- the `S` term of the same schema, where every literal member is a scalar (how `fromJS` sees these documents). -/
def LitZ.toS? : LitZ → Option S
  | .nil => some .nil
  | .lit v => v.toPrim?.map (fun p => .lit [p])

def litsToS? : List LitZ → Option (List S)
  | [] => some []
  | l :: ls => match l.toS?, litsToS? ls with
      | some s, some ss => some (s :: ss)
      | _, _ => none

def CE.toS? : CE → Option S
  | .one l => l.toS?
  | .enum strs => some (.enum strs)
  | .union ls => (litsToS? ls).map (fun ss => .union (slistOf ss))
  | .any => some .any

/-! ### the round-trip document of a const / enum schema (`convertLiteral` / `convertEnum` / `convertUnion` of to.go) -/

/-- the `type` keyword `convertLiteral` derives from the FIRST value (`switch values[0].(type)`): string / number /
    boolean; no `type` for anything else. -/
def litTypeOK (first x : Json) : Bool :=
  match first with
  | .str _ => (match x with | .str _ => true | _ => false)
  | .num _ => (match x with | .num _ => true | _ => false)
  | .bool _ => (match x with | .bool _ => true | _ => false)
  | _ => true

/-- validity against the document `convertLiteral` emits for a one-value `Literal(v)`.  A value that is a slice is
    FLATTENED into its items ("a single slice literal represents multiple literal values"): `[1]` becomes
    `{const: 1, type: number}`, `[1,"a"]` becomes `{enum: [1,"a"], type: number}`, `[]` becomes `{}`. -/
def rtLitValid (v x : Json) : Bool :=
  let values := match v with | .arr xs => xs.toList | v => [v]
  match values with
  | [] => true
  | a :: _ => litTypeOK a x && values.any (fun w => jsonEq x w)

def LitZ.rtValid : LitZ → Json → Bool
  | .nil, x => x.isNull                       -- {type: null}
  | .lit v, x => rtLitValid v x

/-- validity against `ToJSONSchema` of the const / enum schema: a Union is the `anyOf` of its members' documents. -/
def CE.rtValid : CE → Json → Bool
  | .one l, x => l.rtValid x
  | .enum strs, x => (match x with | .str s => strs.contains s | _ => false)
  | .union ls, x => ls.any (fun l => l.rtValid x)
  | .any, _ => true

/-! ### C11-nullable-union on the `CE` view

`convertEnum`'s Union of literal schemas goes through `unionOf`: with the patch it is Nilable when a member is JSON null
(`literalSchema(nil)` = `Nil()`, the only literal schema that admits nil).  `CE` stays the schema without the flag. -/

def enumNilable (fx : Fx) (vs : List Json) : Bool := fx.nullUnion && (allStrsJ vs).isNone && vs.any (fun v => v.isNull)

/-- ParseAny verdict of `convertEnum`'s result on the tree `fx`. -/
def parseEnumFx (fx : Fx) (vs : List Json) (x : Json) : Option Bool :=
  if enumNilable fx vs && x.isNull then some true else (fromEnumJ vs).parse x

/-- validity against its round-trip document (`anyOf [<the union's document>, {type: null}]` when Nilable). -/
def rtEnumFx (fx : Fx) (vs : List Json) (x : Json) : Bool := (enumNilable fx vs && x.isNull) || (fromEnumJ vs).rtValid x

def Json.isArr : Json → Bool
  | .arr _ => true
  | _ => false

/-- objects of a JSON value have unique keys (a Go map has; `Json.obj` is an association list). -/
def uniqList : List Str → Bool
  | [] => true
  | k :: ks => !ks.contains k && uniqList ks

def JsonFields.keys : JsonFields → List Str
  | .nil => []
  | .cons k _ fs => k :: fs.keys

mutual
def uniqKeys : Json → Bool
  | .arr xs => uniqKeysL xs
  | .obj fs => uniqList fs.keys && uniqKeysF fs
  | _ => true
def uniqKeysL : JsonList → Bool
  | .nil => true
  | .cons x xs => uniqKeys x && uniqKeysL xs
def uniqKeysF : JsonFields → Bool
  | .nil => true
  | .cons _ v fs => uniqKeys v && uniqKeysF fs
end

/-! ## plain decoding: every JSON number reaches the schema as a float64 -/

mutual
def plainify : S → S
  | .int _ _ => .never
  | .opt s => .opt (plainify s)
  | .nul s => .nul (plainify s)
  | .obj m ca pt cks sh => .obj m (plainifyO ca) pt cks (plainifySh sh)
  | .slice e cks => .slice (plainify e) cks
  | .arr r cks it => .arr (plainifyO r) cks (plainifyL it)
  | .tup r cks it => .tup (plainifyO r) cks (plainifyL it)
  | .record k v cks => .record (plainify k) (plainify v) cks
  | .union ms => .union (plainifyL ms)
  | .xor ms => .xor (plainifyL ms)
  | .and l r => .and (plainify l) (plainify r)
  | s => s
def plainifyO : SOpt → SOpt
  | .none => .none
  | .some s => .some (plainify s)
def plainifyL : SList → SList
  | .nil => .nil
  | .cons s ss => .cons (plainify s) (plainifyL ss)
def plainifySh : Shape → Shape
  | .nil => .nil
  | .cons k s r => .cons k (plainify s) (plainifySh r)
end

/-- Parse verdict of the produced schema on an `encoding/json`-decoded instance. -/
def acceptsDecoded (s : S) (x : Json) : Bool := accepts (plainify s) x

/-! ## `J1` — the structured fragment of documents the equivalence theorem speaks about -/

mutual
inductive J1
  | str (mn mx : Option Nat) (pat : Option Pat)
  | num (mn mx emn emx mul : Option Int)               -- quarters
  | bool | null | any | tru | fls
  | arr (items : J1) (mn mx : Option Nat)
  | tup (items : J1List)                               -- prefixItems with minItems = maxItems = their number
  | obj (props : J1Props) (closed : Bool)              -- every property required; additionalProperties false / absent
  | objC (props : J1Props) (ca : J1)                   -- additionalProperties: <schema>
  | rcd (v : J1)                                       -- {type: object, additionalProperties: v}
  | const (p : Prim)
  | enumS (vs : List Str)
  | enumP (ps : List Prim)
  | anyOf (ms : J1List) | oneOf (ms : J1List) | allOf2 (a b : J1)
  | ref (d : J1)
  | fmt (name : Str) (good : List Str)
inductive J1List
  | nil | cons (d : J1) (ds : J1List)
inductive J1Props
  | nil | cons (k : Str) (d : J1) (r : J1Props)
end

def J1List.length : J1List → Nat
  | .nil => 0
  | .cons _ ds => ds.length + 1

def J1Props.keys : J1Props → List Str
  | .nil => []
  | .cons k _ r => k :: r.keys

mutual
/-- the JSON Schema document (canonical keyword order). -/
def J1.doc : J1 → JS
  | .str mn mx pat => .node (.ofList ([.type .string] ++ optKw mn .minLength ++ optKw mx .maxLength ++ optKw pat .pattern))
  | .num mn mx emn emx mul =>
      .node (.ofList ([.type .number] ++ optKw mn .minimum ++ optKw mx .maximum ++ optKw emn .exclusiveMinimum
        ++ optKw emx .exclusiveMaximum ++ optKw mul .multipleOf))
  | .bool => .node (.ofList [.type .boolean])
  | .null => .node (.ofList [.type .null])
  | .any => .node .nil
  | .tru => .bool true
  | .fls => .bool false
  | .arr it mn mx => .node (.ofList ([.type .array, .items it.doc] ++ optKw mn .minItems ++ optKw mx .maxItems))
  | .tup items =>
      .node (.ofList [.type .array, .prefixItems (docList items), .minItems items.length, .maxItems items.length])
  | .obj props closed =>
      .node (.ofList ([.type .object, .properties (docProps props), .required props.keys]
        ++ (if closed then [.additionalProperties (.bool false)] else [])))
  | .objC props ca =>
      .node (.ofList [.type .object, .properties (docProps props), .required props.keys, .additionalProperties ca.doc])
  | .rcd v => .node (.ofList [.type .object, .additionalProperties v.doc])
  | .const p => .node (.ofList [.const p])
  | .enumS vs => .node (.ofList [.enum (vs.map .str)])
  | .enumP ps => .node (.ofList [.enum ps])
  | .anyOf ms => .node (.ofList [.anyOf (docList ms)])
  | .oneOf ms => .node (.ofList [.oneOf (docList ms)])
  | .allOf2 a b => .node (.ofList [.allOf (.cons a.doc (.cons b.doc .nil))])
  | .ref d => .node (.ofList [.ref d.doc])
  | .fmt name good => .node (.ofList [.type .string, .format name good])
def docList : J1List → JSList
  | .nil => .nil
  | .cons d ds => .cons d.doc (docList ds)
def docProps : J1Props → JSProps
  | .nil => .nil
  | .cons k d r => .cons k d.doc (docProps r)
end

def litsOf : List Prim → SList
  | [] => .nil
  | p :: ps => .cons (.lit [p]) (litsOf ps)

mutual
/-- the schema FromJSONSchema produces for the document (what `fromJS` computes — theorem `Gozod.C11.conv`). -/
def fromJ1 (fx : Fx) : J1 → S
  | .str mn mx pat => .str (optL mn .min ++ optL mx .max ++ optL pat patCk)
  | .num mn mx emn emx mul => .flt (optL mn .gte ++ optL mx .lte ++ optL emn .gt ++ optL emx .lt ++ optL mul .mul)
  | .bool => .bool
  | .null => .nil
  | .any => .any
  | .tru => .any
  | .fls => .never
  | .arr it mn mx => .slice (fromJ1 fx it) (optL mn .min ++ optL mx .max)
  | .tup items => .tup .none [] (fromJ1L fx items)
  | .obj props closed => .obj (if closed then .strict else openMode fx) .none false [] (fromJ1P fx props)
  | .objC props ca => .obj .loose (.some (fromJ1 fx ca)) false [] (fromJ1P fx props)
  | .rcd v => .record (.str []) (fromJ1 fx v) []
  | .const p => match p with | .null => .nil | p => .lit [p]
  | .enumS vs => .enum vs
  | .enumP ps => .union (litsOf ps)
  | .anyOf ms => .union (fromJ1L fx ms)
  | .oneOf ms => .xor (fromJ1L fx ms)
  | .allOf2 a b => .and (fromJ1 fx a) (fromJ1 fx b)
  | .ref d => fromJ1 fx d
  | .fmt _ good => .enum good
def fromJ1L (fx : Fx) : J1List → SList
  | .nil => .nil
  | .cons d ds => .cons (fromJ1 fx d) (fromJ1L fx ds)
def fromJ1P (fx : Fx) : J1Props → Shape
  | .nil => .nil
  | .cons k d r => .cons k (fromJ1 fx d) (fromJ1P fx r)
end

mutual
/-- the fragment on which the produced schema accepts exactly the valid instances.  Outside it:
    `integer` (not in `J1` at all), null-admitting union members, optional properties, open tuples,
    sibling keywords, … — the finding classes of notes/C11.md. -/
def good (fx : Fx) : J1 → Bool
  | .str _ _ _ => true
  | .num _ _ _ _ mul => (match mul with | some m => decide (0 < m) | none => true)
  | .arr it _ _ => good fx it
  | .tup items => goodL fx items && decide (0 < items.length)
  | .obj props _ => goodP fx props && !props.keys.isEmpty
  | .objC props ca => goodP fx props && !props.keys.isEmpty && good fx ca && !(isBoolDoc ca)
  | .rcd v => good fx v
  | .const _ => true
  | .enumS vs => !vs.isEmpty
  | .enumP ps => !ps.isEmpty && (allStrs ps).isNone && !ps.contains .null
  | .anyOf ms => goodM fx ms && decide (2 ≤ ms.length)
  | .oneOf ms => goodM fx ms && decide (2 ≤ ms.length)
  | .allOf2 a b =>
      good fx a && good fx b && !(fromJ1 fx a).acceptsNull && !(fromJ1 fx b).acceptsNull
      && !(fromJ1 fx a).isStrictObj && !(fromJ1 fx b).isStrictObj
  | .ref d => good fx d
  | .fmt name good => knownFormats.contains name && !good.isEmpty
  | _ => true
def goodL (fx : Fx) : J1List → Bool
  | .nil => true
  | .cons d ds => good fx d && goodL fx ds
/-- union members: the union rejects nil before its members are asked. -/
def goodM (fx : Fx) : J1List → Bool
  | .nil => true
  | .cons d ds => good fx d && !(fromJ1 fx d).acceptsNull && goodM fx ds
def goodP (fx : Fx) : J1Props → Bool
  | .nil => true
  | .cons _ d r => good fx d && goodP fx r
/-- `additionalProperties: true/false` take other paths of convertObject. -/
def isBoolDoc : J1 → Bool
  | .tru => true
  | .fls => true
  | _ => false
end

end Gozod.Jsc
