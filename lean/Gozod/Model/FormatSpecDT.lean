/-
  Gozod.Model.FormatSpecDT — a date-time format is a calendar date (exactly ten bytes) followed by a tail:
  'T', the time of day, the zone.  The tail automata are the date-time automata of Model/FormatSpec.lean
  started just after the date; `C20.dateThen_split` (Proofs/C20DateTime.lean) proves

      (date-time).run s = isoDate.run (s.take 10) && (tail).run (s.drop 10)

  so that the theorem about the date pattern and a statement about the tail of each option set
  give the theorem for every option set.   Core-only.
-/
import Gozod.Model.FormatSpec
namespace Gozod
namespace Fmt

/-- the state in which every date-time automaton is after a complete date -/
def afterDate : DateSt := ⟨10, 0, 0, 0, 0⟩

/-- a calendar date, then whatever `tstep` / `acc` describe, started in `start` -/
def dateThen (sup : List Nat) (tstep : DateSt → Nat → Option DateSt) (acc : DateSt → Bool) (start : DateSt) : Spec where
  State := DateSt
  beq := DateSt.beq
  beq_eq := DateSt.beq_eq
  init := start
  support := sup
  step := fun q c => if q.pos < 10 then dateStep 10000 q c else tstep q c
  acc := acc
  code := DateSt.code
  pp := DateSt.pp

/-- what follows the date in `IsoDateTime(IsoDatetimeOptions{Precision, Offset, Local})` -/
def dtTail (p : Prec) (offset loc : Bool) : Spec := { isoDateTimeOpt p offset loc with init := afterDate }

/-- what follows the date in RFC 3339 (`optSec = true`: seconds optional) -/
def dtTailRfc (optSec : Bool) : Spec := { isoDateTime optSec with init := afterDate }

end Fmt

namespace Re
/-- `r` is `head` followed by something -/
def splitsAs (r head : Re) : Bool :=
  match r with
  | seq a _ => beq a head
  | _ => false

/-- what follows the first factor of a concatenation -/
def seqTail : Re → Re
  | seq _ b => b
  | _ => eps
end Re
end Gozod
