/-
  Gozod.Model.FormatSpecV6E — the excluded region of the `_partial` theorems about `regex.IPv6` / `regex.CIDRv6` on the
  strings that contain a dotted quad (Proofs/C20V6Dot.lean).

  `Fmt.ipv6QuadDefect` accepts the strings that

    * have the outline of an RFC 4291 address whose last 32 bits are written as a dotted quad — hex groups and at
      most one "::" as the RFC allows (six groups before the quad, or at most five with a "::"), then four
      octets of one to three decimal digits each (their VALUE is not looked at) — and
    * either contain an octet of two or more digits that begins with '0'            (defect "v4-leading-zero"),
      or whose hex part is not one of the four outlines the library's pattern knows (defect "embedded-v4"):
          "::"                         directly before the quad
          "::ffff:"                    (lower case)
          "::ffff:" zeros ":"          (one to four '0')
          one to four groups, then "::" directly before the quad.

  Outside this region (and without a zone, '%') the patterns are proved to accept exactly the RFC 4291 addresses:
  every other string with a '.', well-formed or not, is covered.  Kept in its own file: an edit here must not
  invalidate the certificates that only depend on FormatSpecV6.lean.   Core-only.
-/
import Gozod.Model.FormatSpecV6
namespace Gozod
namespace Fmt

structure V6ESt where
  /-- as in `V6St`: 0 start, 1 one leading ':', 2 just after "::", 3 inside a group, 4 after the ':' that ends a
      group, 5 inside the dotted quad, 6 inside the prefix length -/
  ph : Nat
  /-- complete groups so far -/
  g : Nat
  /-- 1 once "::" was read -/
  ell : Nat
  /-- characters of the current group / octet / prefix length -/
  n : Nat
  /-- dots read -/
  k : Nat
  /-- groups before the "::" -/
  pre : Nat
  /-- the current group consists of 'f' only / of '0' only / of decimal digits only -/
  cf : Bool
  cz : Bool
  dec : Bool
  /-- the current group / octet begins with '0' -/
  z0 : Bool
  /-- after a leading "::": the first group was "ffff", the second one was all zeros -/
  ff : Bool
  zz : Bool
  /-- a defect was seen: (set at the first '.') the outline of the hex part is not one the pattern knows;
      an octet of two or more digits began with '0' -/
  lz : Bool
  deriving DecidableEq, Repr

def V6ESt.beq (a b : V6ESt) : Bool :=
  Nat.beq a.ph b.ph && Nat.beq a.g b.g && Nat.beq a.ell b.ell && Nat.beq a.n b.n && Nat.beq a.k b.k && Nat.beq a.pre b.pre &&
  (a.cf == b.cf) && (a.cz == b.cz) && (a.dec == b.dec) && (a.z0 == b.z0) && (a.ff == b.ff) && (a.zz == b.zz) && (a.lz == b.lz)
theorem V6ESt.beq_eq (a b : V6ESt) (h : a.beq b = true) : a = b := by
  cases a; cases b; simp [V6ESt.beq] at h; simp [h]
def V6ESt.pp (q : V6ESt) : String :=
  s!"(Fmt.V6ESt.mk {q.ph} {q.g} {q.ell} {q.n} {q.k} {q.pre} {q.cf} {q.cz} {q.dec} {q.z0} {q.ff} {q.zz} {q.lz})"
def bit (b : Bool) : Nat := if b then 1 else 0
def V6ESt.code (q : V6ESt) : Nat :=
  ((((((((((((q.ph * 9 + q.g) * 2 + q.ell) * 5 + q.n) * 4 + q.k) * 9 + q.pre) * 2 + bit q.cf) * 2 + bit q.cz) * 2 + bit q.dec) * 2 + bit q.z0)
    * 2 + bit q.ff) * 2 + bit q.zz) * 2 + bit q.lz)

/-- the hex part read so far is one of the four outlines the library's pattern knows before a dotted quad -/
def V6ESt.knownOutline (q : V6ESt) : Bool :=
  q.ell = 1 && ((q.pre = 0 && (q.g = 0 || (q.g = 1 && q.ff) || (q.g = 2 && q.ff && q.zz))) ||
                (1 ≤ q.pre && q.pre ≤ 4 && q.g = q.pre))

def V6ESt.init : V6ESt := ⟨0, 0, 0, 0, 0, 0, false, false, false, false, false, false, false⟩

def V6ESt.startGroup (q : V6ESt) (c : Nat) : V6ESt :=
  { q with ph := 3, n := 1, cf := c = 102, cz := c = 48, dec := isDigit c, z0 := c = 48 }

/-- `prefixLen`: also read '/' and a prefix length of one to three digits (CIDRv6) -/
def quadDefectStep (prefixLen : Bool) (q : V6ESt) (c : Nat) : Option V6ESt :=
  if q.ph = 6 then (if isDigit c ∧ q.n < 3 then some { q with n := q.n + 1 } else none)
  else if c = 47 then (if prefixLen ∧ q.ph = 5 ∧ q.k = 3 ∧ q.n ≥ 1 then some { q with ph := 6, n := 0 } else none)
  else if q.ph = 5 then
    (if c = 46 then (if q.n ≥ 1 ∧ q.k < 3 then some { q with k := q.k + 1, n := 0, z0 := false } else none)
     else if isDigit c then
       (if q.n = 0 then some { q with n := 1, z0 := c = 48 }
        else if q.n < 3 then some { q with n := q.n + 1, lz := q.lz || q.z0 }
        else none)
     else none)
  else if c = 58 then
    (if q.ph = 0 then some { q with ph := 1 }
     else if q.ph = 1 then some { q with ph := 2, ell := 1, pre := 0 }
     else if q.ph = 3 then
       (if (q.ell = 0 ∧ q.g + 1 ≤ 7) ∨ (q.ell = 1 ∧ q.g + 1 ≤ 6) then
          some { q with ph := 4, g := q.g + 1, n := 0,
                        ff := if q.ell = 1 ∧ q.pre = 0 ∧ q.g = 0 then (q.cf && q.n = 4) else q.ff,
                        zz := if q.ell = 1 ∧ q.pre = 0 ∧ q.g = 1 then q.cz else q.zz }
        else none)
     else if q.ph = 4 then (if q.ell = 0 then some { q with ph := 2, ell := 1, pre := q.g } else none)
     else none)
  else if c = 46 then
    (if q.ph = 3 ∧ q.dec ∧ q.n ≤ 3 ∧ quadMayStart q.g q.ell then
       -- from here on only the octets matter: everything about the hex part is summed up in `lz`
       some { V6ESt.init with ph := 5, k := 1, lz := (q.z0 && q.n ≥ 2) || !q.knownOutline }
     else none)
  else if isHex c then
    (if q.ph = 0 ∨ q.ph = 4 then some (q.startGroup c)
     else if q.ph = 2 then (if q.g ≤ 6 then some (q.startGroup c) else none)
     else if q.ph = 3 then
       (if q.n < 4 then some { q with n := q.n + 1, cf := q.cf && c = 102, cz := q.cz && c = 48, dec := q.dec && isDigit c } else none)
     else none)
  else none

/-- IPv6 strings ending in a dotted quad on which `regex.IPv6` is wrong (or which are at least of a kind it is wrong on) -/
def ipv6QuadDefect : Spec where
  State := V6ESt
  beq := V6ESt.beq
  beq_eq := V6ESt.beq_eq
  init := V6ESt.init
  support := ipv6Support
  step := quadDefectStep false
  acc := fun q => q.ph = 5 && q.k = 3 && q.n ≥ 1 && q.lz
  code := V6ESt.code
  pp := V6ESt.pp

/-- the same for CIDRv6: such an address, '/', one to three digits -/
def cidrv6QuadDefect : Spec where
  State := V6ESt
  beq := V6ESt.beq
  beq_eq := V6ESt.beq_eq
  init := V6ESt.init
  support := 47 :: ipv6Support
  step := quadDefectStep true
  acc := fun q => q.ph = 6 && q.n ≥ 1 && q.lz
  code := V6ESt.code
  pp := V6ESt.pp

/-! ### the definition with the octet value kept up to what matters

  While an octet is read only this matters about its value `v` so far: is it 0 (no digit may follow), and which
  digits keep it ≤ 255 (all after 1…24, '0'–'5' after 25, none after 26…).  `octNorm` maps `v` to the least value of
  its class; `ipv6Q` / `cidrv6Q` are the definitions with `v` normalised after every step (`C20.ipv6_octet_quot`:
  they accept the same strings).  The driver's searches `ipv6_dot`, `cidrv6_dot` run against these: 8 octet values instead of 256. -/

def octNorm (v : Nat) : Nat :=
  if v ≤ 2 then v else if v ≤ 9 then 3 else if v ≤ 24 then 10 else if v = 25 then 25 else if v ≤ 99 then 26
  else if v ≤ 255 then 100 else 256

def V6St.norm (q : V6St) : V6St := if q.ph = 3 ∨ q.ph = 5 then { q with v := octNorm q.v } else q

def ipv6Q : Spec := { ipv6 with step := fun q c => (ipv6Step q c).map V6St.norm }
def cidrv6Q : Spec := { cidrv6 with step := fun q c => (cidrv6Step q c).map V6St.norm }

end Fmt
end Gozod
